import AbraProofs.Lemmas.Analysis
import AbraProofs.Lemmas.Arena
import AbraProofs.Lemmas.Arr
import AbraProofs.Lemmas.ArrClone
import AbraProofs.Lemmas.Asm
import AbraProofs.Lemmas.CallOrder
import AbraProofs.Lemmas.CompileSim
import AbraProofs.Lemmas.CompileSim2
import AbraProofs.Lemmas.CompileSim3
import AbraProofs.Lemmas.Completion
import AbraProofs.Lemmas.F64
import AbraProofs.Lemmas.GC
import AbraProofs.Lemmas.GCCycle
import AbraProofs.Lemmas.GCPacing
import AbraProofs.Lemmas.GCPacingBound
import AbraProofs.Lemmas.GCPacingRun
import AbraProofs.Lemmas.GCProgress
import AbraProofs.Lemmas.HashMapChain
import AbraProofs.Lemmas.HashMapInsert
import AbraProofs.Lemmas.HashMapInv
import AbraProofs.Lemmas.HashMapRemove
import AbraProofs.Lemmas.HashMapResize
import AbraProofs.Lemmas.Heap
import AbraProofs.Lemmas.HeapCopy
import AbraProofs.Lemmas.HeapIso
import AbraProofs.Lemmas.IdSet
import AbraProofs.Lemmas.IdSetOps
import AbraProofs.Lemmas.Int64
import AbraProofs.Lemmas.Lex
import AbraProofs.Lemmas.LexLocal
import AbraProofs.Lemmas.LexSteps
import AbraProofs.Lemmas.ListIndex
import AbraProofs.Lemmas.Marshal
import AbraProofs.Lemmas.Mono
import AbraProofs.Lemmas.Names
import AbraProofs.Lemmas.PatCompile
import AbraProofs.Lemmas.PatMatrix
import AbraProofs.Lemmas.PatMatrixTerm
import AbraProofs.Lemmas.Pratt
import AbraProofs.Lemmas.PrattEval
import AbraProofs.Lemmas.PreludeCmp
import AbraProofs.Lemmas.Sched
import AbraProofs.Lemmas.SchedChan
import AbraProofs.Lemmas.SchedSolo
import AbraProofs.Lemmas.SchedStatus
import AbraProofs.Lemmas.Sort
import AbraProofs.Lemmas.SortLoops
import AbraProofs.Lemmas.SpanTree
import AbraProofs.Lemmas.SpanTreeWF
import AbraProofs.Lemmas.SrcMap
import AbraProofs.Lemmas.StrOps
import AbraProofs.Lemmas.VMCore
import AbraProofs.Properties.C01
import AbraProofs.Properties.C02
import AbraProofs.Properties.C03
import AbraProofs.Properties.C04
import AbraProofs.Properties.C05
import AbraProofs.Properties.C06
import AbraProofs.Properties.C07
import AbraProofs.Properties.C08
import AbraProofs.Properties.C09
import AbraProofs.Properties.C10
import AbraProofs.Properties.C11
import AbraProofs.Properties.C12
import AbraProofs.Properties.C13
import AbraProofs.Properties.C14
import AbraProofs.Properties.C15
import AbraProofs.Properties.C16
import AbraProofs.Properties.C17
import AbraProofs.Properties.C18
import AbraProofs.Properties.C19
import AbraProofs.Properties.C20
import AbraProofs.Properties.C21
import AbraProofs.Properties.C22
import AbraProofs.Properties.C23
import AbraProofs.Properties.C24
import AbraProofs.Properties.C25
import AbraProofs.Properties.C26
import AbraProofs.Properties.C27
import AbraProofs.Properties.C28
import AbraProofs.Properties.C29
import AbraProofs.Properties.C30
import AbraProofs.Properties.C31
import AbraProofs.Properties.C32
import AbraProofs.Properties.C33
import AbraProofs.Properties.C34
import AbraProofs.Properties.C35
import AbraProofs.Properties.C36
import AbraProofs.Properties.C37
import AbraProofs.Properties.C38
import AbraProofs.Audit
