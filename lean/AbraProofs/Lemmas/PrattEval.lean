import AbraProofs.Lemmas.Pratt
import AbraModel.PrattPrint
/-!
Fuel-free evaluation relations for the Pratt model ("some amount of fuel gives this non-`fuel`
result") and one composition lemma per branch of the parser: the users of these lemmas (the round
trip of C31, the separator lists of C29) never choose an amount of fuel.
-/
namespace Abra.Pratt

/-- `PB`, `LP`, `PT`, `PL`: `parseBp`, `loop`, `parseTerm`, `parseList` on these arguments answer `res`
    for some amount of fuel, and `res` is not `fuel` (so, by `parseBp_lift` …, for every larger one) -/
def PB (fold : FoldMode) (bp : Nat) (toks : List Tok) (res : Res Expr) : Prop :=
  res ≠ .fuel ∧ ∃ f, parseBp fold f bp toks = res
def LP (fold : FoldMode) (bp : Nat) (lhs : Expr) (toks : List Tok) (res : Res Expr) : Prop :=
  res ≠ .fuel ∧ ∃ f, loop fold f bp lhs toks = res
def PT (fold : FoldMode) (toks : List Tok) (res : Res Expr) : Prop :=
  res ≠ .fuel ∧ ∃ f, parseTerm fold f toks = res
def PL (fold : FoldMode) (close : Tok) (toks : List Tok) (res : Res Args) : Prop :=
  res ≠ .fuel ∧ ∃ f, parseList fold f close toks = res

theorem ok_ne_fuel {α : Type} {v : α} {r : List Tok} : (Res.ok v r : Res α) ≠ .fuel := nofun

theorem PB.parseExprWith {fold : FoldMode} {toks : List Tok} {res : Res Expr}
    (h : PB fold 0 (skipNl toks) res) : parseExprWith fold toks = res := by
  obtain ⟨hne, f, hf⟩ := h
  have a := parseBp_lift hf hne (Nat.le_max_left f (fuelFor toks))
  have b := parseBp_lift rfl (fuel_suffices fold toks) (Nat.le_max_right f (fuelFor toks))
  exact b.symm.trans a

theorem PB.of_prefix {fold : FoldMode} {bp : Nat} {toks rest r : List Tok} {op : PrefixOp} {rhs : Expr}
    {res : Res Expr} (hs : skipNl toks = toks) (hp : prefixOp? fold toks = some (op, rest))
    (h1 : PB fold op.prec rest (.ok rhs r)) (h2 : LP fold bp (Expr.unop op rhs) r res) :
    PB fold bp toks res := by
  obtain ⟨_, f1, e1⟩ := h1
  obtain ⟨hne, f2, e2⟩ := h2
  refine ⟨hne, max f1 f2 + 1, ?_⟩
  rw [parseBp, hs, hp]
  simp only [parseBp_lift e1 ok_ne_fuel (Nat.le_max_left f1 f2)]
  exact loop_lift e2 hne (Nat.le_max_right f1 f2)

theorem PB.of_term {fold : FoldMode} {bp : Nat} {toks r : List Tok} {lhs : Expr}
    {res : Res Expr} (hs : skipNl toks = toks) (hp : prefixOp? fold toks = none)
    (h1 : PT fold toks (.ok lhs r)) (h2 : LP fold bp lhs r res) :
    PB fold bp toks res := by
  obtain ⟨_, f1, e1⟩ := h1
  obtain ⟨hne, f2, e2⟩ := h2
  refine ⟨hne, max f1 f2 + 1, ?_⟩
  rw [parseBp, hs, hp]
  simp only [parseTerm_lift e1 ok_ne_fuel (Nat.le_max_left f1 f2)]
  exact loop_lift e2 hne (Nat.le_max_right f1 f2)

theorem PT.atom {fold : FoldMode} {toks rest : List Tok} {a : Atom}
    (hs : skipNl toks = .atom a :: rest) (hr : ∀ n, a = .int n → n ≤ I64_MAX) :
    PT fold toks (.ok (.atom a) rest) := by
  refine ⟨ok_ne_fuel, 1, ?_⟩
  rw [parseTerm, hs]
  cases a with
  | int n => exact if_pos (hr n rfl)
  | _ => rfl

theorem PT.negLit {fold : FoldMode} {toks rest : List Tok} {a : Atom}
    (hs : skipNl toks = .op .sub :: .atom a :: rest) (hn : a.isNum = true)
    (hr : ∀ n, a = .int n → n ≤ I64_MAX + 1) :
    PT fold toks (.ok (.neg (.atom a)) rest) := by
  refine ⟨ok_ne_fuel, 1, ?_⟩
  rw [parseTerm, hs]
  cases a with
  | int n => exact if_pos (hr n rfl)
  | float s => rfl
  | _ => cases hn

theorem PT.paren {fold : FoldMode} {toks rest r : List Tok} {e : Expr}
    (hs : skipNl toks = .lparen :: rest) (h : PL fold .rparen rest (.ok (.cons e .nil) r)) :
    PT fold toks (.ok e r) := by
  obtain ⟨_, f, e1⟩ := h
  refine ⟨ok_ne_fuel, f + 1, ?_⟩
  rw [parseTerm, hs]
  simp only [e1]

theorem PT.tuple {fold : FoldMode} {toks rest r : List Tok} {es : Args}
    (hs : skipNl toks = .lparen :: rest) (h : PL fold .rparen rest (.ok es r)) (hlen : 2 ≤ es.length) :
    PT fold toks (.ok (.tuple es) r) := by
  obtain ⟨_, f, e1⟩ := h
  refine ⟨ok_ne_fuel, f + 1, ?_⟩
  rw [parseTerm, hs]
  simp only [e1]
  match es, hlen with
  | .cons a (.cons b c), _ => rfl

theorem PT.array {fold : FoldMode} {toks rest r : List Tok} {es : Args}
    (hs : skipNl toks = .lbrack :: rest) (h : PL fold .rbrack rest (.ok es r)) :
    PT fold toks (.ok (.array es) r) := by
  obtain ⟨_, f, e1⟩ := h
  refine ⟨ok_ne_fuel, f + 1, ?_⟩
  rw [parseTerm, hs]
  simp only [e1]

/-- tokens at which the loop of `parse_expr_bp m` stops without consuming anything (for `m ≤ 10`);
    at `m = 16` (primary expressions) nothing is demanded -/
def stops (m : Nat) : List Tok → Bool
  | .op o :: _ => decide (o.prec ≤ m)
  | .lparen :: _ | .dot :: _ | .lbrack :: _ | .bang :: _ | .question :: _ => decide (16 ≤ m)
  | _ => true

theorem stops_mono {a b : Nat} {rest : List Tok} (h : stops a rest = true) (hab : a ≤ b) :
    stops b rest = true := by
  cases rest with
  | nil => rfl
  | cons t r =>
    cases t with
    | op o => exact decide_eq_true (Nat.le_trans (of_decide_eq_true h) hab)
    | lparen | dot | lbrack | bang | question =>
      exact decide_eq_true (Nat.le_trans (of_decide_eq_true h) hab)
    | _ => rfl

theorem prec_le_9 (o : BinOp) : o.prec ≤ 9 := by cases o <;> decide

theorem stops_primary {m : Nat} (h : 16 ≤ m) (rest : List Tok) : stops m rest = true := by
  cases rest with
  | nil => rfl
  | cons t r =>
    cases t with
    | op o => exact decide_eq_true (Nat.le_trans (prec_le_9 o) (Nat.le_trans (by decide) h))
    | lparen | dot | lbrack | bang | question => exact decide_eq_true h
    | _ => rfl

theorem loop_stop {fold : FoldMode} {f bp : Nat} {lhs : Expr} {toks : List Tok}
    (hs : stops bp toks = true) (hbp : bp ≤ 10) : loop fold (f + 1) bp lhs toks = .ok lhs toks := by
  cases toks with
  | nil => rfl
  | cons t r =>
    cases t with
    | op o => exact if_pos (of_decide_eq_true hs)
    | lparen | dot | lbrack | bang | question =>
      exact absurd (Nat.le_trans (of_decide_eq_true hs) hbp) (by decide)
    | _ => rfl

theorem stops_six (r : List Tok) : stops 6 r = !bindsTighter r := by
  cases r with
  | nil => rfl
  | cons t r =>
    cases t
    case op o => cases o <;> rfl
    all_goals rfl

theorem stops_of_folds {mode : FoldMode} (hm : mode ≠ .always) {r : List Tok}
    (h : foldsHere mode r = true) : stops 6 r = true := by
  rw [stops_six]
  cases mode with
  | never => cases h
  | always => exact absurd rfl hm
  | loose => exact h

theorem LP.stop {fold : FoldMode} {bp : Nat} {lhs : Expr} {toks : List Tok}
    (hs : stops bp toks = true) (hbp : bp ≤ 10) : LP fold bp lhs toks (.ok lhs toks) :=
  ⟨ok_ne_fuel, 1, loop_stop hs hbp⟩

theorem LP.bin {fold : FoldMode} {bp : Nat} {lhs rhs : Expr} {o : BinOp} {rest r : List Tok}
    {res : Res Expr} (hbp : bp < o.prec)
    (h1 : PB fold o.prec rest (.ok rhs r)) (h2 : LP fold bp (.bin o lhs rhs) r res) :
    LP fold bp lhs (.op o :: rest) res := by
  obtain ⟨_, f1, e1⟩ := h1
  obtain ⟨hne, f2, e2⟩ := h2
  refine ⟨hne, max f1 f2 + 1, (if_neg (Nat.not_le_of_lt hbp)).trans ?_⟩
  rw [parseBp_lift e1 ok_ne_fuel (Nat.le_max_left f1 f2)]
  exact loop_lift e2 hne (Nat.le_max_right f1 f2)

theorem LP.call {fold : FoldMode} {bp : Nat} {lhs : Expr} {args : Args} {rest r : List Tok}
    {res : Res Expr} (hbp : bp ≤ 10)
    (h1 : PL fold .rparen rest (.ok args r)) (h2 : LP fold bp (.call lhs args) r res) :
    LP fold bp lhs (.lparen :: rest) res := by
  obtain ⟨_, f1, e1⟩ := h1
  obtain ⟨hne, f2, e2⟩ := h2
  refine ⟨hne, max f1 f2 + 1, (if_neg (Nat.not_le_of_lt (Nat.lt_of_le_of_lt hbp (by decide)))).trans ?_⟩
  rw [parseList_lift e1 ok_ne_fuel (Nat.le_max_left f1 f2)]
  exact loop_lift e2 hne (Nat.le_max_right f1 f2)

theorem LP.member {fold : FoldMode} {bp : Nat} {lhs : Expr} {s : String} {r : List Tok}
    {res : Res Expr} (hbp : bp ≤ 10) (h2 : LP fold bp (.member lhs s) r res) :
    LP fold bp lhs (.dot :: .atom (.ident s) :: r) res := by
  obtain ⟨hne, f2, e2⟩ := h2
  exact ⟨hne, f2 + 1, (if_neg (Nat.not_le_of_lt (Nat.lt_of_le_of_lt hbp (by decide)))).trans e2⟩

theorem LP.index {fold : FoldMode} {bp : Nat} {lhs i : Expr} {rest r r' : List Tok}
    {res : Res Expr} (hbp : bp ≤ 10)
    (h1 : PB fold 0 (skipNl rest) (.ok i r)) (hr : skipNl r = .rbrack :: r')
    (h2 : LP fold bp (.index lhs i) r' res) :
    LP fold bp lhs (.lbrack :: rest) res := by
  obtain ⟨_, f1, e1⟩ := h1
  obtain ⟨hne, f2, e2⟩ := h2
  refine ⟨hne, max f1 f2 + 1, (if_neg (Nat.not_le_of_lt (Nat.lt_of_le_of_lt hbp (by decide)))).trans ?_⟩
  rw [parseBp_lift e1 ok_ne_fuel (Nat.le_max_left f1 f2)]
  simp only [hr]
  exact loop_lift e2 hne (Nat.le_max_right f1 f2)

theorem LP.unwrap {fold : FoldMode} {bp : Nat} {lhs : Expr} {r : List Tok}
    {res : Res Expr} (hbp : bp ≤ 10) (h2 : LP fold bp (.unwrap lhs) r res) :
    LP fold bp lhs (.bang :: r) res := by
  obtain ⟨hne, f2, e2⟩ := h2
  exact ⟨hne, f2 + 1, (if_neg (Nat.not_le_of_lt (Nat.lt_of_le_of_lt hbp (by decide)))).trans e2⟩

theorem LP.try_ {fold : FoldMode} {bp : Nat} {lhs : Expr} {r : List Tok}
    {res : Res Expr} (hbp : bp ≤ 10) (h2 : LP fold bp (.try_ lhs) r res) :
    LP fold bp lhs (.question :: r) res := by
  obtain ⟨hne, f2, e2⟩ := h2
  exact ⟨hne, f2 + 1, (if_neg (Nat.not_le_of_lt (Nat.lt_of_le_of_lt hbp (by decide)))).trans e2⟩

theorem PL.nil {fold : FoldMode} {close : Tok} {toks rest : List Tok}
    (hs : skipNl toks = close :: rest) : PL fold close toks (.ok .nil rest) := by
  refine ⟨ok_ne_fuel, 1, ?_⟩
  rw [parseList, hs]
  exact if_pos rfl

theorem PL.last {fold : FoldMode} {close t : Tok} {toks rest r : List Tok} {e : Expr}
    (hs : skipNl toks = t :: rest) (ht : t ≠ close) (hc : close ≠ .comma ∧ close ≠ .nl)
    (h1 : PB fold 0 (t :: rest) (.ok e (close :: r))) :
    PL fold close toks (.ok (.cons e .nil) r) := by
  obtain ⟨_, f1, e1⟩ := h1
  refine ⟨ok_ne_fuel, f1 + 1, ?_⟩
  rw [parseList, hs]
  simp only [if_neg ht, e1]
  cases close with
  | comma => exact absurd rfl hc.1
  | nl => exact absurd rfl hc.2
  | _ => exact if_pos rfl

theorem PL.cons {fold : FoldMode} {close t sep : Tok} {toks rest r r' : List Tok} {e : Expr} {es : Args}
    (hs : skipNl toks = t :: rest) (ht : t ≠ close) (hsep : sep = .comma ∨ sep = .nl)
    (h1 : PB fold 0 (t :: rest) (.ok e (sep :: r)))
    (h2 : PL fold close r (.ok es r')) :
    PL fold close toks (.ok (.cons e es) r') := by
  obtain ⟨_, f1, e1⟩ := h1
  obtain ⟨_, f2, e2⟩ := h2
  refine ⟨ok_ne_fuel, max f1 f2 + 1, ?_⟩
  rw [parseList, hs]
  simp only [if_neg ht, parseBp_lift e1 ok_ne_fuel (Nat.le_max_left f1 f2)]
  rcases hsep with rfl | rfl <;> simp only [parseList_lift e2 ok_ne_fuel (Nat.le_max_right f1 f2)]

/-- leading newlines are skipped by `parse_delimited_list` -/
theorem PL.skip_front {mode : FoldMode} {close : Tok} {k : Nat} {Z : List Tok} {res : Res Args}
    (h : PL mode close Z res) : PL mode close (List.replicate k .nl ++ Z) res := by
  obtain ⟨hne, f, hf⟩ := h
  refine ⟨hne, f, ?_⟩
  cases f with
  | zero => exact hf
  | succ f => rw [parseList] at hf ⊢; rw [skipNl_nls]; exact hf

end Abra.Pratt
