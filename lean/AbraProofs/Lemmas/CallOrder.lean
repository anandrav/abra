import AbraModel.CallOrder
/-! Implementation side: `InfoOk` (what `update_function_arg_info` computes); `posCount`/`namedNames` of a call and
`Accepted` (what the decision loop has found no fault with so far); `slotSpec` and `Inv`, the state of the decision
loop and the slot vector of the reorder after a prefix `done` of the arguments, kept by every step (`Inv.step`);
`fillOne`/`fillDefaults` slot by slot.  Spec side: `WellFormed`, `specEntry`, and how they read in the terms of the
loop (`wellFormed_iff`, `specEntry_eq`). -/
namespace Abra.CallOrder

variable {ν : Type} [DecidableEq ν] {α : Type}

/-! ### lists as `HashSet` and as `IdSet`; one element appended -/

theorem mem_setInsert (s : List ν) (x y : ν) : y ∈ setInsert s x ↔ y = x ∨ y ∈ s := by
  unfold setInsert
  split
  · rename_i hx; exact ⟨Or.inr, fun h => h.elim (fun e => e ▸ hx) id⟩
  · exact List.mem_cons

theorem mem_setRemove (s : List ν) (x y : ν) : y ∈ setRemove s x ↔ y ∈ s ∧ y ≠ x := by
  simp [setRemove]

theorem getElem?_snoc {β : Type} (l : List β) (a : β) (j : Nat) :
    (l ++ [a])[j]? = if j = l.length then some a else l[j]? := by
  rcases Nat.lt_trichotomy j l.length with h | h | h
  · rw [List.getElem?_append_left h, if_neg (Nat.ne_of_lt h)]
  · rw [h, List.getElem?_concat_length, if_pos rfl]
  · rw [if_neg (Nat.ne_of_gt h), List.getElem?_eq_none (by rw [List.length_append]; exact h),
      List.getElem?_eq_none (Nat.le_of_lt h)]

theorem idIndex_eq_some_iff (l : List ν) (hnd : l.Nodup) (x : ν) (j : Nat) :
    idIndex l x = some j ↔ l[j]? = some x := by
  induction l generalizing j with
  | nil => exact ⟨nofun, nofun⟩
  | cons y ys ih =>
    have ⟨hy, hys⟩ := List.nodup_cons.1 hnd
    unfold idIndex
    split
    · rename_i hyx
      cases j with
      | zero => exact ⟨fun _ => congrArg some hyx, fun _ => rfl⟩
      | succ j =>
        exact ⟨nofun, fun (h : ys[j]? = some x) => absurd (List.mem_of_getElem? h) (hyx ▸ hy)⟩
    · rename_i hyx
      cases j with
      | zero =>
        refine ⟨fun h => ?_, fun h => absurd (Option.some.inj h) hyx⟩
        cases hi : idIndex ys x <;> rw [hi] at h <;> cases h
      | succ j => simpa using ih hys j

/-! ### `update_function_arg_info` -/

/-- what `update_function_arg_info` has recorded about the parameters `ps` -/
structure InfoOk (info : Info ν) (ps : List (Param ν)) : Prop where
  sym : ∀ x, x ∈ info.symbols ↔ x ∈ ps.map (·.name)
  idx : info.argIndices = ps.map (·.name)
  req : ∀ x, x ∈ info.required ↔ ⟨x, false⟩ ∈ ps
  dfl : ∀ j, j ∈ info.defaults ↔ ∃ p, ps[j]? = some p ∧ p.hasDefault = true
  count : info.required.length + info.defaults.length = ps.length

/-- `pre`: the parameters already entered -/
theorem mkInfoAux_ok (rest pre : List (Param ν)) (acc : Info ν) (hacc : InfoOk acc pre)
    (hnd : ((pre ++ rest).map (·.name)).Nodup) :
    InfoOk (mkInfoAux pre.length rest acc) (pre ++ rest) := by
  induction rest generalizing pre acc with
  | nil => rw [List.append_nil]; exact hacc
  | cons p rest ih =>
    rw [List.append_cons] at hnd ⊢
    rw [mkInfoAux, show pre.length + 1 = (pre ++ [p]).length from (List.length_append (bs := [p])).symm]
    refine ih (pre ++ [p]) _ ?_ hnd
    have hp : p.name ∉ pre.map (·.name) := by
      rw [List.map_append, List.map_append] at hnd
      exact fun h => (List.nodup_append.1 (List.nodup_append.1 hnd).1).2.2 _ h _ (List.mem_singleton.2 rfl) rfl
    have hsym : ∀ x, x ∈ p.name :: acc.symbols ↔ x ∈ (pre ++ [p]).map (·.name) := fun x => by
      rw [List.mem_cons, hacc.sym, List.map_append, List.mem_append, or_comm, List.map_singleton,
        List.mem_singleton]
    have hidx : idInsert acc.argIndices p.name = (pre ++ [p]).map (·.name) := by
      rw [hacc.idx, idInsert, if_neg hp, List.map_append]; rfl
    obtain ⟨n, d⟩ := p
    cases d
    · rw [if_neg Bool.false_ne_true]
      have hreq : n ∉ acc.required := fun h => hp (List.mem_map.2 ⟨_, (hacc.req _).1 h, rfl⟩)
      refine ⟨hsym, hidx, fun x => ?_, fun j => ?_, ?_⟩
      · show x ∈ setInsert acc.required n ↔ _
        rw [mem_setInsert, hacc.req, List.mem_append, List.mem_singleton, or_comm, Param.mk.injEq]
        exact or_congr_right (and_iff_left rfl).symm
      · show j ∈ acc.defaults ↔ _
        rw [getElem?_snoc, hacc.dfl]
        split
        · rename_i hj; subst hj; simp
        · rfl
      · show (setInsert acc.required n).length + acc.defaults.length = _
        rw [setInsert, if_neg hreq, List.length_append, ← hacc.count]
        exact Nat.add_right_comm _ 1 _
    · rw [if_pos rfl]
      refine ⟨hsym, hidx, fun x => ?_, fun j => ?_, ?_⟩
      · show x ∈ acc.required ↔ _
        rw [hacc.req, List.mem_append, List.mem_singleton, Param.mk.injEq]
        exact (or_iff_left fun h => nomatch h.2).symm
      · show j ∈ acc.defaults ++ [pre.length] ↔ _
        rw [getElem?_snoc, List.mem_append, List.mem_singleton, hacc.dfl]
        split
        · rename_i hj; subst hj; simp
        · exact or_iff_left ‹_›
      · show acc.required.length + (acc.defaults ++ [pre.length]).length = _
        rw [List.length_append, List.length_append, ← hacc.count]
        exact (Nat.add_assoc _ _ 1).symm

theorem mkInfo_ok (ps : List (Param ν)) (hnd : (ps.map (·.name)).Nodup) :
    InfoOk (mkInfo false ps) ps ∧ (mkInfo false ps).nargs = ps.length :=
  have h := mkInfoAux_ok ps [] ⟨[], [], [], [], 0⟩ ⟨by simp, rfl, by simp, by simp, rfl⟩ hnd
  ⟨⟨h.sym, h.idx, h.req, h.dfl, h.count⟩, h.count⟩

/-! ### the call: positional prefix, names -/

/-- number of leading positional arguments -/
def posCount (args : List (Arg ν α)) : Nat := (args.takeWhile (·.name.isNone)).length
/-- the names used at the call, in source order -/
def namedNames (args : List (Arg ν α)) : List ν := args.filterMap (·.name)

omit [DecidableEq ν] in
theorem posCount_le (l : List (Arg ν α)) : posCount l ≤ l.length :=
  (List.takeWhile_sublist _).length_le

omit [DecidableEq ν] in
theorem name_none_of_posCount (l : List (Arg ν α)) (h : posCount l = l.length) :
    ∀ b ∈ l, b.name = none := by
  have := List.all_takeWhile (l := l) (p := (·.name.isNone))
  rw [(List.takeWhile_sublist _).eq_of_length h] at this
  exact fun b hb => Option.isNone_iff_eq_none.1 (List.all_eq_true.1 this b hb)

omit [DecidableEq ν] in
theorem posCount_snoc (l : List (Arg ν α)) (a : Arg ν α) :
    posCount (l ++ [a]) =
      if posCount l = l.length ∧ a.name = none then posCount l + 1 else posCount l := by
  unfold posCount
  rw [List.takeWhile_append]
  by_cases h : (l.takeWhile (·.name.isNone)).length = l.length
  · cases ha : a.name <;> simp [h, ha]
  · simp [h]

omit [DecidableEq ν] in
theorem namedNames_snoc (l : List (Arg ν α)) (a : Arg ν α) :
    namedNames (l ++ [a]) = namedNames l ++ a.name.toList := by
  unfold namedNames
  rw [List.filterMap_append]
  cases ha : a.name <;> simp [ha]

omit [DecidableEq ν] in
theorem posFirst_snoc (l : List (Arg ν α)) (a : Arg ν α) :
    (∀ b ∈ (l ++ [a]).dropWhile (·.name.isNone), b.name ≠ none) ↔
      (∀ b ∈ l.dropWhile (·.name.isNone), b.name ≠ none) ∧ (a.name = none → posCount l = l.length) := by
  induction l with
  | nil =>
    rw [List.nil_append, List.dropWhile_cons]
    cases ha : a.name
    · exact ⟨fun _ => ⟨fun _ h => absurd h List.not_mem_nil, fun _ => rfl⟩, fun _ _ h => absurd h List.not_mem_nil⟩
    · exact ⟨fun _ => ⟨fun _ h => absurd h List.not_mem_nil, fun h => nomatch h⟩,
        fun _ b hb => List.mem_singleton.1 hb ▸ ha ▸ fun h => nomatch h⟩
  | cons c l ih =>
    rw [List.cons_append, List.dropWhile_cons, List.dropWhile_cons, posCount, List.takeWhile_cons]
    cases hc : c.name
    · exact ih.trans (and_congr_right fun _ => imp_congr_right fun _ => Nat.add_right_cancel_iff.symm)
    · show (∀ b ∈ c :: (l ++ [a]), b.name ≠ none) ↔
        (∀ b ∈ c :: l, b.name ≠ none) ∧ (a.name = none → 0 = l.length + 1)
      rw [← List.cons_append, List.forall_mem_append, List.forall_mem_singleton]
      exact and_congr_right fun _ => ⟨fun h e => absurd e h, fun h e => nomatch h e⟩

/-- the part of `WellFormed` that the loop reports as it goes (no diagnostic so far) -/
structure Accepted (ps : List (Param ν)) (args : List (Arg ν α)) : Prop where
  pos_first : ∀ a ∈ args.dropWhile (·.name.isNone), a.name ≠ none
  names_known : ∀ n ∈ namedNames args, n ∈ ps.map (·.name)
  named_once : (namedNames args).Nodup
  not_both : ∀ n ∈ namedNames args, n ∉ (ps.map (·.name)).take (posCount args)

omit [DecidableEq ν] in
theorem accepted_snoc (ps : List (Param ν)) (l : List (Arg ν α)) (a : Arg ν α) :
    Accepted ps (l ++ [a]) ↔ Accepted ps l ∧
      match a.name with
      | none => posCount l = l.length
      | some n => n ∈ ps.map (·.name) ∧ n ∉ (ps.map (·.name)).take (posCount l) ∧ n ∉ namedNames l := by
  cases ha : a.name with
  | none =>
    by_cases hk : posCount l = l.length
    · -- all arguments so far are positional: the clauses about names are empty
      have hnn : namedNames l = [] := List.filterMap_eq_nil_iff.2 (name_none_of_posCount l hk)
      have hnn' : namedNames (l ++ [a]) = [] := by rw [namedNames_snoc, ha, hnn]; rfl
      have mk : ∀ args : List (Arg ν α), namedNames args = [] →
          (∀ a ∈ args.dropWhile (·.name.isNone), a.name ≠ none) → Accepted ps args := by
        intro args h hp
        refine ⟨hp, ?_, ?_, ?_⟩ <;> rw [h]
        · exact fun _ h => absurd h List.not_mem_nil
        · exact List.nodup_nil
        · exact fun _ h => absurd h List.not_mem_nil
      exact ⟨fun h => ⟨mk l hnn ((posFirst_snoc l a).1 h.pos_first).1, hk⟩,
        fun h => mk _ hnn' ((posFirst_snoc l a).2 ⟨h.1.pos_first, fun _ => hk⟩)⟩
    · constructor
      · intro h; exact absurd (((posFirst_snoc l a).1 h.pos_first).2 ha) hk
      · intro h; exact absurd h.2 hk
  | some n =>
    have hk : posCount (l ++ [a]) = posCount l := by simp [posCount_snoc, ha]
    have hn : namedNames (l ++ [a]) = namedNames l ++ [n] := by simp [namedNames_snoc, ha]
    have hpf := (posFirst_snoc l a).trans (and_iff_left fun h => nomatch ha ▸ h)
    constructor
    · intro ⟨h0, h1, h2, h3⟩
      rw [hn] at h1 h2 h3; rw [hk] at h3
      rw [List.forall_mem_append, List.forall_mem_singleton] at h1 h3
      have ⟨h2, _, h2n⟩ := List.nodup_append.1 h2
      exact ⟨⟨hpf.1 h0, h1.1, h2, h3.1⟩, h1.2, h3.2, fun hm => h2n n hm n (List.mem_singleton.2 rfl) rfl⟩
    · intro ⟨⟨h0, h1, h2, h3⟩, k1, k3, k2⟩
      refine ⟨hpf.2 h0, ?_, ?_, ?_⟩
      · rw [hn, List.forall_mem_append, List.forall_mem_singleton]; exact ⟨h1, k1⟩
      · rw [hn]
        exact List.nodup_append.2 ⟨h2, List.pairwise_singleton _ n, fun x hx y hy =>
          List.mem_singleton.1 hy ▸ fun e => k2 (e ▸ hx)⟩
      · rw [hn, hk, List.forall_mem_append, List.forall_mem_singleton]; exact ⟨h3, k3⟩

/-! ### the decision loop and the slot vector -/

theorem placeAt_length (sl : List (Option (Entry α))) (j : Nat) (v : Entry α) :
    (placeAt sl j v).length = sl.length := by
  unfold placeAt; split <;> simp

theorem placeAt_getElem? (sl : List (Option (Entry α))) (j : Nat) (v : Entry α) (m : Nat) :
    (placeAt sl j v)[m]? = if m = j ∧ j < sl.length then some (some v) else sl[m]? := by
  unfold placeAt
  by_cases hj : j < sl.length
  · by_cases hm : m = j
    · subst hm; simp [hj]
    · simp [hj, hm, Ne.symm hm]
  · simp [hj]

theorem place_length (info : Info ν) (sl : List (Option (Entry α))) (i : Nat) (a : Arg ν α) :
    (place info sl i a).length = sl.length := by
  unfold place
  split
  · split
    · exact placeAt_length _ _ _
    · rfl
  · exact placeAt_length _ _ _

/-- what slot `j` holds after the arguments `done` of an accepted call have been placed -/
def slotSpec (ps : List (Param ν)) (done : List (Arg ν α)) (j : Nat) : Option (Entry α) :=
  (if j < posCount done then done[j]?
    else done.find? fun a => a.name = (ps.map (·.name))[j]?).map fun a => Entry.arg a.val

/-- the state of the decision loop and the slot vector after the arguments `done` -/
structure Inv (info : Info ν) (ps : List (Param ν)) (done : List (Arg ν α)) (s : St ν)
    (sl : List (Option (Entry α))) : Prop where
  named : s.named = false ↔ posCount done = done.length
  seen : ∀ x, x ∈ s.seen ↔ x ∈ (ps.map (·.name)).take (posCount done) ∨ x ∈ namedNames done
  missing : ∀ x, x ∈ s.missing ↔ x ∈ info.required ∧ x ∉ s.seen
  surplus : s.surplus = posCount done - ps.length
  diags : s.diags = [] ↔ Accepted ps done
  unknown : s.diags = [] → s.unknown = false
  len : sl.length = ps.length
  slots : s.diags = [] → ∀ j, j < ps.length → sl[j]? = some (slotSpec ps done j)

theorem Inv.step {info : Info ν} {ps : List (Param ν)} (hok : InfoOk info ps)
    (hnd : (ps.map (·.name)).Nodup) {done : List (Arg ν α)} {s : St ν} {sl : List (Option (Entry α))}
    (inv : Inv info ps done s sl) (a : Arg ν α) :
    Inv info ps (done ++ [a]) (stepArg info done.length a s) (place info sl done.length a) := by
  have hacc := accepted_snoc ps done a
  have hk := posCount_snoc done a
  have hn := namedNames_snoc done a
  have hle := posCount_le done
  cases ha : a.name with
  | some n =>
    -- a named argument: reported unless `n` is a parameter not seen so far; written to the slot of `n`
    rw [ha] at hacc hn
    simp only [ha, and_false, if_false, reduceCtorEq] at hk
    have hstep : stepArg info done.length a s =
      { named := true, unknown := s.unknown || !(n ∈ info.argIndices), surplus := s.surplus,
        seen := setInsert s.seen n, missing := setRemove s.missing n,
        diags := (if n ∈ s.seen then
                    (if n ∈ info.symbols then s.diags else s.diags ++ [Diag.unknown]) ++ [Diag.dup]
                  else (if n ∈ info.symbols then s.diags else s.diags ++ [Diag.unknown])) } := by
      rw [stepArg, ha]
    have hd2 : (stepArg info done.length a s).diags = [] ↔
        s.diags = [] ∧ n ∈ info.symbols ∧ n ∉ s.seen := by
      rw [hstep]
      by_cases h1 : n ∈ s.seen <;> by_cases h2 : n ∈ info.symbols <;> simp [h1, h2]
    have hseen : n ∉ s.seen ↔ n ∉ (ps.map (·.name)).take (posCount done) ∧ n ∉ namedNames done := by
      rw [inv.seen, not_or]
    refine ⟨?_, ?_, ?_, ?_, ?_, ?_, ?_, ?_⟩
    · rw [hstep, hk, List.length_append]
      exact ⟨nofun, fun h => absurd h (Nat.ne_of_lt (Nat.lt_succ_of_le hle))⟩
    · intro x
      rw [hstep, hk, hn]
      show x ∈ setInsert s.seen n ↔ _
      rw [mem_setInsert, inv.seen, List.mem_append, Option.toList_some, List.mem_singleton, or_comm,
        or_assoc]
    · intro x
      rw [hstep]
      show x ∈ setRemove s.missing n ↔ _ ∧ x ∉ setInsert s.seen n
      rw [mem_setRemove, inv.missing, mem_setInsert, not_or, and_assoc]
      exact and_congr_right fun _ => and_comm
    · rw [hstep, hk]; exact inv.surplus
    · rw [hd2, hacc, inv.diags, hok.sym, hseen]
    · intro h
      obtain ⟨h0, h1, -⟩ := hd2.1 h
      rw [hstep]
      show (s.unknown || !Decidable.decide (n ∈ info.argIndices)) = false
      rw [inv.unknown h0, hok.idx, decide_eq_true ((hok.sym n).1 h1)]; rfl
    · rw [place_length]; exact inv.len
    · intro h j hj
      obtain ⟨h0, h1, h2⟩ := hd2.1 h
      obtain ⟨h2, h3⟩ := hseen.1 h2
      obtain ⟨m, hm⟩ := List.mem_iff_getElem?.1 ((hok.sym n).1 h1)
      have hpl : place info sl done.length a = placeAt sl m (Entry.arg a.val) := by
        simp [place, ha, (idIndex_eq_some_iff _ (hok.idx ▸ hnd) n m).2 (hok.idx ▸ hm)]
      have hml : m < ps.length := by simpa using (List.getElem?_eq_some_iff.1 hm).1
      have hmk : ¬ m < posCount done := fun hlt =>
        h2 (List.mem_of_getElem? (by rw [List.getElem?_take, if_pos hlt]; exact hm))
      rw [hpl, placeAt_getElem?, inv.len, inv.slots h0 j hj, slotSpec, slotSpec, hk]
      by_cases hjk : j < posCount done
      · rw [if_pos hjk, if_pos hjk, if_neg fun (h : j = m ∧ _) => hmk (h.1 ▸ hjk),
          List.getElem?_append_left (Nat.lt_of_lt_of_le hjk hle)]
      · rw [if_neg hjk, if_neg hjk, List.find?_append]
        by_cases hjm : j = m
        · subst hjm
          have hnone : done.find? (fun b => b.name = (ps.map (·.name))[j]?) = none := by
            rw [List.find?_eq_none]
            intro b hb hbn
            exact h3 (List.mem_filterMap.2 ⟨b, hb, by simpa [hm] using hbn⟩)
          rw [if_pos ⟨rfl, hml⟩, hnone, Option.none_or, List.find?_singleton,
            if_pos (decide_eq_true (ha.trans hm.symm))]
          rfl
        · have : ¬ a.name = (ps.map (·.name))[j]? := fun he => by
            have hj' : j < (ps.map (·.name)).length := by simpa using hj
            rw [ha, List.getElem?_eq_getElem hj'] at he
            rw [List.getElem?_eq_some_iff] at hm
            obtain ⟨hm', hm⟩ := hm
            exact hjm ((List.getElem_inj hnd).1 ((Option.some.inj he).symm.trans hm.symm))
          rw [if_neg fun h => hjm h.1, List.find?_singleton, if_neg fun h => this (of_decide_eq_true h),
            Option.or_none]
  | none =>
    rw [ha] at hacc hn
    simp only [Option.toList_none, List.append_nil] at hn
    simp only [ha, and_true] at hk
    by_cases hkL : posCount done = done.length
    · -- still in the positional prefix: argument `done.length` goes to parameter `done.length`
      have hs := inv.named.2 hkL
      have hpos := name_none_of_posCount done hkL
      rw [if_pos hkL] at hk
      have hnamed : s.named = false ↔ posCount (done ++ [a]) = (done ++ [a]).length := by
        rw [hk, List.length_append, hkL]; exact ⟨fun _ => rfl, fun _ => hs⟩
      have hdiags : s.diags = [] ↔ Accepted ps (done ++ [a]) := by
        rw [hacc, inv.diags]; exact ⟨fun h => ⟨h, hkL⟩, fun h => h.1⟩
      have hlen := (place_length info sl done.length a).trans inv.len
      have htake : ∀ x, x ∈ (ps.map (·.name)).take (posCount (done ++ [a])) ↔
          x ∈ (ps.map (·.name)).take (posCount done) ∨ (ps.map (·.name))[done.length]? = some x := by
        intro x; rw [hk, List.take_add_one, List.mem_append, Option.mem_toList, hkL]
      have hslots : s.diags = [] → ∀ j, j < ps.length →
          (place info sl done.length a)[j]? = some (slotSpec ps (done ++ [a]) j) := by
        intro h j hj
        have hfind : ∀ l : List (Arg ν α), (∀ b ∈ l, b.name = none) →
            l.find? (fun b => b.name = (ps.map (·.name))[j]?) = none := by
          intro l hl
          rw [List.find?_eq_none]
          intro b hb
          rw [hl b hb, List.getElem?_eq_getElem (by simpa using hj)]
          simp
        rw [show place info sl done.length a = placeAt sl done.length (Entry.arg a.val) by simp [place, ha],
          placeAt_getElem?, inv.len, inv.slots h j hj, slotSpec, slotSpec, hk, hkL]
        by_cases hjL : j = done.length
        · subst hjL
          rw [if_pos ⟨rfl, hj⟩, if_pos (Nat.lt_succ_self _), List.getElem?_concat_length]; rfl
        · rw [if_neg fun h => hjL h.1]
          by_cases hlt : j < done.length
          · rw [if_pos hlt, if_pos (Nat.lt_succ_of_lt hlt), List.getElem?_append_left hlt]
          · rw [if_neg hlt, if_neg fun h => (Nat.lt_succ_iff_lt_or_eq.1 h).elim hlt hjL, hfind done hpos,
              hfind (done ++ [a]) fun b hb => (List.mem_append.1 hb).elim (hpos b) fun hb =>
                List.mem_singleton.1 hb ▸ ha]
      cases hi : (ps.map (·.name))[done.length]? with
      | none =>
        -- no such parameter: a surplus argument
        have hstep : stepArg info done.length a s = { s with surplus := s.surplus + 1 } := by
          simp only [stepArg, ha, hok.idx, hi]; rw [if_neg (hs ▸ Bool.false_ne_true)]
        have hn' := List.getElem?_eq_none_iff.1 hi
        rw [List.length_map] at hn'
        rw [hstep]
        refine ⟨hnamed, fun x => ?_, inv.missing, ?_, hdiags, inv.unknown, hlen, hslots⟩
        · rw [htake, hi, hn, or_iff_left (a := x ∈ _) nofun]; exact inv.seen x
        · show s.surplus + 1 = _
          rw [hk, hkL, inv.surplus, hkL]; exact (Nat.succ_sub hn').symm
      | some m =>
        have hstep : stepArg info done.length a s =
            { s with seen := setInsert s.seen m, missing := setRemove s.missing m } := by
          simp only [stepArg, ha, hok.idx, hi]; rw [if_neg (hs ▸ Bool.false_ne_true)]
        have hm := (List.getElem?_eq_some_iff.1 hi).1
        rw [List.length_map] at hm
        rw [hstep]
        refine ⟨hnamed, fun x => ?_, fun x => ?_, ?_, hdiags, inv.unknown, hlen, hslots⟩
        · show x ∈ setInsert s.seen m ↔ _
          rw [mem_setInsert, inv.seen, htake, hi, hn, Option.some.injEq]
          simp only [or_comm, or_left_comm, eq_comm]
        · show x ∈ setRemove s.missing m ↔ _ ∧ x ∉ setInsert s.seen m
          rw [mem_setRemove, inv.missing, mem_setInsert, not_or, and_assoc]
          exact and_congr_right fun _ => and_comm
        · show s.surplus = _
          rw [hk, hkL, inv.surplus, hkL, Nat.sub_eq_zero_of_le (Nat.le_of_lt hm), Nat.sub_eq_zero_of_le hm]
    · -- a positional argument after a named one: a diagnostic, nothing else moves
      have hs : s.named = true := by
        cases h : s.named
        · exact absurd (inv.named.1 h) hkL
        · rfl
      rw [if_neg hkL] at hk
      have hstep : stepArg info done.length a s = { s with diags := s.diags ++ [Diag.posAfter] } := by
        simp [stepArg, ha, hs]
      have hd : (stepArg info done.length a s).diags ≠ [] := by rw [hstep]; simp
      refine ⟨?_, ?_, ?_, ?_, ?_, fun h => absurd h hd, ?_, fun h => absurd h hd⟩
      · rw [hstep, hk, List.length_append]
        exact ⟨fun h => absurd (hs.symm.trans h) nofun,
          fun h => absurd h (Nat.ne_of_lt (Nat.lt_succ_of_le hle))⟩
      · rw [hstep, hk, hn]; exact inv.seen
      · rw [hstep]; exact inv.missing
      · rw [hstep, hk]; exact inv.surplus
      · rw [hacc]; exact ⟨fun h => absurd h hd, fun h => absurd h.2 hkL⟩
      · rw [place_length]; exact inv.len

theorem Inv.run {info : Info ν} {ps : List (Param ν)} (hok : InfoOk info ps)
    (hnd : (ps.map (·.name)).Nodup) (rest : List (Arg ν α)) {done : List (Arg ν α)} {s : St ν}
    {sl : List (Option (Entry α))} (inv : Inv info ps done s sl) :
    Inv info ps (done ++ rest) (loop info done.length rest s) (placeAll info done.length rest sl) := by
  induction rest generalizing done s sl with
  | nil => rw [List.append_nil]; exact inv
  | cons a rest ih =>
    have := ih (inv.step hok hnd a)
    rwa [List.length_append, List.append_assoc] at this

/-- the state `calculate_func_call_order` starts from -/
abbrev St.start (info : Info ν) : St ν :=
  { named := false, unknown := false, surplus := 0, seen := [], missing := info.required, diags := [] }

theorem Inv.init {info : Info ν} {ps : List (Param ν)} (hn : info.nargs = ps.length) :
    Inv info ps ([] : List (Arg ν α)) (St.start info) (List.replicate info.nargs none) where
  named := ⟨fun _ => rfl, fun _ => rfl⟩
  seen x := by simp [namedNames, posCount]
  missing x := by simp
  surplus := by simp [posCount]
  diags := ⟨fun _ => ⟨fun _ h => absurd h List.not_mem_nil, fun _ h => absurd h List.not_mem_nil,
    List.nodup_nil, fun _ h => absurd h List.not_mem_nil⟩, fun _ => rfl⟩
  unknown _ := rfl
  len := by rw [List.length_replicate, hn]
  slots _ j hj := by rw [List.getElem?_replicate, if_pos (hn ▸ hj)]; rfl

theorem decide_inv (ps : List (Param ν)) (hnd : (ps.map (·.name)).Nodup) (args : List (Arg ν α)) :
    InfoOk (mkInfo false ps) ps ∧ Inv (mkInfo false ps) ps args
      (loop (mkInfo false ps) 0 args (St.start (mkInfo false ps)))
      (placeAll (mkInfo false ps) 0 args (List.replicate (mkInfo false ps).nargs none)) :=
  have ⟨hok, hn⟩ := mkInfo_ok ps hnd
  ⟨hok, (Inv.init hn).run hok hnd args⟩

theorem decideInfo_diags_nil (info : Info ν) (args : List (Arg ν α)) :
    (decideInfo info args).diags = [] ↔
      (loop info 0 args (St.start info)).surplus = 0 ∧
      (loop info 0 args (St.start info)).missing = [] ∧
      (loop info 0 args (St.start info)).diags = [] := by
  unfold decideInfo
  generalize loop info 0 args _ = s
  by_cases h1 : s.surplus = 0
  · by_cases h2 : s.missing = []
    · cases h3 : s.unknown <;> simp [h1, h2, h3]
    · simp [h1, h2]
  · simp [h1]

/-! ### defaults, and the slots that are left (`filterMap id`) -/

theorem fillOne_length (sl : List (Option (Entry α))) (d : Nat) : (fillOne sl d).length = sl.length := by
  unfold fillOne; split <;> simp

theorem fillOne_getElem? (sl : List (Option (Entry α))) (d j : Nat) :
    (fillOne sl d)[j]? =
      match sl[j]? with
      | some none => if j = d then some (some (Entry.dflt j)) else some none
      | x => x := by
  by_cases hjd : j = d
  · subst hjd
    unfold fillOne
    rcases hs : sl[j]? with _ | _ | e
    · exact hs
    · simp [(List.getElem?_eq_some_iff.1 hs).1]
    · exact hs
  · have : (fillOne sl d)[j]? = sl[j]? := by
      unfold fillOne
      split
      · rw [List.getElem?_set, if_neg (Ne.symm hjd)]
      · rfl
    rw [this]
    rcases sl[j]? with _ | _ | e
    · rfl
    · exact (if_neg hjd).symm
    · rfl

theorem fillDefaults_getElem? (defaults : List Nat) (sl : List (Option (Entry α))) (j : Nat) :
    (fillDefaults defaults sl)[j]? =
      match sl[j]? with
      | some none => if j ∈ defaults then some (some (Entry.dflt j)) else some none
      | x => x := by
  induction defaults generalizing sl with
  | nil => show sl[j]? = _; rcases sl[j]? with _ | _ | e <;> rfl
  | cons d ds ih =>
    show (fillDefaults ds (fillOne sl d))[j]? = _
    rw [ih, fillOne_getElem?]
    rcases sl[j]? with _ | _ | e
    · rfl
    · by_cases hjd : j = d <;> simp [hjd]
    · rfl

theorem fillDefaults_length (defaults : List Nat) (sl : List (Option (Entry α))) :
    (fillDefaults defaults sl).length = sl.length := by
  induction defaults generalizing sl with
  | nil => rfl
  | cons d ds ih => exact (ih (fillOne sl d)).trans (fillOne_length sl d)

theorem filterMap_id_of_getElem? {β : Type} (l : List (Option β)) (n : Nat) (f : Nat → β)
    (hlen : l.length = n) (h : ∀ j, j < n → l[j]? = some (some (f j))) :
    l.filterMap id = (List.range n).map f := by
  have : l = (List.range n).map (fun j => some (f j)) := by
    apply List.ext_getElem?
    intro j
    by_cases hj : j < n
    · rw [h j hj]; simp [hj]
    · rw [List.getElem?_eq_none_iff.2 (hlen ▸ Nat.le_of_not_lt hj), List.getElem?_map,
        List.getElem?_eq_none_iff.2 (List.length_range ▸ Nat.le_of_not_lt hj)]
      rfl
  rw [this, List.filterMap_map]
  simp [Function.comp_def]

/-! ### the spec side -/

/-- the property's notion of a well-formed call (independent of the decision loop) -/
structure WellFormed (ps : List (Param ν)) (args : List (Arg ν α)) : Prop where
  pos_first : ∀ a ∈ args.dropWhile (·.name.isNone), a.name ≠ none
  pos_le : posCount args ≤ ps.length
  names_known : ∀ n ∈ namedNames args, n ∈ ps.map (·.name)
  named_once : (namedNames args).Nodup
  not_both : ∀ n ∈ namedNames args, n ∉ (ps.map (·.name)).take (posCount args)
  required_given : ∀ p ∈ ps.drop (posCount args), p.hasDefault = false → p.name ∈ namedNames args

/-- what the equivalent positional call passes for parameter `i`: the `i`-th positional argument,
    else the argument named like parameter `i`, else default `i` -/
def specEntry (ps : List (Param ν)) (args : List (Arg ν α)) (i : Nat) : Option (Entry α) :=
  if i < posCount args then args[i]?.map (fun a => Entry.arg a.val)
  else ps[i]?.map fun p =>
    match args.find? (fun a => a.name = some p.name) with
    | some a => Entry.arg a.val
    | none => Entry.dflt i

/-! ### the spec side in the terms of the loop -/

omit [DecidableEq ν] in
/-- `WellFormed` in the terms of the loop: nothing to report so far, no surplus positional argument,
    and every parameter without default is among the names seen -/
theorem wellFormed_iff (ps : List (Param ν)) (hnd : (ps.map (·.name)).Nodup) (args : List (Arg ν α)) :
    WellFormed ps args ↔ posCount args ≤ ps.length ∧
      (∀ x, ⟨x, false⟩ ∈ ps → x ∈ (ps.map (·.name)).take (posCount args) ∨ x ∈ namedNames args) ∧
      Accepted ps args := by
  constructor
  · intro wf
    refine ⟨wf.pos_le, fun x hx => ?_, wf.pos_first, wf.names_known, wf.named_once, wf.not_both⟩
    rw [← List.take_append_drop (posCount args) ps] at hx
    rcases List.mem_append.1 hx with hx | hx
    · exact Or.inl (List.map_take ▸ List.mem_map.2 ⟨_, hx, rfl⟩)
    · exact Or.inr (wf.required_given _ hx rfl)
  · rintro ⟨hle, hreq, acc⟩
    refine ⟨acc.pos_first, hle, acc.names_known, acc.named_once, acc.not_both, fun p hp hd => ?_⟩
    refine (hreq p.name (hd ▸ List.mem_of_mem_drop hp)).resolve_left fun ht => ?_
    -- the names are pairwise distinct, so a name of the dropped part is not in the taken part
    rw [← List.take_append_drop (posCount args) (ps.map (·.name))] at hnd
    exact (List.nodup_append.1 hnd).2.2 _ ht _ (List.map_drop ▸ List.mem_map.2 ⟨p, hp, rfl⟩) rfl

theorem specEntry_eq (ps : List (Param ν)) (args : List (Arg ν α)) (j : Nat) (hj : j < ps.length) :
    specEntry ps args j = some ((slotSpec ps args j).getD (Entry.dflt j)) := by
  unfold specEntry slotSpec
  split
  · rename_i hjk
    rw [List.getElem?_eq_getElem (Nat.lt_of_lt_of_le hjk (posCount_le args))]; rfl
  · rw [List.getElem?_eq_getElem hj, List.getElem?_eq_getElem (by simpa using hj), List.getElem_map]
    simp only [Option.map_some]
    split <;> rename_i hf <;> simp [hf]

theorem default_of_slotSpec_none {ps : List (Param ν)} {args : List (Arg ν α)} (wf : WellFormed ps args)
    (j : Nat) (hj : j < ps.length) (hs : slotSpec ps args j = none) : ps[j].hasDefault = true := by
  unfold slotSpec at hs
  split at hs
  · rename_i hjk
    rw [List.getElem?_eq_getElem (Nat.lt_of_lt_of_le hjk (posCount_le args))] at hs
    cases hs
  · rename_i hjk
    rw [Option.map_eq_none_iff, List.find?_eq_none] at hs
    cases hd : ps[j].hasDefault
    · have hmem : ps[j] ∈ ps.drop (posCount args) :=
        List.mem_drop_iff_getElem.2 ⟨j - posCount args,
          by rw [Nat.sub_add_cancel (Nat.le_of_not_lt hjk)]; exact hj,
          by simp [Nat.add_sub_cancel' (Nat.le_of_not_lt hjk)]⟩
      obtain ⟨b, hb, hbn⟩ := List.mem_filterMap.1 (wf.required_given _ hmem hd)
      exact absurd (by simp [hbn, hj]) (hs b hb)
    · rfl

end Abra.CallOrder
