import AbraProofs.Lemmas.GC
/-! Progress of the collector (for C07): every increment of a running cycle strictly decreases a
    natural-number measure, so a cycle completes after finitely many increments when the program is quiet.
    The counting behind it (weights of the entries of a list that pass a test) is also what the byte
    arithmetic of the pacing rests on, so it is stated for arbitrary weights (`sumSize`). -/

namespace Abra.GCP

theorem sumSize_append (size : Nat → Nat) (l1 l2 : List Nat) :
    sumSize size (l1 ++ l2) = sumSize size l1 + sumSize size l2 := by
  induction l1 with
  | nil => exact (Nat.zero_add _).symm
  | cons a l ih =>
    show size a + sumSize size (l ++ l2) = size a + sumSize size l + sumSize size l2
    rw [ih, Nat.add_assoc]

theorem sumSize_perm (size : Nat → Nat) {l1 l2 : List Nat} (h : l1.Perm l2) :
    sumSize size l1 = sumSize size l2 := by
  induction h with
  | nil => rfl
  | cons a _ ih => exact congrArg (size a + ·) ih
  | swap a b l => exact Nat.add_left_comm (size b) (size a) (sumSize size l)
  | trans _ _ ih1 ih2 => exact ih1.trans ih2

theorem sumSize_le_sumSize {size size' : Nat → Nat} {l : List Nat} (h : ∀ a ∈ l, size a ≤ size' a) :
    sumSize size l ≤ sumSize size' l := by
  induction l with
  | nil => exact Nat.le_refl _
  | cons a l ih =>
    exact Nat.add_le_add (h a (List.mem_cons_self ..)) (ih fun x hx => h x (List.mem_cons_of_mem _ hx))

theorem sumSize_one (l : List Nat) : sumSize (fun _ => 1) l = l.length := by
  induction l with
  | nil => rfl
  | cons a l ih => exact (congrArg (1 + ·) ih).trans (Nat.add_comm ..)

theorem sumSize_filter_cons (size : Nat → Nat) (q : Nat → Bool) (a : Nat) (l : List Nat) :
    sumSize size ((a :: l).filter q) = (if q a then size a else 0) + sumSize size (l.filter q) := by
  rw [List.filter_cons]; split <;> simp [sumSize]

theorem sumSize_filter_append (size : Nat → Nat) (q : Nat → Bool) (l1 l2 : List Nat) :
    sumSize size ((l1 ++ l2).filter q) = sumSize size (l1.filter q) + sumSize size (l2.filter q) := by
  rw [List.filter_append, sumSize_append]

theorem sumSize_filter_mono (size : Nat → Nat) {q q' : Nat → Bool} {l : List Nat}
    (h : ∀ x ∈ l, q' x = true → q x = true) :
    sumSize size (l.filter q') ≤ sumSize size (l.filter q) := by
  induction l with
  | nil => exact Nat.le_refl _
  | cons a l ih =>
    have ih' := ih fun x hx => h x (List.mem_cons_of_mem _ hx)
    have ha := h a (List.mem_cons_self ..)
    rw [sumSize_filter_cons, sumSize_filter_cons]
    cases hq' : q' a with
    | true => rw [ha hq']; exact Nat.add_le_add_left ih' _
    | false => exact Nat.add_le_add (Nat.zero_le _) ih'

theorem sumSize_filter_le (size : Nat → Nat) (q : Nat → Bool) (l : List Nat) :
    sumSize size (l.filter q) ≤ sumSize size l := by
  have := sumSize_filter_mono size (q := fun _ => true) (q' := q) (l := l) fun _ _ _ => rfl
  rwa [List.filter_eq_self.2 fun _ _ => rfl] at this

theorem sumSize_filter_drop (size : Nat → Nat) {q q' : Nat → Bool} {l : List Nat} {a : Nat}
    (h : ∀ x ∈ l, q' x = true → q x = true) (ha : a ∈ l) (hq : q a = true) (hq' : q' a = false) :
    sumSize size (l.filter q') + size a ≤ sumSize size (l.filter q) := by
  obtain ⟨l1, l2, rfl⟩ := List.append_of_mem ha
  have h1 := sumSize_filter_mono size (l := l1) fun x hx => h x (List.mem_append_left _ hx)
  have h2 := sumSize_filter_mono size (l := l2) fun x hx =>
    h x (List.mem_append_right _ (List.mem_cons_of_mem _ hx))
  rw [sumSize_filter_append, sumSize_filter_append, sumSize_filter_cons, sumSize_filter_cons, hq, hq']
  simp only [Bool.false_eq_true, if_false, if_true]
  omega

/-- growing sizes: a part grows by no more than the whole -/
theorem sumSize_grow_part {size size' : Nat → Nat} (q : Nat → Bool) {l : List Nat}
    (h : ∀ a ∈ l, size a ≤ size' a) :
    sumSize size' (l.filter q) + sumSize size l ≤ sumSize size (l.filter q) + sumSize size' l := by
  induction l with
  | nil => exact Nat.le_refl _
  | cons a l ih =>
    have ih' := ih fun x hx => h x (List.mem_cons_of_mem _ hx)
    have ha := h a (List.mem_cons_self ..)
    rw [sumSize_filter_cons, sumSize_filter_cons]
    split <;> simp only [sumSize] <;> omega

end Abra.GCP

namespace Abra.GC
open Abra.GCP

def whiteOf (m : Nat → Bool) (l : List Nat) : Nat := (l.filter (fun a => !m a)).length

def white (σ : St) : Nat := whiteOf σ.marked σ.heap

/-- remaining collector work: a white object counts twice so that `mark` (white to gray) decreases the sum, and
    `heap + 2` keeps the last marking increment above the sweep it enters (`todo + 1` with `todo` the whole heap) -/
def mu (σ : St) : Nat :=
  match σ.phase with
  | .idle => 0
  | .marking => 2 * white σ + σ.gray.length + σ.heap.length + 2
  | .sweeping => σ.todo.length + 1

theorem mu_marking {σ : St} (hp : σ.phase = .marking) :
    mu σ = 2 * white σ + σ.gray.length + σ.heap.length + 2 := by simp only [mu, hp]
theorem mu_sweeping {σ : St} (hp : σ.phase = .sweeping) : mu σ = σ.todo.length + 1 := by simp only [mu, hp]
theorem mu_idle {σ : St} (hp : σ.phase = .idle) : mu σ = 0 := by simp only [mu, hp]

theorem whiteOf_eq (m : Nat → Bool) (l : List Nat) :
    whiteOf m l = sumSize (fun _ => 1) (l.filter (fun a => !m a)) := (sumSize_one _).symm

theorem not_antitone {m m' : Nat → Bool} (h : ∀ x, m x = true → m' x = true) (x : Nat) :
    (!m' x) = true → (!m x) = true := by
  cases hm : m x with
  | false => exact fun _ => rfl
  | true => rw [h x hm]; exact id

theorem whiteOf_mono {m m' : Nat → Bool} (h : ∀ x, m x = true → m' x = true) (l : List Nat) :
    whiteOf m' l ≤ whiteOf m l := by
  rw [whiteOf_eq, whiteOf_eq]
  exact sumSize_filter_mono _ fun x _ => not_antitone h x

theorem whiteOf_mark {m m' : Nat → Bool} {a : Nat} {l : List Nat}
    (h1 : ∀ x, m x = true → m' x = true) (h2 : m' a = true) (ha : a ∈ l) (hm : m a = false) :
    whiteOf m' l + 1 ≤ whiteOf m l := by
  rw [whiteOf_eq, whiteOf_eq]
  exact sumSize_filter_drop (fun _ => 1) (fun x _ => not_antitone h1 x) ha (by rw [hm]; rfl) (by rw [h2]; rfl)

/-- `mark` moves an object from white to gray, or does nothing -/
theorem markPush_measure {σ : St} {a : Nat} (ha : a ∈ σ.heap) :
    white (markPush σ a) + (markPush σ a).gray.length ≤ white σ + σ.gray.length := by
  cases hm : σ.marked a with
  | true => rw [markPush_of_marked hm]; exact Nat.le_refl _
  | false =>
    have hw : white (markPush σ a) + 1 ≤ white σ := by
      unfold white; rw [(markPush_ext σ a).heap]
      exact whiteOf_mark (markPush_ext σ a).mono (by rw [markPush_marked]; simp) ha hm
    have hg : (markPush σ a).gray.length = σ.gray.length + 1 := by rw [markPush_of_white hm]; rfl
    rw [hg, ← Nat.add_assoc, Nat.add_right_comm]; exact Nat.add_le_add_right hw _

theorem markAll_measure {σ : St} {as : List Nat} (has : ∀ a ∈ as, a ∈ σ.heap) :
    white (markAll σ as) + (markAll σ as).gray.length ≤ white σ + σ.gray.length := by
  induction as generalizing σ with
  | nil => exact Nat.le_refl _
  | cons a as ih =>
    refine Nat.le_trans (ih (σ := markPush σ a) fun x hx => ?_) (markPush_measure (has a (List.mem_cons_self ..)))
    rw [(markPush_ext σ a).heap]; exact has x (List.mem_cons_of_mem _ hx)

/-- one pop of `process_gray`: the popped object was gray, its white children become gray -/
theorem blacken_measure {σ : St} {a : Nat} {g : List Nat} (h : InvM σ) (hg : σ.gray = a :: g) :
    white (blacken σ) + (blacken σ).gray.length + 1 ≤ white σ + σ.gray.length := by
  have ha := h.gray a (hg ▸ List.mem_cons_self ..)
  have hch : ∀ c ∈ σ.children a, c ∈ (popped σ a g).heap := fun c hc =>
    (heap_of_done_nil h.done).symm ▸ h.closed a ha.1 c hc
  have hm := markAll_measure hch
  have hw : white (popped σ a g) ≤ white σ :=
    whiteOf_mono (fun x hx => by rw [popped_marked, hx]; rfl) _
  rw [blacken_cons hg, hg]
  exact Nat.add_le_add_right (Nat.le_trans hm (Nat.add_le_add_right hw g.length)) 1

/-- the arithmetic of the marking measure `2·white + gray + heap + 2`: a pop, and a rescan that found a root -/
theorem mu_pop {w g w' g' : Nat} (H : Nat) (h : w' + g' + 1 ≤ w + g) (hw : w' ≤ w) :
    2 * w' + g' + H + 2 < 2 * w + g + H + 2 := by
  refine Nat.add_lt_add_right (Nat.add_lt_add_right ?_ H) 2
  rw [Nat.two_mul, Nat.two_mul, Nat.add_assoc, Nat.add_assoc]
  exact Nat.add_le_add hw h

theorem mu_rescan {w w' g' : Nat} (H : Nat) (h : w' + g' ≤ w + 0) (hp : 0 < g') :
    2 * w' + g' + H + 2 < 2 * w + 0 + H + 2 := by
  refine Nat.add_lt_add_right (Nat.add_lt_add_right ?_ H) 2
  rw [Nat.add_zero] at h ⊢
  rw [Nat.two_mul, Nat.two_mul, Nat.add_assoc]
  exact Nat.add_lt_add_of_lt_of_le (Nat.lt_of_lt_of_le (Nat.lt_add_of_pos_right hp) h) h

theorem finishMark_measure {τ : St} (hp : τ.phase = .marking) (hr : ∀ r ∈ τ.roots, r ∈ τ.heap) :
    mu (finishMark τ) ≤ mu τ ∧ (τ.gray = [] → mu (finishMark τ) < mu τ) := by
  have hm := markAll_measure hr
  rcases finishMark_cases τ with ⟨hg, e⟩ | ⟨hg, hg', e⟩ | ⟨hg, hg', e⟩ <;> rw [e]
  · exact ⟨Nat.le_refl _, fun h => absurd h hg⟩
  · have hlt : mu (markAll τ τ.roots) < mu τ := by
      rw [mu_marking hp, mu_marking ((markAll_ext τ τ.roots).phase.trans hp), (markAll_ext τ τ.roots).heap, hg]
      rw [hg] at hm
      exact mu_rescan _ hm (List.length_pos_iff.2 hg')
    exact ⟨Nat.le_of_lt hlt, fun _ => hlt⟩
  · have hlt : mu (toSweep (markAll τ τ.roots)) < mu τ := by
      rw [mu_marking hp, mu_sweeping rfl]
      show (markAll τ τ.roots).heap.length + 1 < _
      rw [(markAll_ext τ τ.roots).heap]
      exact Nat.lt_of_lt_of_le (Nat.lt_succ_self _) (Nat.add_le_add_right (Nat.le_add_left ..) 2)
    exact ⟨Nat.le_of_lt hlt, fun _ => hlt⟩

theorem finishMark_blacken_measure {σ : St} (h : InvM σ) (hp : σ.phase = .marking) :
    mu (finishMark (blacken σ)) < mu σ := by
  have hfm := finishMark_measure (τ := blacken σ) ((blacken_ext σ).phase.trans hp) (by
    intro r hr; rw [(blacken_ext σ).roots] at hr; rw [(blacken_ext σ).heap, heap_of_done_nil h.done]; exact h.roots r hr)
  cases hg : σ.gray with
  | nil => rw [blacken_nil hg] at hfm ⊢; exact hfm.2 hg
  | cons a g =>
    refine Nat.lt_of_le_of_lt hfm.1 ?_
    have hw : white (blacken σ) ≤ white σ := by
      unfold white; rw [(blacken_ext σ).heap]; exact whiteOf_mono (blacken_ext σ).mono _
    rw [mu_marking hp, mu_marking ((blacken_ext σ).phase.trans hp), (blacken_ext σ).heap]
    exact mu_pop _ (hg ▸ blacken_measure h hg) hw

theorem sweepTail_sweepOne_measure {σ : St} (hp : σ.phase = .sweeping) :
    mu (sweepTail (sweepOne σ)) < mu σ := by
  rw [mu_sweeping hp]
  by_cases ht' : (sweepOne σ).todo = []
  · rw [sweepTail_nil ht', mu_idle rfl]; exact Nat.succ_pos _
  · rw [sweepTail_cons ht', mu_sweeping ((sweepOne_phase σ).trans hp)]
    cases ht : σ.todo with
    | nil => rw [sweepOne_nil ht] at ht'; exact absurd ht ht'
    | cons a rest => rw [(sweepOne_todo_perm ht).length_eq]; simp

theorem gcStep_measure {σ : St} (h : Inv σ) (hne : σ.phase ≠ .idle) : mu (gcStep σ) < mu σ := by
  cases hp : σ.phase with
  | idle => exact absurd hp hne
  | marking => rw [gcStep_marking hp]; exact finishMark_blacken_measure ((inv_marking hp).1 h) hp
  | sweeping => rw [gcStep_sweeping hp]; exact sweepTail_sweepOne_measure hp

end Abra.GC
