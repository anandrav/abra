import AbraModel.Heap
/-! Lemmas about the value/heap model `Abra.Heap` (C08, C09): what `lookup` sees after each heap operation; one-step
equations of `render`, `addrs`, `deepCopyOld` that do not split on the tag (in the vocabulary `ptr?`/`tagOk`/`Obj.kids`
in which the model writes `deepCopyM`); rendering depends only on the reachable objects; the pre-repair copy. -/
namespace Abra.Heap

def Ext (H H' : Heaps) : Prop := ∀ a o, lookup H a = some o → lookup H' a = some o

theorem Ext.refl (H : Heaps) : Ext H H := fun _ _ h => h
theorem Ext.trans {H1 H2 H3 : Heaps} (h12 : Ext H1 H2) (h23 : Ext H2 H3) : Ext H1 H3 :=
  fun a o h => h23 a o (h12 a o h)

theorem Ext.none {H H' : Heaps} (he : Ext H H') {a : Addr} (h : lookup H' a = none) : lookup H a = none := by
  cases hl : lookup H a with
  | none => rfl
  | some o => rw [he a o hl] at h; cases h

theorem lookup_alloc_fresh (H : Heaps) (t : Nat) (o : Obj) : lookup H (alloc H t o).1 = none :=
  List.getElem?_eq_none (Nat.le_refl _)

theorem lookup_alloc (H : Heaps) (t : Nat) (o : Obj) (x : Addr) :
    lookup (alloc H t o).2 x = if x = (alloc H t o).1 then some o else lookup H x := by
  obtain ⟨xt, xi⟩ := x
  show (if xt = t then H t ++ [o] else H xt)[xi]? = if (⟨xt, xi⟩ : Addr) = ⟨t, (H t).length⟩ then some o else (H xt)[xi]?
  by_cases ht : xt = t
  · subst ht
    rw [if_pos rfl, List.getElem?_append]
    rcases Nat.lt_trichotomy xi (H xt).length with h | h | h
    · rw [if_pos h, if_neg (fun e => Nat.ne_of_lt h (congrArg Addr.idx e))]
    · subst h; rw [if_neg (Nat.lt_irrefl _), if_pos rfl, Nat.sub_self]; rfl
    · rw [if_neg (Nat.lt_asymm h), if_neg (fun e => Nat.ne_of_gt h (congrArg Addr.idx e)),
        List.getElem?_eq_none (Nat.le_of_lt h), List.getElem?_eq_none]
      exact Nat.le_sub_of_add_le (Nat.add_comm 1 _ ▸ Nat.succ_le_of_lt h)
  · rw [if_neg ht, if_neg (fun e => ht (congrArg Addr.tid e))]

theorem lookup_alloc_new (H : Heaps) (t : Nat) (o : Obj) : lookup (alloc H t o).2 (alloc H t o).1 = some o := by
  rw [lookup_alloc, if_pos rfl]

theorem alloc_ext (H : Heaps) (t : Nat) (o : Obj) : Ext H (alloc H t o).2 := by
  intro a x h
  rw [lookup_alloc, if_neg, h]
  rintro rfl
  rw [lookup_alloc_fresh] at h; cases h

theorem alloc_tid (H : Heaps) (t : Nat) (o : Obj) : (alloc H t o).1.tid = t := rfl

theorem alloc_spec (H : Heaps) (t : Nat) (o : Obj) : ∃ x H0, alloc H t o = (x, H0) ∧
    x.tid = t ∧ lookup H x = none ∧ lookup H0 x = some o ∧ Ext H H0 :=
  ⟨_, _, rfl, rfl, lookup_alloc_fresh H t o, lookup_alloc_new H t o, alloc_ext H t o⟩

theorem lookup_putObj (H : Heaps) (a : Addr) (o : Obj) (x : Addr) :
    lookup (putObj H a o) x = if x = a then (lookup H a).map fun _ => o else lookup H x := by
  by_cases hx : x = a
  · subst hx
    rw [if_pos rfl]
    show (if x.tid = x.tid then (H x.tid).set x.idx o else H x.tid)[x.idx]? = _
    rw [if_pos rfl, List.getElem?_set_self']; rfl
  · rw [if_neg hx]
    show (if x.tid = a.tid then (H a.tid).set a.idx o else H x.tid)[x.idx]? = (H x.tid)[x.idx]?
    by_cases ht : x.tid = a.tid
    · rw [if_pos ht, ← ht, List.getElem?_set_ne]
      intro hi
      apply hx
      cases x; cases a
      cases ht; cases hi
      rfl
    · rw [if_neg ht]

theorem lookup_putObj_self (H : Heaps) (a : Addr) (o : Obj) (h : lookup H a ≠ none) :
    lookup (putObj H a o) a = some o := by
  rw [lookup_putObj, if_pos rfl]
  cases hl : lookup H a with
  | none => exact absurd hl h
  | some _ => rfl

theorem lookup_setSlot_other (H : Heaps) (a : Addr) (i : Nat) (v : Val) (x : Addr) (h : x.tid ≠ a.tid) :
    lookup (setSlot H a i v) x = lookup H x := by
  simp only [lookup, setSlot, if_neg h]

theorem lookup_dropThread_other (H : Heaps) (t : Nat) (x : Addr) (h : x.tid ≠ t) :
    lookup (dropThread H t) x = lookup H x := by
  simp only [lookup, dropThread, if_neg h]

/-- `renderList`, `addrsList` and the loops of the copies succeed exactly when every element does: their results are
    stated with this relation. -/
inductive Forall₂ {α β : Type} (R : α → β → Prop) : List α → List β → Prop where
  | nil : Forall₂ R [] []
  | cons {a b as bs} : R a b → Forall₂ R as bs → Forall₂ R (a :: as) (b :: bs)

namespace Forall₂
variable {α β γ : Type} {R : α → β → Prop} {as : List α} {bs : List β}

theorem imp {Q : α → β → Prop} (h : Forall₂ R as bs) (hq : ∀ a b, a ∈ as → R a b → Q a b) : Forall₂ Q as bs := by
  induction h with
  | nil => exact .nil
  | cons hab _ ih =>
    exact .cons (hq _ _ (List.mem_cons_self ..) hab) (ih fun a b ha => hq a b (List.mem_cons_of_mem _ ha))

theorem length_eq (h : Forall₂ R as bs) : as.length = bs.length := by
  induction h with
  | nil => rfl
  | cons _ _ ih => exact congrArg (· + 1) ih

theorem left (h : Forall₂ R as bs) {a : α} (ha : a ∈ as) : ∃ b ∈ bs, R a b := by
  induction h with
  | nil => cases ha
  | cons hab _ ih =>
    rcases List.mem_cons.1 ha with rfl | ha
    · exact ⟨_, List.mem_cons_self .., hab⟩
    · obtain ⟨b, hb, hr⟩ := ih ha
      exact ⟨b, List.mem_cons_of_mem _ hb, hr⟩

theorem flip (h : Forall₂ R as bs) : Forall₂ (fun b a => R a b) bs as := by
  induction h with
  | nil => exact .nil
  | cons hab _ ih => exact .cons hab ih

theorem right (h : Forall₂ R as bs) {b : β} (hb : b ∈ bs) : ∃ a ∈ as, R a b :=
  h.flip.left hb

theorem comp {P : α → γ → Prop} {Q : β → γ → Prop} {cs : List γ} (h : Forall₂ R as bs) (hp : Forall₂ P as cs)
    (hq : ∀ a b c, a ∈ as → R a b → P a c → Q b c) : Forall₂ Q bs cs := by
  induction h generalizing cs with
  | nil => cases hp; exact .nil
  | cons hab _ ih =>
    cases hp with
    | cons hac hp =>
      exact .cons (hq _ _ _ (List.mem_cons_self ..) hab hac) (ih hp fun a b c ha => hq a b c (List.mem_cons_of_mem _ ha))

end Forall₂

theorem renderList_eq_some {rd : Val → Option Tree} {vs : List Val} {ts : List Tree} :
    renderList rd vs = some ts ↔ Forall₂ (fun v t => rd v = some t) vs ts := by
  induction vs generalizing ts with
  | nil => exact ⟨fun h => Option.some.inj h ▸ .nil, fun h => by cases h; rfl⟩
  | cons v vs ih =>
    unfold renderList
    constructor
    · intro h
      split at h
      · cases h
      · next t hv =>
        split at h
        · cases h
        · next ts' hl => cases h; exact .cons hv (ih.1 hl)
    · rintro (_ | ⟨hv, hl⟩)
      rw [hv, ih.2 hl]

theorem renderList_congr {rd rd' : Val → Option Tree} {vs : List Val} (h : ∀ k ∈ vs, rd' k = rd k) :
    renderList rd' vs = renderList rd vs := by
  induction vs with
  | nil => rfl
  | cons v vs ih =>
    unfold renderList
    rw [h v (List.mem_cons_self ..), ih fun k hk => h k (List.mem_cons_of_mem _ hk)]

theorem addrsList_eq_some {ad : Val → Option (List Addr)} {vs : List Val} {xs : List Addr} :
    addrsList ad vs = some xs ↔ ∃ xss, Forall₂ (fun v ys => ad v = some ys) vs xss ∧ xss.flatten = xs := by
  induction vs generalizing xs with
  | nil => exact ⟨fun h => ⟨[], .nil, Option.some.inj h⟩, fun ⟨_, h, e⟩ => by cases h; exact congrArg some e⟩
  | cons v vs ih =>
    rw [addrsList]
    constructor
    · intro h
      split at h
      · cases h
      · next ys hv =>
        split at h
        · cases h
        · next zs hvs =>
          obtain ⟨xss, hx, rfl⟩ := ih.1 hvs
          cases h
          exact ⟨ys :: xss, .cons hv hx, rfl⟩
    · rintro ⟨_, (_ | ⟨hv, hx⟩), rfl⟩
      rw [hv, ih.2 ⟨_, hx, rfl⟩]
      rfl

theorem ptr_retag {v : Val} {a : Addr} (a' : Addr) (h : ptr? v = some a) : ptr? (retag v a') = some a' := by
  cases v <;> first | rfl | cases h

theorem tagOk_retag (v : Val) (a' : Addr) (obj : Obj) : tagOk (retag v a') obj = tagOk v obj := by
  cases v <;> first | rfl | (cases obj <;> rfl)

theorem tagOk_withKids (v : Val) (obj : Obj) (ks : List Val) : tagOk v (obj.withKids ks) = tagOk v obj := by
  cases v <;> first | rfl | (cases obj <;> rfl)

theorem kids_withKids (obj : Obj) (ks : List Val) (h : obj.kids.length = ks.length) :
    (obj.withKids ks).kids = ks := by
  cases obj with
  | struct _ | array _ => rfl
  | variant tag x =>
    obtain ⟨k, rfl⟩ := List.length_eq_one_iff.1 h.symm
    rfl
  | str _ | chan _ =>
    cases List.length_eq_zero_iff.1 h.symm
    rfl

/-- the tree of a scalar -/
def Val.leaf : Val → Tree
  | .int n => .int n
  | .float b => .float b
  | .bool b => .bool b
  | .addr p => .addr p
  | _ => .int 0

/-- the tree of an object whose slots render as `ts` -/
def Obj.tree : Obj → List Tree → Tree
  | .struct _, ts => .struct ts
  | .array _, ts => .array ts
  | .variant tag _, ts => .variant tag (ts.headD (.int 0))
  | .str bs, _ => .str bs
  | .chan q, _ => .chan q

theorem tree_withKids (obj : Obj) (ks : List Val) : (obj.withKids ks).tree = obj.tree := by
  cases obj <;> rfl

theorem render_succ (g : Nat) (H : Heaps) (v : Val) : render (g + 1) H v =
    (ptr? v).elim (some v.leaf) fun a => (lookup H a).bind fun obj =>
      if tagOk v obj then (renderList (render g H) obj.kids).map obj.tree else none := by
  cases v with
  | int _ | float _ | bool _ | addr _ => rfl
  | struct a | array a | variant a | str a | chan a =>
    -- `whnf` computes one step of the fuel recursion (so do the later proofs about `addrs` and the copies); then both
    -- sides split on `lookup H a`
    conv => lhs; whnf
    show _ = (lookup H a).bind _
    rcases lookup H a with _ | (_ | _ | ⟨tag, x⟩ | _ | _) <;> try rfl
    -- left: a variant value at a variant object, whose one slot the model renders directly, not as a list
    all_goals
      show (render g H x).map _ = (renderList (render g H) [x]).map _
      unfold renderList
      cases render g H x <;> rfl

theorem render_scalar {v : Val} (hp : ptr? v = none) (g : Nat) (H : Heaps) : render (g + 1) H v = some v.leaf := by
  rw [render_succ, hp]; rfl

theorem render_ptr {v : Val} {a : Addr} (hp : ptr? v = some a) {g : Nat} {H : Heaps} {tr : Tree} :
    render (g + 1) H v = some tr ↔ ∃ obj, lookup H a = some obj ∧ tagOk v obj = true ∧
      ∃ ts, Forall₂ (fun k t => render g H k = some t) obj.kids ts ∧ obj.tree ts = tr := by
  rw [render_succ, hp]
  simp only [Option.elim, Option.bind_eq_some_iff, Option.ite_none_right_eq_some, Option.map_eq_some_iff,
    renderList_eq_some]

theorem addrs_succ (f : Nat) (H : Heaps) (v : Val) : addrs (f + 1) H v =
    (ptr? v).elim (some []) fun a => (lookup H a).bind fun obj =>
      if tagOk v obj then (addrsList (addrs f H) obj.kids).map (a :: ·) else none := by
  cases v with
  | int _ | float _ | bool _ | addr _ => rfl
  | struct a | array a | variant a | str a | chan a =>
    conv => lhs; whnf
    show _ = (lookup H a).bind _
    rcases lookup H a with _ | (_ | _ | ⟨tag, x⟩ | _ | _) <;> try rfl
    all_goals
      show (addrs f H x).map _ = (addrsList (addrs f H) [x]).map _
      unfold addrsList
      cases addrs f H x <;> simp [addrsList]

theorem addrs_ptr {v : Val} {a : Addr} (hp : ptr? v = some a) {f : Nat} {H : Heaps} {xs : List Addr} :
    addrs (f + 1) H v = some xs ↔ ∃ obj, lookup H a = some obj ∧ tagOk v obj = true ∧
      ∃ ys, addrsList (addrs f H) obj.kids = some ys ∧ a :: ys = xs := by
  rw [addrs_succ, hp]
  simp only [Option.elim, Option.bind_eq_some_iff, Option.ite_none_right_eq_some, Option.map_eq_some_iff]

theorem deepCopyOld_succ (f : Nat) (H : Heaps) (t : Nat) (v : Val) : deepCopyOld (f + 1) H t v =
    (ptr? v).elim (some (v, H)) fun a => (lookup H a).bind fun obj =>
      if tagOk v obj then
        (copyListOld (fun H v => deepCopyOld f H t v) H obj.kids).map fun r =>
          (retag v (alloc r.2 t (obj.withKids r.1)).1, (alloc r.2 t (obj.withKids r.1)).2)
      else none := by
  cases v with
  | int _ | float _ | bool _ | addr _ => rfl
  | struct a | array a | str a | chan a =>
    conv => lhs; whnf
    show _ = (lookup H a).bind _
    rcases lookup H a with _ | (fs | fs | _ | _ | _) <;> try rfl
    all_goals
      dsimp only
      show _ = (copyListOld _ H fs).map _
      rcases copyListOld (fun H v => deepCopyOld f H t v) H fs with _ | ⟨_, _⟩ <;> rfl
  | variant a =>
    conv => lhs; whnf
    show _ = (lookup H a).bind _
    rcases lookup H a with _ | (_ | _ | ⟨tag, x⟩ | _ | _) <;> try rfl
    show _ = (copyListOld _ H [x]).map _
    dsimp only [copyListOld]
    rcases deepCopyOld f H t x with _ | ⟨_, _⟩ <;> rfl

theorem render_mono {H H' : Heaps} (he : Ext H H') : ∀ f v tr, render f H v = some tr → render f H' v = some tr := by
  intro f
  induction f with
  | zero => intro v tr h; cases h
  | succ f ih =>
    intro v tr h
    cases hp : ptr? v with
    | none => rw [render_scalar hp] at h ⊢; exact h
    | some a =>
      obtain ⟨obj, hl, htag, ts, hts, htr⟩ := (render_ptr hp).1 h
      exact (render_ptr hp).2 ⟨obj, he a obj hl, htag, ts, hts.imp fun k t _ => ih k t, htr⟩

theorem addrs_mono {H H' : Heaps} (he : Ext H H') : ∀ f v xs, addrs f H v = some xs → addrs f H' v = some xs := by
  intro f
  induction f with
  | zero => intro v xs h; cases h
  | succ f ih =>
    intro v xs h
    cases hp : ptr? v with
    | none => rw [addrs_succ, hp] at h ⊢; exact h
    | some a =>
      obtain ⟨obj, hl, htag, ys, hys, hxs⟩ := (addrs_ptr hp).1 h
      obtain ⟨yss, hy, hf⟩ := addrsList_eq_some.1 hys
      exact (addrs_ptr hp).2 ⟨obj, he a obj hl, htag, ys, addrsList_eq_some.2 ⟨yss, hy.imp fun k zs _ => ih k zs, hf⟩, hxs⟩

/-- Two heaps that hold the same objects at the pointers of a set of values closed under `Obj.kids` render every
    value of the set alike. -/
theorem render_agree {H H' : Heaps} (P : Val → Prop)
    (hkid : ∀ v a obj k, P v → ptr? v = some a → lookup H a = some obj → k ∈ obj.kids → P k)
    (hag : ∀ v a, P v → ptr? v = some a → lookup H' a = lookup H a) :
    ∀ g v, P v → render g H' v = render g H v := by
  intro g
  induction g with
  | zero => intro v _; rfl
  | succ g ih =>
    intro v hv
    rw [render_succ, render_succ]
    cases hp : ptr? v with
    | none => rfl
    | some a =>
      simp only [Option.elim, hag v a hv hp]
      cases hl : lookup H a with
      | none => rfl
      | some obj =>
        simp only [Option.bind_some, renderList_congr fun k hk => ih k (hkid v a obj k hv hp hl hk)]

theorem render_congr {H H' : Heaps} : ∀ f v xs, addrs f H v = some xs →
    (∀ a ∈ xs, lookup H' a = lookup H a) → render f H' v = render f H v := by
  intro f v xs h hag
  -- the values whose addresses `addrs` (with some fuel) lists among `xs`
  refine render_agree (fun w => ∃ f ys, addrs f H w = some ys ∧ ∀ a ∈ ys, a ∈ xs) ?_ ?_ f v ⟨f, xs, h, fun _ ha => ha⟩
  · rintro w a obj k ⟨f, ys, hw, hsub⟩ hp hl hk
    cases f with
    | zero => cases hw
    | succ f =>
      obtain ⟨obj', hl', _, zs, hzs, rfl⟩ := (addrs_ptr hp).1 hw
      cases hl.symm.trans hl'
      obtain ⟨zss, hz, rfl⟩ := addrsList_eq_some.1 hzs
      obtain ⟨ws, hwm, hws⟩ := hz.left hk
      exact ⟨f, ws, hws, fun x hx => hsub x (List.mem_cons_of_mem _ (List.mem_flatten.2 ⟨ws, hwm, hx⟩))⟩
  · rintro w a ⟨f, ys, hw, hsub⟩ hp
    cases f with
    | zero => cases hw
    | succ f =>
      obtain ⟨_, _, _, zs, _, rfl⟩ := (addrs_ptr hp).1 hw
      exact hag a (hsub a (List.mem_cons_self ..))

structure CopyOk (f : Nat) (t : Nat) (H : Heaps) (v : Val) (v' : Val) (H' : Heaps) : Prop where
  ext : Ext H H'
  same : ∃ tr, render f H' v = some tr ∧ render f H' v' = some tr
  own : ∃ xs, addrs f H' v' = some xs ∧ ∀ a ∈ xs, a.tid = t

structure CopyListOk (f : Nat) (t : Nat) (H : Heaps) (vs : List Val) (vs' : List Val) (H' : Heaps) : Prop where
  ext : Ext H H'
  same : ∃ ts, Forall₂ (fun v tr => render f H' v = some tr) vs ts ∧ Forall₂ (fun v tr => render f H' v = some tr) vs' ts
  own : ∃ xss, Forall₂ (fun v xs => addrs f H' v = some xs) vs' xss ∧ ∀ xs ∈ xss, ∀ a ∈ xs, a.tid = t

theorem copyListOld_ok (f t : Nat) (cp : Heaps → Val → Option (Val × Heaps))
    (hcp : ∀ H v v' H', cp H v = some (v', H') → CopyOk f t H v v' H') :
    ∀ vs H vs' H', copyListOld cp H vs = some (vs', H') → CopyListOk f t H vs vs' H' := by
  intro vs
  induction vs with
  | nil =>
    intro H vs' H' h
    cases h
    exact ⟨Ext.refl _, ⟨[], .nil, .nil⟩, ⟨[], .nil, nofun⟩⟩
  | cons v vs ih =>
    intro H vs' H' h
    rw [copyListOld] at h
    split at h
    · cases h
    · next v1 H1 h1 =>
      split at h
      · cases h
      · next vs2 H2 h2 =>
        cases h
        have c1 := hcp H v v1 H1 h1
        have c2 := ih _ _ _ h2
        obtain ⟨tr, s1, s2⟩ := c1.same
        obtain ⟨ts, l1, l2⟩ := c2.same
        obtain ⟨xs, o1, o2⟩ := c1.own
        obtain ⟨ys, p1, p2⟩ := c2.own
        exact ⟨c1.ext.trans c2.ext,
          ⟨tr :: ts, .cons (render_mono c2.ext f v tr s1) l1, .cons (render_mono c2.ext f v1 tr s2) l2⟩,
          ⟨xs :: ys, .cons (addrs_mono c2.ext f v1 xs o1) p1, List.forall_mem_cons.2 ⟨o2, p2⟩⟩⟩

/-- A successful pre-repair copy (`Value::deep_copy` before fix 0cb8741, no table) leaves the existing objects alone,
    returns a value that renders like its argument, and everything below the result belongs to thread `t`. -/
theorem deepCopyOld_ok (t : Nat) : ∀ f H v v' H', deepCopyOld f H t v = some (v', H') → CopyOk f t H v v' H' := by
  intro f
  induction f with
  | zero => intro H v v' H' h; cases h
  | succ f ih =>
    intro H v v' H' h
    rw [deepCopyOld_succ] at h
    cases hp : ptr? v with
    | none =>
      rw [hp] at h
      cases h
      exact ⟨Ext.refl _, ⟨_, render_scalar hp f H, render_scalar hp f H⟩, ⟨[], by rw [addrs_succ, hp]; rfl, nofun⟩⟩
    | some a =>
      simp only [hp, Option.elim, Option.bind_eq_some_iff, Option.ite_none_right_eq_some, Option.map_eq_some_iff] at h
      obtain ⟨obj, hl, htag, ⟨ks, H1⟩, hc, hres⟩ := h
      cases hres
      have c := copyListOld_ok f t _ ih obj.kids H ks H1 hc
      have e2 := alloc_ext H1 t (obj.withKids ks)
      obtain ⟨ts, l1, l2⟩ := c.same
      obtain ⟨xs, o1, o2⟩ := c.own
      have hks := kids_withKids obj ks (l1.length_eq.trans l2.length_eq.symm)
      have hp' := ptr_retag (alloc H1 t (obj.withKids ks)).1 hp
      have htag' : tagOk (retag v (alloc H1 t (obj.withKids ks)).1) (obj.withKids ks) = true :=
        (tagOk_withKids ..).trans ((tagOk_retag ..).trans htag)
      refine ⟨c.ext.trans e2, ⟨obj.tree ts, ?_, ?_⟩, ⟨(alloc H1 t (obj.withKids ks)).1 :: xs.flatten, ?_, ?_⟩⟩
      · exact (render_ptr hp).2 ⟨obj, c.ext.trans e2 a obj hl, htag, ts, l1.imp fun k tr _ => render_mono e2 f k tr, rfl⟩
      · exact (render_ptr hp').2 ⟨_, lookup_alloc_new .., htag', ts,
          by rw [hks]; exact l2.imp fun k tr _ => render_mono e2 f k tr, congrFun (tree_withKids obj ks) ts⟩
      · exact (addrs_ptr hp').2 ⟨_, lookup_alloc_new .., htag', _,
          by rw [hks]; exact addrsList_eq_some.2 ⟨xs, o1.imp fun k ys _ => addrs_mono e2 f k ys, rfl⟩, rfl⟩
      · intro x hx
        rcases List.mem_cons.1 hx with rfl | hx
        · rfl
        · obtain ⟨ys, hys, hx⟩ := List.mem_flatten.1 hx
          exact o2 ys hys x hx

end Abra.Heap
