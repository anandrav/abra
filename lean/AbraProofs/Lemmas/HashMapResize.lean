import AbraProofs.Lemmas.HashMapInv
/-! For C27: `resize` re-links every occupied entry and keeps the invariant, the free
    list and the meaning of the table. -/
namespace Abra.Lib.HashMap

variable {K V : Type} {hash : K → Int} {eq : K → K → Bool}

/-- `RL` (re-link): the state of `resize`'s loop after the slots `< j` have been processed, as `WF` states the
    bucket chains; `relink_spec` concludes it for `j = n`, where it is what the loop has achieved -/
structure RL (m' : Nat) (hashes : List Int) (occupied : List Bool) (nexts0 : List Int) (n : Nat)
    (j : Nat) (bk nx : List Int) (ch : Nat → List Nat) : Prop where
  lenB : bk.length = m'
  lenN : nx.length = n
  untouched : ∀ i : Nat, occupied[i]? ≠ some true → nx[i]? = nexts0[i]?
  chain : ∀ b, b < m' → ∃ s, bk[b]? = some s ∧ Chain nx s (ch b)
  nodup : ∀ b, b < m' → (ch b).Nodup
  inBucket : ∀ b, b < m' → ∀ i ∈ ch b, i < j ∧ occupied[i]? = some true ∧ ∃ h, hashes[i]? = some h ∧ h % (m' : Int) = b
  complete : ∀ (i : Nat) (h : Int), i < j → occupied[i]? = some true → hashes[i]? = some h → i ∈ ch (h % (m' : Int)).toNat

theorem relink_spec (m' : Nat) (hm' : m' ≠ 0) (hashes : List Int) (occupied : List Bool) (nexts0 : List Int) (n : Nat)
    (lenH : hashes.length = n) (lenO : occupied.length = n) :
    ∀ (todo j : Nat) (bk nx : List Int) (ch : Nat → List Nat), j + todo = n → bk.length = m' → nx.length = n →
      (∀ i : Nat, occupied[i]? ≠ some true → nx[i]? = nexts0[i]?) →
      Buckets bk nx (slotHome m' hashes (occupied.take j)) ch →
      ∃ bk' nx' ch', relink m' hashes occupied todo j bk nx = .ok (bk', nx') ∧
        RL m' hashes occupied nexts0 n n bk' nx' ch' := by
  intro todo
  induction todo with
  | zero =>
    intro j bk nx ch hj lenB lenN unt B
    cases (Nat.add_zero j).symm.trans hj
    -- all slots are processed: the loop state is what `Buckets` says of the whole `occupied`
    rw [List.take_of_length_le (Nat.le_of_eq lenO)] at B
    subst lenB
    exact ⟨bk, nx, ch, rfl, rfl, lenN, unt, fun b hb => (B b hb).head, fun b hb => (B b hb).nodup,
      fun b hb i hi => let ⟨ho, rest⟩ := B.inBucket b hb i hi; ⟨lenO ▸ getElem?_lt ho, ho, rest⟩,
      fun i h _ ho hh => B.complete hm' i h ho hh⟩
  | succ todo ih =>
    intro j bk nx ch hj lenB lenN unt B
    have hjn : j < n := hj ▸ Nat.lt_add_of_pos_right (Nat.succ_pos todo)
    have hj' : j + 1 + todo = n := (Nat.add_right_comm j 1 todo).trans hj
    obtain ⟨o, hocc⟩ := getElem?_of_lt (lenO.symm ▸ hjn)
    obtain ⟨h, hh⟩ := getElem?_of_lt (lenH.symm ▸ hjn)
    -- where the first `j + 1` slots belong, given where the first `j` do
    have hlen : (occupied.take j).length = j := List.length_take_of_le (lenO ▸ Nat.le_of_lt hjn)
    have hw := slotHome_write (m := m') (occ := occupied.take j) (occ' := occupied.take (j + 1)) (o := o)
      (fun i => by
        have h := (Put.concat (occupied.take j) o).2 i
        rw [hlen] at h
        rw [List.take_add_one, hocc]
        exact h)
      (fun _ _ => rfl) hh
    have hj0 : slotHome m' hashes (occupied.take j) j = none :=
      slotHome_of_not_occ (by rw [List.getElem?_take, if_neg (Nat.lt_irrefl j)]; nofun)
    simp only [relink, getI_nat hocc]
    cases o with
    | true =>
      obtain ⟨b, hbi, hb, hbm⟩ := bucketIdx_range h m' hm'
      obtain ⟨s, hs, _⟩ := (B b (lenB.symm ▸ hb)).head
      have e : (h % (m' : Int)).toNat = b := congrArg Int.toNat hbm.symm
      simp only [if_true, getI_nat hh, hbi, getI_nat hs, setI_nat nx s (lenN.symm ▸ hjn),
        setI_nat bk (j : Int) (lenB.symm ▸ hb)]
      refine ih (j + 1) _ _ (fun b' => if b' = b then j :: ch b else ch b') hj' (List.length_set.trans lenB)
        (List.length_set.trans lenN) (fun i hi => ?_)
        (B.link hs hj0 (List.getElem?_set_self (lenN.symm ▸ hjn)) (fun i hi => List.getElem?_set_ne (Ne.symm hi))
          fun i => by rw [hw i, if_pos rfl, e])
      rw [List.getElem?_set_ne (fun e : j = i => hi (e ▸ hocc))]
      exact unt i hi
    | false =>
      simp only [Bool.false_eq_true, if_false]
      refine ih (j + 1) bk nx ch hj' lenB lenN unt ?_
      have : slotHome m' hashes (occupied.take (j + 1)) = slotHome m' hashes (occupied.take j) := by
        funext i
        rw [hw i, if_neg Bool.false_ne_true]
        split
        · subst i; exact hj0.symm
        · rfl
      exact this ▸ B

theorem resize_spec (t : Table K V) (d : K → Option V) (hm : Models hash eq t d) :
    ∃ t', resize t = .ok t' ∧ Models hash eq t' d ∧ t'.count = t.count ∧
      t'.buckets.length = (if t.buckets.length = 0 then 4 else t.buckets.length * 2) ∧ t'.buckets.length ≠ 0 := by
  obtain ⟨⟨ch, fr, wf⟩, hd⟩ := hm
  generalize hm' : (if t.buckets.length = 0 then 4 else t.buckets.length * 2) = m'
  have hpos : m' ≠ 0 := by rw [← hm']; split <;> omega
  have init : slotHome m' t.hashes (t.occupied.take 0) = fun _ => none :=
    funext fun _ => slotHome_of_not_occ (by simp)
  obtain ⟨bk', nx', ch', hr, rl⟩ := relink_spec m' hpos t.hashes t.occupied t.nexts t.keys.length wf.lenH wf.lenO
    t.keys.length 0 _ _ _ (Nat.zero_add _) List.length_replicate wf.lenN (fun _ _ => rfl)
    (init ▸ Buckets.empty m' t.nexts)
  obtain ⟨lenB, lenN, unt, hc, hn, hin, hco⟩ := rl
  subst lenB
  refine ⟨{ t with buckets := bk', nexts := nx' }, by simp only [resize, hm', hr], ⟨⟨ch', fr, ?_⟩, hd⟩, rfl, rfl, hpos⟩
  refine { wf with
    lenN := lenN
    noBuckets := fun h0 => absurd h0 hpos
    chain := hc
    nodup := hn
    inBucket := fun b hb i hi => (hin b hb i hi).2
    complete := fun i h ho hh => hco i h (wf.lenO ▸ getElem?_lt ho) ho hh
    freeChain := ?_ }
  -- the free list runs through unoccupied slots, whose `next` the loop left alone
  exact wf.freeChain.congr fun i hi => unt i (by rw [(wf.freeIff i).mp hi]; nofun)

end Abra.Lib.HashMap
