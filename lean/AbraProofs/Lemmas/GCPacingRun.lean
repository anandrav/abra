import AbraProofs.Lemmas.GCPacing
/-! Pacing of the collector, continued: the invariant of the counters, what one call of `maybe_gc` achieves
    when the debt covers the heap, the mutator's byte contract, and what a VM instruction does to the ghost
    quantities of a running cycle. -/
namespace Abra.GCP
open Abra.GC

/-- the invariant of a pacing state: the invariant of M5, a duplicate-free gray stack, `heap_size` is the
    sum of the object sizes, **the debt covers the heap**, and a running cycle has a positive debt -/
structure PInv (p : PSt) : Prop where
  inv : Inv p.g
  nodup : p.g.gray.Nodup
  acct : p.heapBytes = sumSize p.size p.g.heap
  debt : p.heapBytes ≤ p.debt
  pos : p.g.phase ≠ .idle → 0 < p.debt

/-- What one VM instruction may do to a pacing state: the graph contract of M5, and on the byte side no
    object shrinks, `heap_size` is again the sum of the sizes, `gc_debt` grew by exactly as much as
    `heap_size`, `last_gc_heap_size` is untouched (see `pmutatorOKb`). -/
structure PMutatorOK (p p' : PSt) (new pushed : List Nat) : Prop where
  graph : MutatorOK p.g p'.g new pushed
  nodup : p'.g.gray.Nodup
  sizeMono : ∀ a ∈ p.g.heap, p.size a ≤ p'.size a
  acct : p'.heapBytes = sumSize p'.size p'.g.heap
  debt : p'.debt = p.debt + (p'.heapBytes - p.heapBytes)
  lastGc : p'.lastGc = p.lastGc

/-- **the slice covers the heap**: while a cycle runs, `2 * gc_debt` exceeds `heap_size` -/
theorem PInv.slice {p : PSt} (h : PInv p) (hp : p.g.phase ≠ .idle) : p.heapBytes < stepFactor * p.debt := by
  show p.heapBytes < 2 * p.debt
  rw [Nat.two_mul]; exact Nat.lt_of_le_of_lt h.debt (Nat.lt_add_of_pos_left (h.pos hp))

theorem pmut_grow {p p' : PSt} {new pushed : List Nat} (h : PInv p) (m : PMutatorOK p p' new pushed) :
    p.heapBytes ≤ p'.heapBytes := by
  rw [m.acct, h.acct, m.graph.heap, sumSize_append]
  exact Nat.le_trans (sumSize_le_sumSize m.sizeMono) (Nat.le_add_right ..)

theorem pmut_pinv {p p' : PSt} {new pushed : List Nat} (h : PInv p) (m : PMutatorOK p p' new pushed) :
    PInv p' := by
  have hd : p.debt ≤ p'.debt := m.debt ▸ Nat.le_add_right ..
  refine ⟨mutator_inv h.inv m.graph, m.nodup, m.acct, ?_, fun hp => ?_⟩
  · rw [m.debt]
    exact Nat.le_trans (Nat.le_of_eq (Nat.add_sub_of_le (pmut_grow h m)).symm) (Nat.add_le_add_right h.debt _)
  · exact Nat.lt_of_lt_of_le (h.pos (m.graph.phase ▸ hp)) hd

theorem maybeGc_start {p : PSt} (leak : Nat) (hp : p.g.phase = .idle) (hgt : p.heapBytes > p.lastGc * pauseFactor) :
    maybeGc p leak = { p with g := gcStart p.g } := by unfold maybeGc; rw [hp]; simp only [hgt, if_true]

theorem maybeGc_stay {p : PSt} (leak : Nat) (hp : p.g.phase = .idle)
    (hgt : ¬ p.heapBytes > p.lastGc * pauseFactor) : maybeGc p leak = p := by
  unfold maybeGc; rw [hp]; simp only [hgt, if_false]

theorem maybeGc_marking {p : PSt} (leak : Nat) (hp : p.g.phase = .marking) : maybeGc p leak = markIncr p leak := by
  unfold maybeGc; rw [hp]

theorem maybeGc_sweeping {p : PSt} (leak : Nat) (hp : p.g.phase = .sweeping) : maybeGc p leak = sweepIncr p := by
  unfold maybeGc; rw [hp]

theorem markIncr_heap {p : PSt} (leak : Nat) : (markIncr p leak).g.heap = p.g.heap :=
  (finishMark_heap _).trans (markLoop_ext ..).heap

/-- what a marking increment keeps whatever its slice; and if the slice covers the heap it empties the gray
    stack, and when the root rescan then keeps the collector in Marking it has marked a white object of `L`
    (this is what bounds the calls of a cycle) -/
theorem markIncr_spec {p : PSt} {L : Nat → Prop} (leak : Nat) (h : PInv p) (hp : p.g.phase = .marking)
    (hL : InvL p.g L) :
    PInv (markIncr p leak) ∧ InvL (markIncr p leak).g L ∧ (markIncr p leak).g.phase ≠ .idle ∧
    whiteIn (markIncr p leak).g L ≤ whiteIn p.g L ∧
    (leak + p.heapBytes < stepFactor * p.debt →
      (markLoop p.size (markFuel p.g) (stepFactor * p.debt - leak) p.g).gray = [] ∧
      ((markIncr p leak).g.phase = .sweeping ∨
       ((markIncr p leak).g.phase = .marking ∧ whiteIn (markIncr p leak).g L + 1 ≤ whiteIn p.g L))) := by
  have hM0 := (inv_marking hp).1 h.inv
  obtain ⟨hM, hn, hL'⟩ := markLoop_inv p.size (markFuel p.g) (stepFactor * p.debt - leak) p.g hM0 h.nodup hL
  have hext := markLoop_ext p.size (markFuel p.g) (stepFactor * p.debt - leak) p.g
  have hph := hext.phase.trans hp
  have hw := whiteIn_ext L hext
  refine ⟨⟨finishMark_inv hM hph, finishMark_nodup hM hn, ?_, h.debt, fun _ => h.pos (ne_idle_of_marking hp)⟩,
    finishMark_invL hL' hM.done, finishMark_phase_ne_idle hph, Nat.le_trans (finishMark_whiteIn_le L) hw,
    fun hc => ?_⟩
  · show p.heapBytes = sumSize p.size (markIncr p leak).g.heap
    rw [markIncr_heap]; exact h.acct
  · have hpsi : psi p.size p.g < stepFactor * p.debt - leak :=
      Nat.lt_of_le_of_lt (h.acct ▸ sumSize_filter_le p.size _ _) (Nat.lt_sub_of_add_lt (Nat.add_comm .. ▸ hc))
    have hdr := markLoop_drains p.size _ _ p.g hM0 h.nodup hpsi (Nat.add_le_add_left (List.length_filter_le _ _) _)
    exact ⟨hdr, (finishMark_progress hM hph hL' hdr).imp_right (And.imp_right fun h2 => Nat.le_trans h2 hw)⟩

/-- Under the invariant the slice `2 * gc_debt` always exceeds the bytes still to be swept, so one sweeping
    increment finishes the sweep: the collector is idle again, `last_gc_heap_size` is the new `heap_size`,
    and what is left of the heap lies in the ghost set. -/
theorem sweepIncr_spec {p : PSt} {L : Nat → Prop} (h : PInv p) (hp : p.g.phase = .sweeping)
    (hL : InvL p.g L) :
    PInv (sweepIncr p) ∧ InvL (sweepIncr p).g L ∧ (sweepIncr p).g.phase = .idle ∧
    (sweepIncr p).lastGc = (sweepIncr p).heapBytes ∧ (sweepIncr p).heapBytes ≤ p.heapBytes ∧
    (sweepIncr p).heapBytes ≤ bytesIn p L ∧ ∀ a ∈ (sweepIncr p).g.heap, L a := by
  have hsw : SwInv p L := ⟨(inv_sweeping hp).1 h.inv, hp, hL, h.acct⟩
  have htodo : sumSize p.size p.g.todo ≤ p.heapBytes := by
    rw [h.acct]; unfold St.heap; rw [sumSize_append]; exact Nat.le_add_left ..
  obtain ⟨hsw1, hdebt, hle, hbytes, hfin⟩ := sweepLoop_spec p.g.todo.length 0 (stepFactor * p.debt) p hsw
    (Or.inr (by rw [Nat.zero_add]; exact Nat.lt_of_le_of_lt htodo (h.slice (ne_idle_of_sweeping hp))))
    (Nat.le_refl _)
  unfold sweepIncr
  simp only [hfin]
  generalize sweepLoop p.g.todo.length 0 (stepFactor * p.debt) p = p1 at *
  have hph : (sweepTail p1.g).phase = .idle := by rw [sweepTail_nil hfin]
  obtain ⟨hL', hidle⟩ := sweepTail_invL hsw1.invL hsw1.phase
  have hacct : p1.heapBytes = sumSize p1.size (sweepTail p1.g).heap := by rw [sweepTail_heap]; exact hsw1.acct
  refine ⟨⟨sweepTail_inv hsw1.invS hsw1.phase, ?_, hacct, ?_, fun hne => absurd hph hne⟩,
    hL', hph, trivial, hle, Nat.le_trans (Nat.le_of_eq ?_) hbytes, hidle hph⟩
  · rw [sweepTail_nil hfin]; show p1.g.gray.Nodup; rw [hsw1.invS.gray]; exact List.nodup_nil
  · show p1.heapBytes ≤ p1.debt; rw [hdebt]; exact Nat.le_trans hle h.debt
  · show p1.heapBytes = bytesIn p1 L
    unfold bytesIn
    rw [List.filter_eq_self.2 fun x hx => (inL_iff L x).2 (hidle hph x (by rwa [sweepTail_heap])), hsw1.acct]

theorem start_pinv {p : PSt} (h : PInv p) (hp : p.g.phase = .idle) (hgt : p.heapBytes > p.lastGc * pauseFactor) :
    PInv { p with g := gcStart p.g } := by
  have hI := (inv_idle hp).1 h.inv
  refine ⟨gcStart_inv h.inv, ?_, (gcStart_heap p.g).symm ▸ h.acct, h.debt,
    fun _ => Nat.lt_of_lt_of_le (Nat.lt_of_le_of_lt (Nat.zero_le _) hgt) h.debt⟩
  show (gcStart p.g).gray.Nodup
  rw [gcStart_idle hp]
  exact (markAll_gray_nodup (σ := p.g) (by simp [hI.gray]) (hI.gray ▸ List.nodup_nil)).2

theorem maybeGc_pinv {p : PSt} (leak : Nat) (h : PInv p) : PInv (maybeGc p leak) := by
  cases hp : p.g.phase with
  | idle =>
    by_cases hgt : p.heapBytes > p.lastGc * pauseFactor
    · rw [maybeGc_start leak hp hgt]; exact start_pinv h hp hgt
    · rwa [maybeGc_stay leak hp hgt]
  | marking => rw [maybeGc_marking leak hp]; exact (markIncr_spec leak h hp (invL_top _)).1
  | sweeping => rw [maybeGc_sweeping leak hp]; exact (sweepIncr_spec h hp (invL_top _)).1

/-- bytes and number of the heap entries reachable from the roots -/
noncomputable def reachBytes (p : PSt) : Nat := bytesIn p (Reach p.g)
noncomputable def reachCount (p : PSt) : Nat := sumSize (fun _ => 1) (p.g.heap.filter (inL (Reach p.g)))

theorem inL_new {p p' : PSt} {new pushed : List Nat} (L : Nat → Prop) (m : PMutatorOK p p' new pushed)
    (x : Nat) (hx : x ∈ p.g.heap) : inL (fun a => L a ∨ a ∈ new) x = inL L x := by
  rw [Bool.eq_iff_iff, inL_iff, inL_iff]
  exact or_iff_left fun hn => m.graph.fresh x hn hx

theorem pmut_bytesIn {p p' : PSt} {new pushed : List Nat} {L : Nat → Prop} (h : PInv p)
    (m : PMutatorOK p p' new pushed) :
    bytesIn p' (fun a => L a ∨ a ∈ new) ≤ bytesIn p L + (p'.heapBytes - p.heapBytes) := by
  have h2 := sumSize_grow_part (inL L) m.sizeMono
  have h3 := sumSize_filter_le p'.size (inL (fun a => L a ∨ a ∈ new)) new
  have h4 := m.acct
  have h5 := h.acct
  rw [m.graph.heap, sumSize_append] at h4
  unfold bytesIn
  rw [m.graph.heap, sumSize_filter_append, List.filter_congr (inL_new L m)]
  omega

theorem pmut_whiteIn {p p' : PSt} {new pushed : List Nat} {L : Nat → Prop}
    (m : PMutatorOK p p' new pushed) (hp : p.g.phase ≠ .idle) :
    whiteIn p'.g (fun a => L a ∨ a ∈ new) ≤ whiteIn p.g L := by
  have hnew : new.filter (fun a => !p'.g.marked a && inL (fun a => L a ∨ a ∈ new) a) = [] :=
    List.filter_eq_nil_iff.2 fun x hx => by
      rw [m.graph.newMark x hx, (by simpa using hp : (p.g.phase != Phase.idle) = true)]; simp
  unfold whiteIn
  rw [m.graph.heap, List.filter_append, hnew, List.append_nil]
  refine sumSize_filter_mono _ fun x hx hq => ?_
  rw [inL_new L m x hx] at hq
  rcases m.graph.marks x hx with e | ⟨_, e, _⟩
  · rwa [← e]
  · rw [e]; exact (Bool.and_eq_true_iff.1 hq).2

end Abra.GCP
