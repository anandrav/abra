import AbraModel.Int64
/-! Helper lemmas for C15: what a checked arm produces from the exact result, when a truncated quotient
fits, and that the executable power loop computes the exact power or detects overflow. -/
namespace Abra.I64

theorem inRange_iff (x : Int) : inRange x = true ↔ MIN ≤ x ∧ x ≤ MAX := by
  simp [inRange]

theorem checked_some (x : Int) (h : inRange x = true) : checked x = some x :=
  if_pos h

theorem checked_none (x : Int) (h : inRange x = false) : checked x = none := by
  simp [checked, h]

/-- what every checked VM arm produces from the exact result `x` -/
theorem ofChecked_checked (x : Int) :
    ofChecked (checked x) = if MIN ≤ x ∧ x ≤ MAX then .val x else .overflow := by
  simp only [checked, inRange_iff]
  split <;> rfl

/-- In absolute value the range is `≤ 2^63` one way and `< 2^63` the other: `MIN` is the one point
    between. -/
theorem natAbs_le_of_inRange {x : Int} (h : MIN ≤ x ∧ x ≤ MAX) : x.natAbs ≤ 9223372036854775808 := by
  simp only [MIN, MAX] at h
  omega

theorem inRange_of_natAbs_lt {x : Int} (h : x.natAbs < 9223372036854775808) : MIN ≤ x ∧ x ≤ MAX := by
  simp only [MIN, MAX]
  omega

theorem two_le_natAbs {a : Int} (h0 : a ≠ 0) (h1 : a ≠ 1) (hm : a ≠ -1) : 2 ≤ a.natAbs :=
  Nat.lt_of_le_of_ne (Nat.pos_of_ne_zero (Int.natAbs_ne_zero.2 h0))
    fun h => (Int.natAbs_eq_iff.1 h.symm).elim h1 hm

/-- once out of range, multiplying on by a base of absolute value at least 2 never comes back -/
theorem not_inRange_mul {x a : Int} (hx : inRange x = false) (ha : 2 ≤ a.natAbs) :
    inRange (x * a) = false := by
  rw [Bool.eq_false_iff, Ne, inRange_iff] at *
  have h : 9223372036854775808 * 2 ≤ (x * a).natAbs :=
    Int.natAbs_mul .. ▸ Nat.mul_le_mul (Nat.le_of_not_lt fun h => hx (inRange_of_natAbs_lt h)) ha
  exact fun h' => absurd (Nat.le_trans h (natAbs_le_of_inRange h')) (by decide)

theorem not_inRange_mul_pow {x a : Int} (hx : inRange x = false) (ha : 2 ≤ a.natAbs) (e : Nat) :
    inRange (x * a ^ e) = false := by
  induction e with
  | zero => rwa [Int.pow_zero, Int.mul_one]
  | succ e ih =>
    rw [Int.pow_succ, ← Int.mul_assoc]
    exact not_inRange_mul ih ha

theorem powLoop_eq (a : Int) (h2 : 2 ≤ a.natAbs) :
    ∀ (e : Nat) (acc : Int), inRange acc = true → powLoop a e acc = checked (acc * a ^ e) := by
  intro e
  induction e with
  | zero => intro acc hacc; rw [powLoop, Int.pow_zero, Int.mul_one, checked_some acc hacc]
  | succ e ih =>
    intro acc hacc
    rw [powLoop, Int.pow_succ, Int.mul_comm (a ^ e) a, ← Int.mul_assoc]
    cases hr : inRange (acc * a) with
    | true => exact ih _ hr
    | false => exact (checked_none _ (not_inRange_mul_pow hr h2 e)).symm

theorem neg_inRange {a : Int} (ha : MIN ≤ a ∧ a ≤ MAX) : (MIN ≤ -a ∧ -a ≤ MAX) ↔ ¬ a = MIN := by
  simp only [MIN, MAX] at *
  omega

theorem tdiv_inRange {a b : Int} (ha : MIN ≤ a ∧ a ≤ MAX) (hb : b ≠ 0) :
    (MIN ≤ Int.tdiv a b ∧ Int.tdiv a b ≤ MAX) ↔ ¬ (a = MIN ∧ b = -1) := by
  by_cases h1 : b = 1
  · rw [h1, Int.tdiv_one]
    exact ⟨fun _ h => absurd h.2 (by decide), fun _ => ha⟩
  by_cases hm : b = -1
  · rw [hm, Int.tdiv_neg, Int.tdiv_one]
    exact (neg_inRange ha).trans ⟨fun h h' => h h'.1, fun h h' => h ⟨h', rfl⟩⟩
  -- otherwise `|b| ≥ 2`, and `|a tdiv b| = |a| / |b|` is at most half of `|a| ≤ 2^63`
  have h : (Int.tdiv a b).natAbs ≤ 9223372036854775808 / 2 :=
    Int.natAbs_tdiv a b ▸ Nat.le_trans (Nat.div_le_div_left (two_le_natAbs hb h1 hm) (by decide))
      (Nat.div_le_div_right (natAbs_le_of_inRange ha))
  exact ⟨fun _ h => hm h.2, fun _ => inRange_of_natAbs_lt (Nat.lt_of_le_of_lt h (by decide))⟩

theorem neg_one_pow (e : Nat) : (-1 : Int) ^ e = if e % 2 = 0 then 1 else -1 := by
  rw [Int.neg_pow, Int.one_pow, Int.mul_one]
  rcases Nat.mod_two_eq_zero_or_one e with h | h <;> rw [h] <;> rfl

/-- The executable power agrees with the mathematical one: `some (a^e)` iff it fits in 64 bits. -/
theorem checkedPow_eq (a : Int) (e : Nat) : checkedPow a e = checked (a ^ e) := by
  unfold checkedPow
  by_cases h0 : a = 0
  · rw [if_pos h0, h0]
    cases e with
    | zero => rfl
    | succ e => rw [Int.pow_succ, Int.mul_zero, if_neg (Nat.succ_ne_zero e)]; rfl
  by_cases h1 : a = 1
  · rw [if_neg h0, if_pos h1, h1, Int.one_pow]; rfl
  by_cases hm : a = -1
  · rw [if_neg h0, if_neg h1, if_pos hm, hm, neg_one_pow]
    split <;> rfl
  rw [if_neg h0, if_neg h1, if_neg hm, powLoop_eq a (two_le_natAbs h0 h1 hm) e 1 rfl, Int.one_mul]

end Abra.I64
