import AbraProofs.Lemmas.GCPacingRun
/-! Pacing of the collector, the run level: how many calls of `maybe_gc` a cycle can still take (`rho`), and the
    invariant `RInv` linking `heap_size`, `last_gc_heap_size`, the phase and the number of steps inside the
    cycle, from which the heap bound follows; at the end the soundness of the executable checks the driver and the
    example use (`pmutatorOKb_sound`, `reachBoundB` with `reachBoundB_sound`). -/
namespace Abra.GCP
open Abra.GC

/-- the budget charge of foreign gray entries is acceptable: there is none, or the slice still covers the heap -/
def LeakOK (p : PSt) (leak : Nat) : Prop := leak = 0 ∨ leak + p.heapBytes < stepFactor * p.debt

theorem leak_cover {p : PSt} {leak : Nat} (h : PInv p) (hp : p.g.phase ≠ .idle) (hl : LeakOK p leak) :
    leak + p.heapBytes < stepFactor * p.debt := by
  rcases hl with hl | hl
  · rw [hl, Nat.zero_add]; exact h.slice hp
  · exact hl

/-- an upper bound of the number of calls of `maybe_gc` the running cycle still needs: a marking increment
    that does not end marking has marked a white object of the ghost set -/
noncomputable def rho (p : PSt) (L : Nat → Prop) : Nat :=
  match p.g.phase with
  | .idle => 0
  | .marking => whiteIn p.g L + 2
  | .sweeping => 1

theorem rho_idle {p : PSt} (L : Nat → Prop) (hp : p.g.phase = .idle) : rho p L = 0 := by simp only [rho, hp]
theorem rho_marking {p : PSt} (L : Nat → Prop) (hp : p.g.phase = .marking) : rho p L = whiteIn p.g L + 2 := by
  simp only [rho, hp]
theorem rho_sweeping {p : PSt} (L : Nat → Prop) (hp : p.g.phase = .sweeping) : rho p L = 1 := by
  simp only [rho, hp]

theorem rho_pos {p : PSt} (L : Nat → Prop) (hp : p.g.phase ≠ .idle) : 1 ≤ rho p L := by
  cases h : p.g.phase with
  | idle => exact absurd h hp
  | marking => rw [rho_marking L h]; exact Nat.le_add_left 1 _
  | sweeping => rw [rho_sweeping L h]; exact Nat.le_refl _

theorem gc_cycle_step {p : PSt} {L : Nat → Prop} {leak : Nat} (h : PInv p) (hp : p.g.phase ≠ .idle)
    (hL : InvL p.g L) (hl : LeakOK p leak) :
    PInv (maybeGc p leak) ∧ InvL (maybeGc p leak).g L ∧ rho (maybeGc p leak) L + 1 ≤ rho p L ∧
    (maybeGc p leak).heapBytes ≤ p.heapBytes ∧
    ((maybeGc p leak).g.phase ≠ .idle →
      (maybeGc p leak).lastGc = p.lastGc ∧ bytesIn (maybeGc p leak) L ≤ bytesIn p L) ∧
    ((maybeGc p leak).g.phase = .idle →
      (maybeGc p leak).lastGc = (maybeGc p leak).heapBytes ∧ (maybeGc p leak).heapBytes ≤ bytesIn p L ∧
      ∀ a ∈ (maybeGc p leak).g.heap, L a) := by
  cases hph : p.g.phase with
  | idle => exact absurd hph hp
  | marking =>
    rw [maybeGc_marking leak hph]
    obtain ⟨h1, h2, h3, _, hcov⟩ := markIncr_spec (L := L) leak h hph hL
    refine ⟨h1, h2, ?_, Nat.le_refl _, fun _ => ⟨rfl, Nat.le_of_eq ?_⟩, fun hid => absurd hid h3⟩
    · rw [rho_marking L hph]
      rcases (hcov (leak_cover h hp hl)).2 with h4 | ⟨h4, h5⟩
      · rw [rho_sweeping L h4]; exact Nat.le_add_left 2 _
      · rw [rho_marking L h4, Nat.add_right_comm]; exact Nat.add_le_add_right h5 2
    · unfold bytesIn; rw [markIncr_heap]; rfl
  | sweeping =>
    rw [maybeGc_sweeping leak hph]
    obtain ⟨h1, h2, h3, h4, h5, h6, h7⟩ := sweepIncr_spec h hph hL
    refine ⟨h1, h2, ?_, h5, fun hne => absurd h3 hne, fun _ => ⟨h4, h6, h7⟩⟩
    rw [rho_idle L h3, rho_sweeping L hph]; exact Nat.le_refl 1

theorem gc_start_step {p : PSt} (leak : Nat) (h : PInv p) (hp : p.g.phase = .idle)
    (hgt : p.heapBytes > p.lastGc * pauseFactor) :
    PInv (maybeGc p leak) ∧ (maybeGc p leak).g.phase = .marking ∧ InvL (maybeGc p leak).g (Reach p.g) ∧
    (maybeGc p leak).heapBytes = p.heapBytes ∧ (maybeGc p leak).lastGc = p.lastGc ∧
    bytesIn (maybeGc p leak) (Reach p.g) = reachBytes p ∧
    rho (maybeGc p leak) (Reach p.g) ≤ reachCount p + 2 := by
  have hph : (gcStart p.g).phase = .marking := by rw [gcStart_idle hp]
  rw [maybeGc_start leak hp hgt]
  refine ⟨start_pinv h hp hgt, hph, gcStart_invL h.inv hp, rfl, rfl, ?_, ?_⟩
  · show sumSize p.size ((gcStart p.g).heap.filter _) = _
    rw [gcStart_heap]; rfl
  · rw [rho_marking _ hph]
    refine Nat.add_le_add_right ?_ 2
    unfold whiteIn reachCount; rw [gcStart_heap]
    exact sumSize_filter_mono _ fun _ _ hx => (Bool.and_eq_true_iff.1 hx).2

def StartsCycle (p : PSt) : Prop := p.g.phase = .idle ∧ p.heapBytes > p.lastGc * pauseFactor

/-- inside a cycle: `L` is the ghost set, `k` the number of `maybe_gc` calls since the one that started the
    cycle, `s` the bytes allocated since the last call, `rem` an upper bound of the calls the cycle still needs;
    `K` bounds the calls of a whole cycle -/
structure CycInv (R A K : Nat) (p : PSt) (s : Nat) (L : Nat → Prop) (k rem : Nat) : Prop where
  invL : InvL p.g L
  heap : p.heapBytes ≤ 2 * p.lastGc + A + k * A + s
  live : bytesIn p L ≤ R + k * A + s
  steps : k + 1 + rem ≤ K
  rem1 : 1 ≤ rem

/-- the invariant linking `heap_size`, `last_gc_heap_size`, the phase and the step count inside the cycle;
    `remOf L` is the bound of the remaining calls used in this state -/
structure RInv (R A K : Nat) (p : PSt) (s : Nat) (remOf : (Nat → Prop) → Nat) : Prop where
  pinv : PInv p
  since : s ≤ A
  last : p.lastGc ≤ R + K * A
  idle : p.g.phase = .idle → p.heapBytes ≤ 2 * p.lastGc + s
  cyc : p.g.phase ≠ .idle → ∃ (L : Nat → Prop) (k : Nat), CycInv R A K p s L k (remOf L)

theorem pinit_pinv : PInv pinit :=
  ⟨inv_empty rfl rfl rfl rfl rfl, List.nodup_nil, rfl, Nat.le_refl _, fun h => absurd rfl h⟩

theorem rinv_init (R A K : Nat) (remOf : (Nat → Prop) → Nat) : RInv R A K pinit 0 remOf :=
  ⟨pinit_pinv, Nat.zero_le _, Nat.zero_le _, fun _ => Nat.le_refl _, fun h => absurd rfl h⟩

/-! The arithmetic of the invariant: `c` is what does not move during a cycle (`2·lastGc + A` for the heap, `R` for
    the live bytes), every call of `maybe_gc` turns the `s ≤ A` bytes allocated since the last call into one
    more `A`, and a cycle has at most `K` calls. -/

theorem cyc_call {A k s x y c : Nat} (hs : s ≤ A) (hy : y ≤ x) (h : x ≤ c + k * A + s) :
    y ≤ c + (k + 1) * A + 0 := by
  rw [Nat.succ_mul, Nat.add_zero, ← Nat.add_assoc]
  exact Nat.le_trans hy (Nat.le_trans h (Nat.add_le_add_left hs _))

theorem cyc_alloc {y y' c s d : Nat} (hy : y' ≤ y + d) (h : y ≤ c + s) : y' ≤ c + (s + d) := by
  rw [← Nat.add_assoc]; exact Nat.le_trans hy (Nat.add_le_add_right h d)

/-- a call of `maybe_gc` preserves the invariant, given how the bound of the remaining calls evolves -/
theorem rinv_gc {R A K : Nat} {p : PSt} {s : Nat} {remOf remOf' : (Nat → Prop) → Nat} (leak : Nat)
    (h : RInv R A K p s remOf) (hl : LeakOK p leak)
    (hstart : StartsCycle p → reachBytes p ≤ R ∧ remOf' (Reach p.g) + 1 ≤ K ∧ 1 ≤ remOf' (Reach p.g))
    (hdec : ∀ L, p.g.phase ≠ .idle → InvL p.g L → (maybeGc p leak).g.phase ≠ .idle →
      remOf' L + 1 ≤ remOf L ∧ 1 ≤ remOf' L) :
    RInv R A K (maybeGc p leak) 0 remOf' := by
  by_cases hp : p.g.phase = .idle
  · by_cases hgt : p.heapBytes > p.lastGc * pauseFactor
    · obtain ⟨h1, h2, h3, h4, h5, h6, _⟩ := gc_start_step leak h.pinv hp hgt
      obtain ⟨hR, hK, hr1⟩ := hstart ⟨hp, hgt⟩
      have hne := ne_idle_of_marking h2
      refine ⟨h1, Nat.zero_le _, h5 ▸ h.last, fun hid => absurd hid hne,
        fun _ => ⟨Reach p.g, 0, h3, ?_, ?_, by rwa [Nat.zero_add, Nat.add_comm], hr1⟩⟩
      · rw [h4, h5, Nat.zero_mul]
        exact Nat.le_trans (h.idle hp) (Nat.add_le_add_left h.since _)
      · rw [h6, Nat.zero_mul]; exact hR
    · rw [maybeGc_stay leak hp hgt]
      refine ⟨h.pinv, Nat.zero_le _, h.last, fun _ => ?_, fun hne => absurd hp hne⟩
      rw [Nat.mul_comm]; exact Nat.le_of_not_gt hgt
  · obtain ⟨L, k, hc⟩ := h.cyc hp
    obtain ⟨h1, h2, _, h4, h5, h6⟩ := gc_cycle_step h.pinv hp hc.invL hl
    have hk : k + 1 ≤ K := Nat.le_trans (Nat.le_add_right ..) hc.steps
    by_cases hq : (maybeGc p leak).g.phase = .idle
    · obtain ⟨h7, h8, _⟩ := h6 hq
      refine ⟨h1, Nat.zero_le _, ?_, fun _ => ?_, fun hne => absurd hq hne⟩
      · rw [h7]
        exact Nat.le_trans (cyc_call h.since h8 hc.live) (Nat.add_le_add_left (Nat.mul_le_mul_right A hk) R)
      · rw [h7]; exact Nat.le_trans (Nat.le_mul_of_pos_left _ (by decide)) (Nat.le_add_right ..)
    · obtain ⟨h7, h8⟩ := h5 hq
      obtain ⟨hd1, hd2⟩ := hdec L hp hc.invL hq
      refine ⟨h1, Nat.zero_le _, h7 ▸ h.last, fun hid => absurd hid hq,
        fun _ => ⟨L, k + 1, h2, ?_, cyc_call h.since h8 hc.live, ?_, hd2⟩⟩
      · rw [h7]; exact cyc_call h.since h4 hc.heap
      · rw [Nat.add_assoc (k + 1), Nat.add_comm 1]
        exact Nat.le_trans (Nat.add_le_add_left hd1 _) hc.steps

theorem rinv_mut {R A K : Nat} {p p' : PSt} {s : Nat} {new pushed : List Nat}
    {remOf remOf' : (Nat → Prop) → Nat} (h : RInv R A K p s remOf)
    (m : PMutatorOK p p' new pushed) (hA : s + (p'.heapBytes - p.heapBytes) ≤ A)
    (hrem : ∀ L, p.g.phase ≠ .idle → 1 ≤ remOf L →
      remOf' (fun a => L a ∨ a ∈ new) ≤ remOf L ∧ 1 ≤ remOf' (fun a => L a ∨ a ∈ new)) :
    RInv R A K p' (s + (p'.heapBytes - p.heapBytes)) remOf' := by
  have hgrow := pmut_grow h.pinv m
  have hself : p'.heapBytes ≤ p.heapBytes + (p'.heapBytes - p.heapBytes) :=
    Nat.le_of_eq (Nat.add_sub_of_le hgrow).symm
  refine ⟨pmut_pinv h.pinv m, hA, m.lastGc ▸ h.last, fun hp => ?_, fun hp => ?_⟩
  · rw [m.lastGc]; exact cyc_alloc hself (h.idle (m.graph.phase ▸ hp))
  · rw [m.graph.phase] at hp
    obtain ⟨L, k, hc⟩ := h.cyc hp
    obtain ⟨hr1, hr2⟩ := hrem L hp hc.rem1
    refine ⟨fun a => L a ∨ a ∈ new, k, mutator_invL h.pinv.inv m.graph hc.invL, ?_,
      cyc_alloc (pmut_bytesIn h.pinv m) hc.live, ?_, hr2⟩
    · rw [m.lastGc]; exact cyc_alloc hself hc.heap
    · exact Nat.le_trans (Nat.add_le_add_left hr1 _) hc.steps

theorem bound_arith {R X x l y : Nat} (hl : l ≤ R + X) (hy : y ≤ X) (h : x ≤ 2 * l + y) :
    x ≤ 2 * R + 3 * X := by
  refine Nat.le_trans h (Nat.le_trans (Nat.add_le_add (Nat.mul_le_mul_left 2 hl) hy) (Nat.le_of_eq ?_))
  rw [Nat.mul_add, Nat.add_assoc, ← Nat.succ_mul]

theorem rinv_bound {R A K : Nat} {p : PSt} {s : Nat} {remOf : (Nat → Prop) → Nat} (hK : 1 ≤ K)
    (h : RInv R A K p s remOf) : p.heapBytes ≤ 2 * R + 3 * (K * A) := by
  by_cases hp : p.g.phase = .idle
  · have hA : A ≤ K * A := Nat.le_mul_of_pos_left A hK
    exact bound_arith h.last (Nat.le_trans h.since hA) (h.idle hp)
  · obtain ⟨L, k, hc⟩ := h.cyc hp
    have hk : k + 1 + 1 ≤ K := Nat.le_trans (Nat.add_le_add_left hc.rem1 _) hc.steps
    have h2 := cyc_call h.since (Nat.le_refl _) hc.heap
    rw [Nat.add_zero, Nat.add_assoc, Nat.add_comm A, ← Nat.succ_mul] at h2
    exact bound_arith h.last (Nat.mul_le_mul_right A hk) h2

theorem boundB_eq (R A N : Nat) : boundB R A N = 2 * R + 3 * ((N + 3) * A) := by
  unfold boundB; rw [← Nat.mul_assoc, Nat.mul_add]

theorem pmut_rho {p p' : PSt} {new pushed : List Nat} (L : Nat → Prop) (m : PMutatorOK p p' new pushed) :
    rho p' (fun a => L a ∨ a ∈ new) ≤ rho p L := by
  cases hp : p.g.phase with
  | idle => rw [rho_idle _ (m.graph.phase.trans hp)]; exact Nat.zero_le _
  | sweeping => rw [rho_sweeping _ (m.graph.phase.trans hp), rho_sweeping _ hp]; exact Nat.le_refl _
  | marking =>
    rw [rho_marking _ (m.graph.phase.trans hp), rho_marking _ hp]
    exact Nat.add_le_add_right (pmut_whiteIn m (ne_idle_of_marking hp)) 2

/-- the number of marking increments of the running cycle that ended with the rescan finding an unmarked root
    (the increment stayed in Marking), after the call `maybeGc p leak`; `hc` is the number before the call -/
def hitsAfter (p : PSt) (leak hc : Nat) : Nat :=
  match (maybeGc p leak).g.phase, p.g.phase with
  | .idle, _ => 0
  | _, .idle => 0
  | .marking, .marking => hc + 1
  | _, _ => hc

/-- with at most `M` rescan hits per cycle: remaining calls in Marking after `hc` hits -/
def rhoH (M : Nat) (p : PSt) (hc : Nat) : Nat :=
  match p.g.phase with
  | .idle => 0
  | .marking => (M - hc) + 2
  | .sweeping => 1

theorem rhoH_pos {M : Nat} {p : PSt} (hc : Nat) (hp : p.g.phase ≠ .idle) : 1 ≤ rhoH M p hc := by
  unfold rhoH
  cases h : p.g.phase with
  | idle => exact absurd h hp
  | marking => exact Nat.le_add_left 1 _
  | sweeping => exact Nat.le_refl _

theorem rinvH_gc {R A M : Nat} {p : PSt} {s hc : Nat} (leak : Nat)
    (h : RInv R A (M + 3) p s (fun _ => rhoH M p hc)) (hl : LeakOK p leak)
    (hstart : StartsCycle p → reachBytes p ≤ R) (hM : hitsAfter p leak hc ≤ M) :
    RInv R A (M + 3) (maybeGc p leak) 0 (fun _ => rhoH M (maybeGc p leak) (hitsAfter p leak hc)) := by
  refine rinv_gc leak h hl (fun hs => ?_) fun L hp hL hq => ⟨?_, rhoH_pos _ hq⟩
  · have h2 := (gc_start_step leak h.pinv hs.1 hs.2).2.1
    refine ⟨hstart hs, ?_, rhoH_pos _ (ne_idle_of_marking h2)⟩
    simp only [rhoH, hitsAfter, h2, hs.1]; omega
  · cases hph : p.g.phase with
    | idle => exact absurd hph hp
    | sweeping =>
      rw [maybeGc_sweeping leak hph] at hq
      exact absurd (sweepIncr_spec h.pinv hph hL).2.2.1 hq
    | marking =>
      -- the increment ends marking, or it is a rescan hit, and those are counted
      have hcov := ((markIncr_spec (L := L) leak h.pinv hph hL).2.2.2.2 (leak_cover h.pinv hp hl)).2
      rw [← maybeGc_marking leak hph] at hcov
      rcases hcov with h2 | ⟨h2, _⟩ <;> simp only [rhoH, hitsAfter, h2, hph] at hM ⊢ <;> omega

theorem rinvH_mut {R A M : Nat} {p p' : PSt} {s hc : Nat} {new pushed : List Nat}
    (h : RInv R A (M + 3) p s (fun _ => rhoH M p hc)) (m : PMutatorOK p p' new pushed)
    (hA : s + (p'.heapBytes - p.heapBytes) ≤ A) :
    RInv R A (M + 3) p' (s + (p'.heapBytes - p.heapBytes)) (fun _ => rhoH M p' hc) := by
  have e : rhoH M p' hc = rhoH M p hc := by unfold rhoH; rw [m.graph.phase]
  exact rinv_mut h m hA fun L hp h1 => by rw [e]; exact ⟨Nat.le_refl _, h1⟩

theorem nodupB_sound : ∀ {l : List Nat}, nodupB l = true → l.Nodup
  | [], _ => List.nodup_nil
  | a :: l, h => by
    simp only [nodupB, Bool.and_eq_true, Bool.not_eq_true', List.contains_eq_mem, decide_eq_false_iff_not] at h
    exact List.nodup_cons.2 ⟨h.1, nodupB_sound h.2⟩

theorem pmutatorOKb_sound {p p' : PSt} {fuel : Nat} (h : pmutatorOKb p p' fuel = true) :
    PMutatorOK p p' (p'.g.todo.drop p.g.todo.length) (p'.g.gray.take (p'.g.gray.length - p.g.gray.length)) := by
  simp only [pmutatorOKb, mutBytesOKb, Bool.and_eq_true, List.all_eq_true, decide_eq_true_eq, beq_iff_eq] at h
  obtain ⟨hg, ⟨⟨⟨⟨h1, h2⟩, h3⟩, h4⟩, h5⟩⟩ := h
  exact ⟨mutatorOKb_sound hg, nodupB_sound h5, h1, h2, h3, h4⟩

/-- executable sufficient check of a reachability bound: `S` contains the roots and is closed under children,
    and the heap entries in `S` have at most `R` bytes and are at most `N` -/
def reachBoundB (p : PSt) (S : List Nat) (R N : Nat) : Bool :=
  p.g.roots.all S.contains && S.all (fun a => (p.g.children a).all S.contains) &&
  decide (sumSize p.size (p.g.heap.filter S.contains) ≤ R) &&
  decide (sumSize (fun _ => 1) (p.g.heap.filter S.contains) ≤ N)

theorem reachBoundB_sound {p : PSt} {S : List Nat} {R N : Nat} (h : reachBoundB p S R N = true) :
    reachBytes p ≤ R ∧ reachCount p ≤ N := by
  simp only [reachBoundB, Bool.and_eq_true, List.all_eq_true, decide_eq_true_eq, List.contains_eq_mem] at h
  obtain ⟨⟨⟨h1, h2⟩, h3⟩, h4⟩ := h
  have hq : ∀ x ∈ p.g.heap, inL (Reach p.g) x = true → S.contains x = true := fun x _ hx => by
    simpa using reach_subset (S := (· ∈ S)) h1 h2 x ((inL_iff _ x).1 hx)
  exact ⟨Nat.le_trans (sumSize_filter_mono p.size hq) h3, Nat.le_trans (sumSize_filter_mono _ hq) h4⟩

theorem reachCount_le_bytes {p : PSt} (h : ∀ a ∈ p.g.heap, 1 ≤ p.size a) : reachCount p ≤ reachBytes p :=
  sumSize_le_sumSize fun a ha => h a (List.mem_filter.1 ha).1

end Abra.GCP
