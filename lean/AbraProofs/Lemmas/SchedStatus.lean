import AbraProofs.Lemmas.Sched
/-! Two parts.  What a call executes: channels and trace are touched by `exec` only (the `_ct` lemmas), so whatever
`exec` carries along holds after `loop` / `runN` (`runN_execs`, no hypothesis on the state; step accounting for C11 and
the channel invariant of SchedChan are instances).  Who is reported, with the main thread queued (`MainQueued`). -/
namespace Abra.Sched
variable {T V E : Type}

/-- the bookkeeping moves threads between queues: channels and trace (`_ct`) stay -/
theorem ftt_ct (r : Runtime T V E) (th : Thread T E) :
    (finishThreadTurn r th).1.chans = r.chans ∧ (finishThreadTurn r th).1.trace = r.trace := by
  rw [ftt_eq]
  by_cases hc : (th.isMain && th.done) = true
  · rw [if_pos hc]; exact ⟨rfl, rfl⟩
  · rw [if_neg hc]; exact ⟨rfl, rfl⟩

theorem drainAux_ct (ts : List (Thread T E)) (r : Runtime T V E) :
    (drainAux r ts).1.chans = r.chans ∧ (drainAux r ts).1.trace = r.trace := by
  induction ts generalizing r with
  | nil => exact ⟨rfl, rfl⟩
  | cons t rest ih =>
    rw [drainAux]
    by_cases hc : (finishThreadTurn r t).2 = true
    · rw [if_pos hc]; exact ftt_ct r t
    · rw [if_neg hc, (ih _).1, (ih _).2]; exact ftt_ct r t

theorem endTurn_ct (r : Runtime T V E) (th : Thread T E) :
    (endTurn r th).1.chans = r.chans ∧ (endTurn r th).1.trace = r.trace := by
  have h1 := ftt_ct r th
  have h2 := drainAux_ct (finishThreadTurn r th).1.newThreads (finishThreadTurn r th).1
  unfold endTurn
  by_cases hc : (finishThreadTurn r th).2 = true
  · rw [if_pos hc]; exact h1
  · rw [if_neg hc]; exact ⟨h2.1.trans h1.1, h2.2.trans h1.2⟩

def SkipRes.rt : SkipRes T V E → Runtime T V E
  | .exit r => r
  | .mainDone r => r
  | .run _ r => r

theorem skipPhase_ct (f k : Nat) (r : Runtime T V E) :
    (skipPhase f k r).rt.chans = r.chans ∧ (skipPhase f k r).rt.trace = r.trace := by
  induction f generalizing k r with
  | zero => exact ⟨rfl, rfl⟩
  | succ f ih =>
    rw [skipPhase_step]
    by_cases hk : r.runQueue.length ≤ k
    · rw [if_pos hk]; exact ⟨rfl, rfl⟩
    · rw [if_neg hk]
      cases r.runQueue with
      | nil => exact ⟨rfl, rfl⟩
      | cons th rest =>
        have h := endTurn_ct { r with runQueue := rest } th
        dsimp only
        by_cases hc : th.canRun = true
        · rw [if_pos hc]; exact ⟨rfl, rfl⟩
        · rw [if_neg hc]
          by_cases he : (endTurn { r with runQueue := rest } th).2 = true
          · rw [if_pos he]; exact h
          · rw [if_neg he, (ih _ _).1, (ih _ _).2]; exact h

/-- **What a call executes.**  `loop` executes `steps_run - s ≤ rem` instructions, each an `exec` on the channels
    and the trace the previous one left (whichever thread runs it, whatever the queues look like): a property of
    (number executed, channels, trace) that `exec` carries from `n` to `n + 1` holds at the end for `steps_run`. -/
theorem loop_execs (step : T → Action T V E) (P : Nat → List (List V) → List (Event V E) → Prop)
    (hexec : ∀ n (r : Runtime T V E) th, P n r.chans r.trace →
      P (n + 1) (exec step r th).1.chans (exec step r th).1.trace)
    (rem s : Nat) (r : Runtime T V E) (h : P s r.chans r.trace) :
    P (loop step rem s r).2.2 (loop step rem s r).1.chans (loop step rem s r).1.trace ∧
      (loop step rem s r).2.2 ≤ s + rem := by
  induction rem generalizing s r with
  | zero => exact ⟨h, Nat.le_refl _⟩
  | succ rem ih =>
    rw [loop_turn]
    have hs := skipPhase_ct (r.runQueue.length + r.newThreads.length + 1) 0 r
    generalize skipPhase (r.runQueue.length + r.newThreads.length + 1) 0 r = x at hs
    cases x with
    | run th r0 =>
      have hs : r0.chans = r.chans ∧ r0.trace = r.trace := hs
      have ht : (turn step r0 th).1.chans = _ ∧ (turn step r0 th).1.trace = _ :=
        endTurn_ct (exec step r0 th).1 (exec step r0 th).2
      have he := hexec s r0 th (by rw [hs.1, hs.2]; exact h)
      rw [← ht.1, ← ht.2] at he
      dsimp only
      by_cases hf : (turn step r0 th).2 = true
      · rw [if_pos hf]; exact ⟨he, Nat.add_le_add_left (Nat.le_add_left 1 rem) s⟩
      · rw [if_neg hf]
        have := ih (s + 1) _ he
        exact ⟨this.1, by rw [Nat.add_comm rem 1, ← Nat.add_assoc]; exact this.2⟩
    | exit r' | mainDone r' =>
      have hs : r'.chans = r.chans ∧ r'.trace = r.trace := hs
      dsimp only
      exact ⟨by rw [hs.1, hs.2]; exact h, Nat.le_add_right _ _⟩

/-- the same for `run_n_steps`: `steps_consumed ≤ budget` instructions are executed -/
theorem runN_execs (step : T → Action T V E) (P : Nat → List (List V) → List (Event V E) → Prop)
    (hexec : ∀ n (r : Runtime T V E) th, P n r.chans r.trace →
      P (n + 1) (exec step r th).1.chans (exec step r th).1.trace)
    (b : Nat) (r : Runtime T V E) (h : P 0 r.chans r.trace) :
    P (runN step b r).steps (runN step b r).rt.chans (runN step b r).rt.trace ∧ (runN step b r).steps ≤ b := by
  have hd := drainAux_ct r.newThreads r
  rw [runN_eq]
  unfold roundRobin
  by_cases hf : (drainNewThreads r).2 = true
  · rw [if_pos hf]; exact ⟨by rw [drainNewThreads, hd.1, hd.2]; exact h, Nat.zero_le _⟩
  · rw [if_neg hf]
    have hl := loop_execs step P hexec b 0 (drainNewThreads r).1 (by rw [drainNewThreads, hd.1, hd.2]; exact h)
    rw [Nat.zero_add] at hl
    exact hl

/-- the main thread is queued (and running or blocked, not finished) -/
structure MainQueued (r : Runtime T V E) : Prop where
  noDone : NoDone r
  fin : r.finishedMain = none
  main : ∃ m ∈ r.runQueue, m.isMain = true
  newNoMain : ∀ t ∈ r.newThreads, t.isMain = false

/-- the main thread is parked, and its `Stop` is the last instruction executed -/
def MainStopped (r : Runtime T V E) : Prop :=
  ∃ m, r.finishedMain = some m ∧ m.isMain = true ∧ m.done = true ∧ r.trace.getLast? = some ⟨m.id, .stop⟩

theorem exec_newNoMain (step : T → Action T V E) (r : Runtime T V E) (th : Thread T E)
    (h : ∀ t ∈ r.newThreads, t.isMain = false) : ∀ t ∈ (exec step r th).1.newThreads, t.isMain = false :=
  exec_newThreads_forall step r th _ (fun _ => rfl) h

theorem turn_main (step : T → Action T V E) : TurnInv step MainQueued MainStopped := by
  intro r th A2 _ hd hm hdw t ht
  subst ht
  have hr0 := noDone_r0 r hd th A2 hdw
  have hc := (turn_noDone step _ th hr0).1
  obtain ⟨_, hfin, hmain, hid⟩ := exec_keeps step { r with runQueue := A2 ++ r.runQueue.takeWhile (fun t => !t.canRun) } th
  obtain ⟨k, htr, hk⟩ := exec_trace step { r with runQueue := A2 ++ r.runQueue.takeWhile (fun t => !t.canRun) } th
  have hth : th.gone = false := hd.1 th ((mem_rotate _ _ _ _ hdw th).mpr (.inl rfl))
  rw [turn_eq step _ th hr0.2] at hc ⊢
  generalize exec step { r with runQueue := A2 ++ r.runQueue.takeWhile (fun t => !t.canRun) } th = e at *
  by_cases hcnd : (e.2.isMain && e.2.done) = true
  · rw [if_pos hcnd]
    simp only [Bool.and_eq_true] at hcnd
    refine ⟨e.2, rfl, hcnd.1, hcnd.2, ?_⟩
    show e.1.trace.getLast? = _
    rw [htr, hk hcnd.2 (gone_done hth), hid]; exact List.getLast?_concat
  · rw [if_neg hcnd] at hc ⊢
    refine ⟨hc, hfin.trans hm.fin, ?_, by simp⟩
    obtain ⟨m, hmq, hmm⟩ := hm.main
    rcases (mem_rotate _ _ _ _ hdw m).mp hmq with rfl | hmq
    · -- the main thread ran and did not stop: it is pushed back
      have hed : e.2.done = false := by simpa [hmain, hmm] using hcnd
      exact ⟨e.2, by simp [Thread.gone, hed, hmain, hmm], hmain.trans hmm⟩
    · exact ⟨m, List.mem_append_left _ (List.mem_append_left _ hmq), hmm⟩

/-- **Who is reported done.**  On a clean state with the main thread queued, `loop` returns
    `main_thread_done = true` exactly when the main thread executed `Stop` (the last logged event),
    and otherwise leaves the main thread queued. -/
theorem loop_main (step : T → Action T V E) (rem s : Nat) (r : Runtime T V E)
    (hn : r.newThreads = []) (hm : MainQueued r) :
    ((loop step rem s r).2.1 = true →
        ∃ m, (loop step rem s r).1.finishedMain = some m ∧ m.isMain = true ∧ m.done = true ∧
          (loop step rem s r).1.trace.getLast? = some ⟨m.id, .stop⟩) ∧
    ((loop step rem s r).2.1 = false → MainQueued (loop step rem s r).1) :=
  have h := loop_rule step MainQueued MainStopped (turn_main step) rem s r hn hm.noDone hm
  ⟨fun hf => (h.2.1 hf).1, fun hf => (h.2.2 hf).1⟩

theorem tryGetMain_queued (r : Runtime T V E) (h : ∃ m ∈ r.runQueue, m.isMain = true) :
    ∃ m ∈ r.runQueue, m.isMain = true ∧ tryGetMain r = some m := by
  obtain ⟨m, hm, hmm⟩ := h
  unfold tryGetMain
  cases hf : r.runQueue.find? (·.isMain) with
  | none =>
    have := List.find?_eq_none.mp hf m hm
    simp [hmm] at this
  | some m' =>
    exact ⟨m', List.mem_of_find?_eq_some hf, by simpa using List.find?_some hf, rfl⟩

theorem status_not_done (m : Thread T E) (h : m.gone = false) : m.status ≠ VmStatus.done := by
  unfold Thread.status
  split
  · simp
  · simp [gone_done h]; split <;> simp

theorem updateStatus_not_done (r : Runtime T V E) (hm : MainQueued r) : updateStatus r ≠ Status.done := by
  obtain ⟨m, hmq, _, hg⟩ := tryGetMain_queued r hm.main
  have hd := hm.noDone.1 m hmq
  have hs := status_not_done m hd
  unfold updateStatus
  rw [hg]
  simp only
  split
  · rename_i h; exact absurd h hs
  · simp
  · simp
  · unfold anyPending; split <;> simp

end Abra.Sched
