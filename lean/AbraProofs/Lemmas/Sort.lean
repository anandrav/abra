import AbraModel.Lib.Sort
/-! Lemmas for C25: unfolding equations, permutation, sortedness and stability of the sort model. -/
namespace Abra.Lib

variable {α : Type} (le : α → α → Bool)

theorem insRev_nil (key : α) : insRev le key [] = [key] := rfl

theorem insRev_cons (key x : α) (rest : List α) :
    insRev le key (x :: rest) = if le x key then key :: x :: rest else x :: insRev le key rest := rfl

theorem merge_nil_left (r : List α) : merge le [] r = r := by
  rw [merge]

theorem merge_nil_right (l : List α) : merge le l [] = l := by
  cases l <;> simp [merge]

theorem merge_cons_pos (a b : α) (l r : List α) (h : le a b = true) :
    merge le (a :: l) (b :: r) = a :: merge le l (b :: r) := by
  rw [merge, if_pos h]

theorem merge_cons_neg (a b : α) (l r : List α) (h : le a b = false) :
    merge le (a :: l) (b :: r) = b :: merge le (a :: l) r := by
  rw [merge, if_neg (by simp [h])]

theorem runs_nil (run : Nat) : runs le run [] = [] := by
  rw [runs, dif_pos (Or.inl rfl)]

theorem runs_eq (run : Nat) (l : List α) (hr : 0 < run) (hl : l ≠ []) :
    runs le run l = insertRun le (l.take run) ++ runs le run (l.drop run) := by
  rw [runs, dif_neg (fun h => h.elim hl (Nat.ne_of_gt hr))]

theorem mergePass_of_nil_or_zero {w : Nat} {l : List α} (h : l = [] ∨ w = 0) : mergePass le w l = l := by
  rw [mergePass, dif_pos h]

theorem mergePass_nil (w : Nat) : mergePass le w [] = [] :=
  mergePass_of_nil_or_zero le (Or.inl rfl)

theorem mergePass_zero (l : List α) : mergePass le 0 l = l :=
  mergePass_of_nil_or_zero le (Or.inr rfl)

/-- `if a-1 < b-1 { a-1 } else { b-1 }`, the source's way to cut a block's last index `a - 1` off at the last index
    `b - 1` of the array, is `min a b - 1` -/
theorem clamp_succ : ∀ {a b : Nat}, 0 < a → 0 < b → (if a - 1 < b - 1 then a - 1 else b - 1) + 1 = min a b
  | a + 1, b + 1, _, _ => by
    rw [Nat.add_min_add_right]
    show (if a < b then a else b) + 1 = min a b + 1
    split
    · rw [Nat.min_eq_left (Nat.le_of_lt ‹_›)]
    · rw [Nat.min_eq_right (Nat.le_of_not_lt ‹_›)]

/-- The sweep in block form: the first two `w`-blocks are merged when the second is non-empty
    (`mid < right`), a lone block is left as it is. -/
theorem mergePass_eq (w : Nat) (l : List α) (hw : 0 < w) (hl : l ≠ []) :
    mergePass le w l =
      (if w < l.length then merge le (l.take w) ((l.drop w).take w) else l.take w)
        ++ mergePass le w (l.drop (2 * w)) := by
  have hE := clamp_succ (a := 2 * w) (Nat.mul_pos (by decide) hw) (List.length_pos_iff.mpr hl)
  rw [mergePass, dif_neg (fun h => h.elim hl (Nat.ne_of_gt hw))]
  dsimp only
  generalize (if 2 * w - 1 < l.length - 1 then 2 * w - 1 else l.length - 1) = right at hE
  -- `mid = w - 1` is `m` for `w = m + 1`
  obtain ⟨m, rfl⟩ := Nat.exists_eq_add_one.mpr hw
  rw [Nat.add_sub_cancel]
  congr 1
  by_cases h2 : 2 * (m + 1) ≤ l.length
  · rw [Nat.min_eq_left h2] at hE
    rw [if_pos (by omega), if_pos (by omega), show right - m = m + 1 by omega]
  · -- `right` is the last index of the array: both ways of taking the second block take all that is left
    rw [Nat.min_eq_right (Nat.le_of_not_le h2)] at hE
    by_cases h1 : m + 1 < l.length
    · rw [if_pos h1, if_pos (by omega)]
      congr 1
      rw [List.take_of_length_le (by rw [List.length_drop]; omega),
        List.take_of_length_le (by rw [List.length_drop]; omega)]
    · rw [if_neg h1, if_neg (by omega), List.take_of_length_le (Nat.le_of_not_lt h1),
        List.take_of_length_le (Nat.le_of_not_le h2)]

theorem mergeLoop_eq (n w : Nat) (l : List α) :
    mergeLoop le n w l = if w < n ∧ 0 < w then mergeLoop le n (2 * w) (mergePass le w l) else l := by
  rw [mergeLoop]

theorem insRev_perm (key : α) (rp : List α) : (insRev le key rp).Perm (key :: rp) := by
  induction rp with
  | nil => exact List.Perm.refl _
  | cons x rest ih =>
    rw [insRev_cons]
    split
    · exact List.Perm.refl _
    · exact (List.Perm.cons x ih).trans (List.Perm.swap key x rest)

theorem foldl_insRev_perm (l acc : List α) :
    (l.foldl (fun rp key => insRev le key rp) acc).Perm (l.reverse ++ acc) := by
  induction l generalizing acc with
  | nil => simp
  | cons a l ih =>
    simp only [List.foldl_cons, List.reverse_cons, List.append_assoc, List.singleton_append]
    exact (ih _).trans (List.Perm.append_left _ (insRev_perm le a acc))

theorem insertRun_perm (l : List α) : (insertRun le l).Perm l := by
  have h := foldl_insRev_perm le l []
  rw [List.append_nil] at h
  exact (List.reverse_perm _).trans (h.trans (List.reverse_perm _))

theorem insertRun_length (l : List α) : (insertRun le l).length = l.length :=
  (insertRun_perm le l).length_eq

theorem merge_perm (a b : List α) : (merge le a b).Perm (a ++ b) := by
  fun_induction merge le a b with
  | case1 r => simp
  | case2 l _ => simp
  | case3 a l b r h ih => exact List.Perm.cons a ih
  | case4 a l b r h ih => exact (ih.cons b).trans List.perm_middle.symm

theorem merge_length (a b : List α) : (merge le a b).length = a.length + b.length := by
  simpa using (merge_perm le a b).length_eq

theorem runs_perm (run : Nat) (l : List α) : (runs le run l).Perm l := by
  fun_induction runs le run l with
  | case1 l h => exact List.Perm.refl _
  | case2 l h ih =>
    have := List.Perm.append (insertRun_perm le (l.take run)) ih
    simpa using this

theorem take_take_drop (w : Nat) (l : List α) : l.take w ++ (l.drop w).take w = l.take (2 * w) := by
  have : 2 * w = w + w := by omega
  rw [this, List.take_add]

/-- the block the sweep writes first rearranges the first `2w` elements -/
theorem mergePass_head_perm (w : Nat) (l : List α) :
    (if w < l.length then merge le (l.take w) ((l.drop w).take w) else l.take w).Perm (l.take (2 * w)) := by
  split
  · rw [← take_take_drop]; exact merge_perm le _ _
  · rw [List.take_of_length_le (by omega), List.take_of_length_le (by omega)]

theorem mergePass_head_length (w : Nat) (l : List α) :
    (if w < l.length then merge le (l.take w) ((l.drop w).take w) else l.take w).length = min (2 * w) l.length := by
  rw [(mergePass_head_perm le w l).length_eq, List.length_take]

theorem mergePass_perm (w : Nat) (l : List α) : (mergePass le w l).Perm l := by
  induction l using mergePass.induct w with
  | case1 l h => rw [mergePass_of_nil_or_zero le h]
  | case2 l h ih =>
    rw [mergePass_eq le w l (Nat.pos_of_ne_zero fun e => h (Or.inr e)) (fun e => h (Or.inl e))]
    exact ((mergePass_head_perm le w l).append ih).trans (by rw [List.take_append_drop])

theorem mergePass_length (w : Nat) (l : List α) : (mergePass le w l).length = l.length :=
  (mergePass_perm le w l).length_eq

theorem mergeLoop_perm (n w : Nat) (l : List α) : (mergeLoop le n w l).Perm l := by
  fun_induction mergeLoop le n w l with
  | case1 w l h ih => exact ih.trans (mergePass_perm le w l)
  | case2 w l h => exact List.Perm.refl _

section lawful
variable (total : ∀ a b, le a b = true ∨ le b a = true)
variable (trans : ∀ a b c, le a b = true → le b c = true → le a c = true)

abbrev Sorted (l : List α) : Prop := l.Pairwise (fun a b => le a b = true)

include trans in
theorem le_of_mem_sorted {x z y : α} {t : List α} (hxz : le x z = true) (hs : Sorted le (z :: t)) (hy : y ∈ z :: t) :
    le x y = true := by
  cases List.mem_cons.mp hy with
  | inl e => exact e ▸ hxz
  | inr hy => exact trans _ _ _ hxz ((List.pairwise_cons.mp hs).1 y hy)

include total trans in
theorem insRev_sorted (key : α) (rp : List α) (h : rp.Pairwise (fun a b => le b a = true)) :
    (insRev le key rp).Pairwise (fun a b => le b a = true) := by
  induction rp with
  | nil => simp [insRev_nil]
  | cons x rest ih =>
    rw [insRev_cons]
    have hx := List.pairwise_cons.mp h
    split
    · rename_i hle
      refine List.pairwise_cons.mpr ⟨fun y hy => ?_, h⟩
      cases List.mem_cons.mp hy with
      | inl e => exact e ▸ hle
      | inr hy => exact trans _ _ _ (hx.1 y hy) hle
    · rename_i hle
      refine List.pairwise_cons.mpr ⟨fun y hy => ?_, ih hx.2⟩
      cases List.mem_cons.mp ((insRev_perm le key rest).mem_iff.mp hy) with
      | inl e => exact e ▸ (total x key).resolve_left hle
      | inr hy => exact hx.1 y hy

include total trans in
theorem foldl_insRev_sorted (l acc : List α) (h : acc.Pairwise (fun a b => le b a = true)) :
    (l.foldl (fun rp key => insRev le key rp) acc).Pairwise (fun a b => le b a = true) := by
  induction l generalizing acc with
  | nil => simpa using h
  | cons a l ih => exact ih _ (insRev_sorted le total trans a acc h)

include total trans in
theorem insertRun_sorted (l : List α) : Sorted le (insertRun le l) := by
  unfold insertRun Sorted
  rw [List.pairwise_reverse]
  exact foldl_insRev_sorted le total trans l [] List.Pairwise.nil

theorem mem_merge {a b : List α} {y : α} (h : y ∈ merge le a b) : y ∈ a ∨ y ∈ b :=
  List.mem_append.mp ((merge_perm le a b).mem_iff.mp h)

include total trans in
theorem merge_sorted (a b : List α) (ha : Sorted le a) (hb : Sorted le b) : Sorted le (merge le a b) := by
  fun_induction merge le a b with
  | case1 r => exact hb
  | case2 l _ => exact ha
  | case3 a l b r h ih =>
    refine List.pairwise_cons.mpr ⟨fun y hy => ?_, ih (List.pairwise_cons.mp ha).2 hb⟩
    cases mem_merge le hy with
    | inl hy => exact (List.pairwise_cons.mp ha).1 y hy
    | inr hy => exact le_of_mem_sorted le trans h hb hy
  | case4 a l b r h ih =>
    refine List.pairwise_cons.mpr ⟨fun y hy => ?_, ih ha (List.pairwise_cons.mp hb).2⟩
    cases mem_merge le hy with
    | inl hy => exact le_of_mem_sorted le trans ((total a b).resolve_left h) ha hy
    | inr hy => exact (List.pairwise_cons.mp hb).1 y hy

/-- every block `[k·w, (k+1)·w)` of `l` is sorted -/
def Blocks (w : Nat) (l : List α) : Prop := ∀ k : Nat, Sorted le ((l.drop (k * w)).take w)

theorem Blocks.head {w : Nat} {l : List α} (h : Blocks le w l) : Sorted le (l.take w) := by
  simpa using h 0

theorem Blocks.drop {w : Nat} {l : List α} (h : Blocks le w l) (k : Nat) : Blocks le w (l.drop (k * w)) := by
  intro j
  rw [List.drop_drop, ← Nat.add_mul]
  exact h (k + j)

theorem Blocks.nil (w : Nat) : Blocks le w ([] : List α) := by
  intro k; simp [Sorted]

/-- a sorted block in front of blocks: of full width, or shorter and then the last one -/
theorem Blocks.append {w : Nat} {F rest : List α} (hF : Sorted le F) (hlen : F.length ≤ w)
    (hlast : F.length < w → rest = []) (hr : Blocks le w rest) : Blocks le w (F ++ rest) := by
  intro k
  by_cases hc : F.length = w
  · cases k with
    | zero => rw [Nat.zero_mul, List.drop_zero, List.take_left' hc]; exact hF
    | succ k => rw [Nat.add_mul, Nat.one_mul, Nat.add_comm, ← List.drop_drop, List.drop_left' hc]; exact hr k
  · cases hlast (by omega)
    rw [List.append_nil]
    cases k with
    | zero => rw [Nat.zero_mul, List.drop_zero, List.take_of_length_le hlen]; exact hF
    | succ k =>
      rw [List.drop_of_length_le (Nat.le_trans hlen (Nat.le_mul_of_pos_left w (Nat.succ_pos k))), List.take_nil]
      exact List.Pairwise.nil

include total trans in
theorem runs_blocks (run : Nat) (hr : 0 < run) (l : List α) : Blocks le run (runs le run l) := by
  induction l using runs.induct run with
  | case1 l h => cases h.resolve_right (Nat.ne_of_gt hr); rw [runs_nil]; exact Blocks.nil le run
  | case2 l h ih =>
    rw [runs_eq le run l hr (fun e => h (Or.inl e))]
    refine Blocks.append le (insertRun_sorted le total trans _) ?_ ?_ ih
    · rw [insertRun_length, List.length_take]; exact Nat.min_le_left _ _
    · rw [insertRun_length, List.length_take]
      intro hlt
      rw [List.drop_eq_nil_of_le (by omega), runs_nil]

include total trans in
theorem mergePass_blocks (w : Nat) (hw : 0 < w) (l : List α) (hb : Blocks le w l) :
    Blocks le (2 * w) (mergePass le w l) := by
  induction l using mergePass.induct w with
  | case1 l h => cases h.resolve_right (Nat.ne_of_gt hw); rw [mergePass_nil]; exact Blocks.nil le _
  | case2 l h ih =>
    rw [mergePass_eq le w l hw (fun e => h (Or.inl e))]
    refine Blocks.append le ?_ ?_ ?_ (ih (hb.drop le 2))
    · split
      · exact merge_sorted le total trans _ _ hb.head (by simpa using hb 1)
      · exact hb.head
    · rw [mergePass_head_length]; exact Nat.min_le_left _ _
    · rw [mergePass_head_length]
      intro hlt
      rw [List.drop_eq_nil_of_le (by omega), mergePass_nil]

include total trans in
theorem mergeLoop_sorted (n w : Nat) (hw : 0 < w) (l : List α) (hn : l.length = n) (hb : Blocks le w l) :
    Sorted le (mergeLoop le n w l) := by
  fun_induction mergeLoop le n w l with
  | case1 w l h ih =>
    exact ih (by omega) (by rw [mergePass_length]; exact hn) (mergePass_blocks le total trans w hw l hb)
  | case2 w l h =>
    have : l.take w = l := List.take_of_length_le (by omega)
    rw [← this]; exact hb.head

/-! ## stability

Elements that the comparator puts on a par (any set `p` whose members are pairwise `le`, in both orders) come out in
the order they went in: the loops move an element past another only where `le` fails between the two. -/

variable (p : α → Bool) (hp : ∀ a b, p a = true → p b = true → le a b = true)

include hp in
theorem filter_insRev (key : α) (rp : List α) : (insRev le key rp).filter p = (key :: rp).filter p := by
  induction rp with
  | nil => rfl
  | cons y rest ih =>
    rw [insRev_cons]
    split
    · rfl
    · rename_i hle
      rw [List.filter_cons, ih]
      by_cases hy : p y = true
      · -- `key` moves past `y` because `¬ le y key`, so they are not both in `p`
        have hk : p key = false := Bool.eq_false_iff.mpr fun hk => hle (hp y key hy hk)
        simp [hy, hk]
      · simp [List.filter_cons, hy]

include hp in
theorem filter_foldl_insRev (l acc : List α) :
    (l.foldl (fun rp key => insRev le key rp) acc).filter p = (l.reverse ++ acc).filter p := by
  induction l generalizing acc with
  | nil => rfl
  | cons a l ih =>
    rw [List.foldl_cons, ih, List.filter_append, filter_insRev le p hp, List.reverse_cons, List.append_assoc,
      List.filter_append]
    rfl

include hp in
theorem filter_insertRun (l : List α) : (insertRun le l).filter p = l.filter p := by
  rw [insertRun, List.filter_reverse, filter_foldl_insRev le p hp, List.append_nil, ← List.filter_reverse,
    List.reverse_reverse]

include trans hp in
theorem filter_merge (a b : List α) (ha : Sorted le a) : (merge le a b).filter p = a.filter p ++ b.filter p := by
  fun_induction merge le a b with
  | case1 r => rfl
  | case2 l _ => rw [List.filter_nil, List.append_nil]
  | case3 a l b r h ih =>
    rw [List.filter_cons, ih (List.pairwise_cons.mp ha).2]
    by_cases hx : p a = true <;> simp [List.filter_cons, hx]
  | case4 a l b r h ih =>
    rw [List.filter_cons, ih ha]
    by_cases hx : p b = true
    · -- `b` goes first because `¬ le a b`, and `a` is `le` all of `l`: nothing in `a :: l` is in `p`
      have hnone : (a :: l).filter p = [] := by
        rw [List.filter_eq_nil_iff]
        intro y hy hpy
        cases List.mem_cons.mp hy with
        | inl e => exact h (e ▸ hp y b hpy hx)
        | inr hy => exact h (trans _ _ _ ((List.pairwise_cons.mp ha).1 y hy) (hp y b hpy hx))
      rw [hnone, if_pos hx, List.filter_cons, if_pos hx]; rfl
    · rw [if_neg hx, List.filter_cons (xs := r), if_neg hx]

include hp in
theorem filter_runs (run : Nat) (l : List α) : (runs le run l).filter p = l.filter p := by
  fun_induction runs le run l with
  | case1 l h => rfl
  | case2 l h ih =>
    rw [List.filter_append, ih, filter_insertRun le p hp, ← List.filter_append, List.take_append_drop]

include trans hp in
theorem filter_mergePass (w : Nat) (l : List α) (hb : Blocks le w l) : (mergePass le w l).filter p = l.filter p := by
  induction l using mergePass.induct w with
  | case1 l h => rw [mergePass_of_nil_or_zero le h]
  | case2 l h ih =>
    rw [mergePass_eq le w l (Nat.pos_of_ne_zero fun e => h (Or.inr e)) (fun e => h (Or.inl e)), List.filter_append,
      ih (hb.drop le 2)]
    have hfirst : (if w < l.length then merge le (l.take w) ((l.drop w).take w) else l.take w).filter p
        = (l.take (2 * w)).filter p := by
      split
      · rw [filter_merge le trans p hp _ _ hb.head, ← List.filter_append, take_take_drop]
      · rw [List.take_of_length_le (by omega), List.take_of_length_le (by omega)]
    rw [hfirst, ← List.filter_append, List.take_append_drop]

include total trans hp in
theorem filter_mergeLoop (n w : Nat) (l : List α) (hb : Blocks le w l) : (mergeLoop le n w l).filter p = l.filter p := by
  fun_induction mergeLoop le n w l with
  | case1 w l h ih =>
    rw [ih (mergePass_blocks le total trans w h.2 l hb), filter_mergePass le trans p hp w l hb]
  | case2 w l h => rfl

include total trans hp in
theorem filter_sortBy (l : List α) : (sortBy le l).filter p = l.filter p :=
  (filter_mergeLoop le total trans p hp l.length 32 _ (runs_blocks le total trans 32 (by decide) l)).trans
    (filter_runs le p hp 32 l)

end lawful
end Abra.Lib
