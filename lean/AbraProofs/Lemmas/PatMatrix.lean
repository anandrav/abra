import AbraModel.PatMatrix
/-!
Lemmas about M9 (`Abra.PatMatrix`): well-formed patterns, types as sums of constructors (`CtorOf`,
`ctorOf`, `fieldsOf`), the specialisation lemmas (Maranget), or-expansion, `unspecialize`, `split`, and
the invariant `Good` of `compute_exhaustiveness_and_usefulness` proved by induction on the fuel
(`compute_good`).  Then the arm list: `checkD_spec` reads the result of `checkD` for a one-column matrix
(`GoodCheck`), `fromAst_ok` shows that `from_ast_pat` keeps typing and meaning, and `check_good` puts the
two together for source arms (`GoodArms`).

The model's recursive functions are unfolded through equations stated here by `rfl`, and impossible
cases are closed by `cases` on a hypothesis that reduces to `false = true`.
-/
namespace Abra.PatMatrix

variable {env : EnumEnv} {T : Ty} {Ts : List Ty} {rows : List Row}

/-! ## vectors: `dmatchAll`, `hasTys`, `patsWT` are pointwise -/

/-- `R` relates two lists iff they have the same length and `r` relates them position by position -/
structure Pointwise {α β : Type} (r : α → β → Bool) (R : List α → List β → Bool) : Prop where
  nil : R [] [] = true
  cons : ∀ a as b bs, R (a :: as) (b :: bs) = (r a b && R as bs)
  nil_cons : ∀ b bs, R [] (b :: bs) = false
  cons_nil : ∀ a as, R (a :: as) [] = false

namespace Pointwise
variable {α β : Type} {r : α → β → Bool} {R : List α → List β → Bool} (hR : Pointwise r R)
include hR

theorem length {as : List α} {bs : List β} (h : R as bs = true) : as.length = bs.length := by
  induction as generalizing bs with
  | nil => cases bs with
    | nil => rfl
    | cons b bs => rw [hR.nil_cons] at h; cases h
  | cons a as ih => cases bs with
    | nil => rw [hR.cons_nil] at h; cases h
    | cons b bs => rw [hR.cons, Bool.and_eq_true] at h; exact congrArg (· + 1) (ih h.2)

theorem append (as as' : List α) (bs bs' : List β) (h : as.length = bs.length) :
    R (as ++ as') (bs ++ bs') = (R as bs && R as' bs') := by
  induction as generalizing bs with
  | nil => cases bs with
    | nil => rw [hR.nil]; rfl
    | cons _ _ => cases h
  | cons a as ih => cases bs with
    | nil => cases h
    | cons b bs => rw [List.cons_append, List.cons_append, hR.cons, hR.cons, ih bs (Nat.succ.inj h), Bool.and_assoc]

theorem split {as : List α} {bs : List β} (h : R as bs = true) (n : Nat) :
    R (as.take n) (bs.take n) = true ∧ R (as.drop n) (bs.drop n) = true := by
  have := hR.append (as.take n) (as.drop n) (bs.take n) (bs.drop n)
    (by rw [List.length_take, List.length_take, hR.length h])
  rw [List.take_append_drop, List.take_append_drop, h] at this
  exact Bool.and_eq_true_iff.1 this.symm

end Pointwise

@[simp] theorem dmatchAll_nil_nil : dmatchAll [] [] = true := rfl
@[simp] theorem dmatchAll_cons (p : DPat) (ps : List DPat) (v : Val) (vs : List Val) :
    dmatchAll (p :: ps) (v :: vs) = (dmatch p v && dmatchAll ps vs) := rfl
@[simp] theorem dmatchAll_cons_nil (p : DPat) (ps : List DPat) : dmatchAll (p :: ps) [] = false := rfl
@[simp] theorem dmatchAll_nil_cons (v : Val) (vs : List Val) : dmatchAll [] (v :: vs) = false := rfl
@[simp] theorem hasTys_nil_nil (env : EnumEnv) : hasTys env [] [] = true := rfl
@[simp] theorem hasTys_cons_cons (env : EnumEnv) (v : Val) (vs : List Val) (t : Ty) (ts : List Ty) :
    hasTys env (v :: vs) (t :: ts) = (hasTy env v t && hasTys env vs ts) := rfl

theorem dmatchAll_pw : Pointwise dmatch dmatchAll :=
  ⟨dmatchAll_nil_nil, dmatchAll_cons, dmatchAll_nil_cons, dmatchAll_cons_nil⟩

theorem hasTys_pw (env : EnumEnv) : Pointwise (hasTy env) (hasTys env) :=
  ⟨rfl, fun _ _ _ _ => rfl, fun _ _ => rfl, fun _ _ => rfl⟩

theorem hasTys_length {env : EnumEnv} {vs : List Val} {ts : List Ty} (h : hasTys env vs ts = true) :
    vs.length = ts.length := (hasTys_pw env).length h

theorem hasTys_nil {fs : List Val} (h : hasTys env fs [] = true) : fs = [] :=
  List.eq_nil_of_length_eq_zero (hasTys_length h)

theorem hasTys_cons {vs : List Val} (h : hasTys env vs (T :: Ts) = true) :
    ∃ v0 vs', vs = v0 :: vs' ∧ hasTy env v0 T = true ∧ hasTys env vs' Ts = true := by
  cases vs with
  | nil => cases h
  | cons v0 vs' => exact ⟨v0, vs', rfl, Bool.and_eq_true_iff.1 h⟩

theorem dmatchAll_nil_left {vs : List Val} (h : dmatchAll [] vs = true) : vs = [] :=
  (List.eq_nil_of_length_eq_zero (dmatchAll_pw.length h).symm)

theorem dmatchAll_wilds (r : WReason) (tys : List Ty) (vs : List Val) (h : tys.length = vs.length) :
    dmatchAll (tys.map (wildOf r)) vs = true := by
  induction tys generalizing vs with
  | nil => cases vs <;> first | rfl | cases h
  | cons t ts ih =>
    cases vs with
    | nil => cases h
    | cons v vs => exact ih vs (Nat.succ.inj h)

/-! ## `hasTy` read by type -/

theorem hasTy_prod (env : EnumEnv) (vs : List Val) (T : Ty) :
    hasTy env (.prod vs) T = match T with
      | .void => vs.isEmpty
      | .tuple ts => hasTys env vs ts
      | .struct _ ts => hasTys env vs ts
      | _ => false := by
  cases vs <;> cases T <;> rfl

theorem hasTy_lit {v : Val} (h : hasTy env v T = true) :
    match T with
    | .bool => ∃ b, v = .bool b
    | .int => ∃ i, v = .int i
    | .float => ∃ f, v = .float f
    | .string => ∃ s, v = .str s
    | _ => True := by
  cases T with
  | bool | int | float | string =>
    cases v with
    | prod vs => rw [hasTy_prod] at h; cases h
    | _ => first | exact ⟨_, rfl⟩ | cases h
  | _ => trivial

theorem hasTy_void {env : EnumEnv} {v : Val} (h : hasTy env v .void = true) : v = .prod [] := by
  cases v with
  | prod vs => cases vs <;> first | rfl | cases h
  | _ => cases h

theorem hasTy_prod_tuple {env : EnumEnv} {v : Val} {ts : List Ty} (h : hasTy env v (.tuple ts) = true) :
    ∃ vs, v = .prod vs ∧ hasTys env vs ts = true := by
  cases v with
  | prod vs => exact ⟨vs, rfl, (hasTy_prod ..).symm.trans h⟩
  | _ => cases h

theorem hasTy_prod_struct {env : EnumEnv} {v : Val} {id : Nat} {ts : List Ty}
    (h : hasTy env v (.struct id ts) = true) : ∃ vs, v = .prod vs ∧ hasTys env vs ts = true := by
  cases v with
  | prod vs => exact ⟨vs, rfl, (hasTy_prod ..).symm.trans h⟩
  | _ => cases h

theorem dataTy_some {env : EnumEnv} {e i : Nat} {fs : List Ty} (h : variantFields env e i = some fs) :
    dataTy env e i = dataTyOfFields fs := by rw [dataTy, h]; rfl

theorem hasTy_variant {e i : Nat} {pl : Val} :
    hasTy env (.variant i pl) (.enum e) = true ↔
      (variantFields env e i).isSome = true ∧ hasTy env pl (dataTy env e i) = true := by
  have : hasTy env (.variant i pl) (.enum e) =
      match variantFields env e i with
      | some fs => hasTy env pl (dataTyOfFields fs)
      | none => false := rfl
  rw [this, dataTy]
  cases variantFields env e i <;> simp [dataTyOpt]

theorem hasTy_enum {env : EnumEnv} {v : Val} {e : Nat} (h : hasTy env v (.enum e) = true) :
    ∃ i pl, v = .variant i pl ∧ (variantFields env e i).isSome = true ∧ hasTy env pl (dataTy env e i) = true := by
  cases v with
  | variant i pl => exact ⟨i, pl, rfl, hasTy_variant.1 h⟩
  | prod vs => rw [hasTy_prod] at h; cases h
  | _ => cases h

theorem variantFields_isSome (env : EnumEnv) (e i : Nat) : (variantFields env e i).isSome = true ↔ i < (env e).length := by
  simp [variantFields]

theorem isVoid_eq {T : Ty} (h : T.isVoid = true) : T = .void := by
  cases T <;> first | rfl | cases h

/-! ## well-formed deconstructed patterns -/

mutual
  /-- what the type checker guarantees about a deconstructed pattern of type `T`: the constructor
      belongs to the type and has as many fields as `Matrix::specialize` pushes types for it -/
  def patWT (env : EnumEnv) : DPat → Ty → Bool
    | .mk (.wild r) _ _, _ => r != .nonExh
    | .mk (.bool _) fs _, .bool => fs.isEmpty
    | .mk (.int _) fs _, .int => fs.isEmpty
    | .mk (.float _) fs _, .float => fs.isEmpty
    | .mk (.str _) fs _, .string => fs.isEmpty
    | .mk .product fs _, .void => fs.isEmpty
    | .mk .product fs _, .tuple ts => patsWT env fs ts
    | .mk .product fs _, .struct _ ts => patsWT env fs ts
    | .mk (.variant e i) fs _, .enum e' =>
      e == e' && (variantFields env e i).isSome && patsWT env fs (specTys env (.enum e) (.variant e i))
    | .mk .or fs _, t => !fs.isEmpty && patsWTOr env fs t
    | _, _ => false
  def patsWT (env : EnumEnv) : List DPat → List Ty → Bool
    | [], [] => true
    | p :: ps, t :: ts => patWT env p t && patsWT env ps ts
    | _, _ => false
  def patsWTOr (env : EnumEnv) : List DPat → Ty → Bool
    | [], _ => true
    | p :: ps, t => patWT env p t && patsWTOr env ps t
end

@[simp] theorem patsWT_nil_nil (env : EnumEnv) : patsWT env [] [] = true := rfl
@[simp] theorem patsWT_cons_cons (env : EnumEnv) (p : DPat) (ps : List DPat) (t : Ty) (ts : List Ty) :
    patsWT env (p :: ps) (t :: ts) = (patWT env p t && patsWT env ps ts) := rfl
@[simp] theorem patsWTOr_cons (env : EnumEnv) (p : DPat) (ps : List DPat) (t : Ty) :
    patsWTOr env (p :: ps) t = (patWT env p t && patsWTOr env ps t) := rfl
theorem patWT_or (env : EnumEnv) (fs : List DPat) (ty T : Ty) :
    patWT env (.mk .or fs ty) T = (!fs.isEmpty && patsWTOr env fs T) := by cases T <;> rfl

theorem patsWT_pw (env : EnumEnv) : Pointwise (patWT env) (patsWT env) :=
  ⟨rfl, fun _ _ _ _ => rfl, fun _ _ => rfl, fun _ _ => rfl⟩

theorem patsWT_length {ps : List DPat} {ts : List Ty} (h : patsWT env ps ts = true) : ps.length = ts.length :=
  (patsWT_pw env).length h

theorem patsWT_nil {ps : List DPat} (h : patsWT env ps [] = true) : ps = [] :=
  List.eq_nil_of_length_eq_zero (patsWT_length h)

theorem patsWT_append {a b : List DPat} {x y : List Ty}
    (ha : patsWT env a x = true) (hb : patsWT env b y = true) : patsWT env (a ++ b) (x ++ y) = true := by
  rw [(patsWT_pw env).append a b x y (patsWT_length ha), ha, hb]; rfl

theorem patsWT_wilds (env : EnumEnv) {r : WReason} (hr : r ≠ .nonExh) (ts Ts : List Ty) (h : ts.length = Ts.length) :
    patsWT env (ts.map (wildOf r)) Ts = true := by
  induction ts generalizing Ts with
  | nil => cases Ts <;> first | rfl | cases h
  | cons t ts ih =>
    cases Ts with
    | nil => cases h
    | cons T Ts =>
      exact Bool.and_eq_true_iff.2 ⟨by cases r <;> first | rfl | exact absurd rfl hr, ih Ts (Nat.succ.inj h)⟩

/-! ## types as sums of constructors -/

theorem variantArity_eq (env : EnumEnv) (e i : Nat) :
    variantArity env e i = if (dataTy env e i).isVoid then 0 else 1 := by
  unfold variantArity dataTy
  match variantFields env e i with
  | none | some [] | some (_ :: _ :: _) => rfl
  | some [t] => cases t <;> rfl

theorem specTys_length (env : EnumEnv) (T : Ty) (c : Ctor) :
    (specTys env T c).length = c.arity env T := by
  cases c with
  | variant e i => rw [Ctor.arity, variantArity_eq, specTys]; split <;> rfl
  | _ => rfl

def CtorOf (env : EnumEnv) : Ty → Ctor → Prop
  | .bool, c => ∃ b, c = .bool b
  | .int, c => ∃ i, c = .int i
  | .float, c => ∃ f, c = .float f
  | .string, c => ∃ s, c = .str s
  | .enum e, c => ∃ i, c = .variant e i ∧ (variantFields env e i).isSome = true
  | _, c => c = .product

/-- the constructor of a value of type `T` (the enum id is read off `T`: a `Val.variant` carries only the index) -/
def ctorOf (T : Ty) : Val → Ctor
  | .bool b => .bool b
  | .int i => .int i
  | .float f => .float f
  | .str s => .str s
  | .prod _ => .product
  | .variant idx _ => .variant (match T with | .enum e => e | _ => 0) idx

/-- the field values `Matrix::specialize` exposes: a void payload is erased as in `specTys` -/
def fieldsOf (env : EnumEnv) (T : Ty) : Val → List Val
  | .prod vs => vs
  | .variant idx pl =>
    match T with
    | .enum e => if (dataTy env e idx).isVoid then [] else [pl]
    | _ => []
  | _ => []

theorem patWT_ctor {c : Ctor} {fs : List DPat} {ty T : Ty}
    (h : patWT env (.mk c fs ty) T = true) (hw : c.isWild = false) (ho : c.isOr = false) :
    CtorOf env T c ∧ patsWT env fs (specTys env T c) = true := by
  have lit : ∀ fs : List DPat, fs.isEmpty = true → patsWT env fs [] = true := by
    intro fs h; cases fs <;> first | rfl | cases h
  cases c with
  | wild r => cases hw
  | or => cases ho
  | bool b | int b | float b | str b => cases T <;> first | exact ⟨⟨b, rfl⟩, lit fs h⟩ | cases h
  | product =>
    cases T with
    | void => exact ⟨rfl, lit fs h⟩
    | tuple _ | struct _ _ => exact ⟨rfl, h⟩
    | _ => cases h
  | variant e i =>
    cases T with
    | enum e' =>
      have h' : (e == e' && (variantFields env e i).isSome &&
          patsWT env fs (specTys env (.enum e) (.variant e i))) = true := h
      simp only [Bool.and_eq_true, beq_iff_eq] at h'
      obtain ⟨⟨rfl, hs⟩, hfs⟩ := h'
      exact ⟨⟨i, rfl, hs⟩, hfs⟩
    | _ => cases h

theorem hasTy_ctor {v : Val} (h : hasTy env v T = true) :
    CtorOf env T (ctorOf T v) ∧ hasTys env (fieldsOf env T v) (specTys env T (ctorOf T v)) = true := by
  cases T with
  | bool | int | float | string => obtain ⟨b, rfl⟩ := hasTy_lit h; exact ⟨⟨b, rfl⟩, rfl⟩
  | void => rw [hasTy_void h]; exact ⟨rfl, rfl⟩
  | tuple ts => obtain ⟨vs, rfl, hvs⟩ := hasTy_prod_tuple h; exact ⟨rfl, hvs⟩
  | struct id ts => obtain ⟨vs, rfl, hvs⟩ := hasTy_prod_struct h; exact ⟨rfl, hvs⟩
  | enum e =>
    obtain ⟨i, pl, rfl, hs, hpl⟩ := hasTy_enum h
    refine ⟨⟨i, rfl, hs⟩, ?_⟩
    show hasTys env (if (dataTy env e i).isVoid then [] else [pl])
      (if (dataTy env e i).isVoid then [] else [dataTy env e i]) = true
    split
    · rfl
    · exact Bool.and_eq_true_iff.2 ⟨hpl, rfl⟩

theorem fieldsOf_length {v : Val} (h : hasTy env v T = true) :
    (fieldsOf env T v).length = (specTys env T (ctorOf T v)).length :=
  hasTys_length (hasTy_ctor h).2

theorem CtorOf.value {c : Ctor} (hc : CtorOf env T c) {us : List Val}
    (hus : hasTys env us (specTys env T c) = true) :
    ∃ v, hasTy env v T = true ∧ ctorOf T v = c ∧ fieldsOf env T v = us := by
  cases T with
  | bool => obtain ⟨b, rfl⟩ := hc; exact ⟨.bool b, rfl, rfl, (hasTys_nil hus).symm⟩
  | int => obtain ⟨b, rfl⟩ := hc; exact ⟨.int b, rfl, rfl, (hasTys_nil hus).symm⟩
  | float => obtain ⟨b, rfl⟩ := hc; exact ⟨.float b, rfl, rfl, (hasTys_nil hus).symm⟩
  | string => obtain ⟨b, rfl⟩ := hc; exact ⟨.str b, rfl, rfl, (hasTys_nil hus).symm⟩
  | void => cases hc; cases hasTys_nil hus; exact ⟨.prod [], rfl, rfl, rfl⟩
  | tuple _ | struct _ _ => cases hc; exact ⟨.prod us, (hasTy_prod ..).trans hus, rfl, rfl⟩
  | enum e =>
    obtain ⟨i, rfl, hs⟩ := hc
    have hus' : hasTys env us (if (dataTy env e i).isVoid then [] else [dataTy env e i]) = true := hus
    by_cases hv : (dataTy env e i).isVoid = true
    · rw [if_pos hv] at hus'
      cases hasTys_nil hus'
      refine ⟨.variant i (.prod []), hasTy_variant.2 ⟨hs, ?_⟩, rfl, if_pos hv⟩
      rw [isVoid_eq hv]; rfl
    · rw [if_neg hv] at hus'
      obtain ⟨pl, rest, rfl, hpl, hrest⟩ := hasTys_cons hus'
      cases hasTys_nil hrest
      exact ⟨.variant i pl, hasTy_variant.2 ⟨hs, hpl⟩, rfl, if_neg hv⟩

theorem dmatch_ctor {c : Ctor} {fs : List DPat} (ty : Ty) {v : Val}
    (hc : CtorOf env T c) (hl : fs.length = (specTys env T c).length) (hv : hasTy env v T = true) :
    dmatch (.mk c fs ty) v = ((ctorOf T v).isCoveredBy c && dmatchAll fs (fieldsOf env T v)) := by
  cases T with
  | bool | int | float | string =>
    obtain ⟨b, rfl⟩ := hc; obtain ⟨b', rfl⟩ := hasTy_lit hv; cases List.eq_nil_of_length_eq_zero hl
    exact BEq.comm.trans (Bool.and_true _).symm
  | void => cases hc; rw [hasTy_void hv]; cases List.eq_nil_of_length_eq_zero hl; rfl
  | tuple ts => cases hc; obtain ⟨vs, rfl, _⟩ := hasTy_prod_tuple hv; rfl
  | struct id ts => cases hc; obtain ⟨vs, rfl, _⟩ := hasTy_prod_struct hv; rfl
  | enum e =>
    obtain ⟨i, rfl, _⟩ := hc
    obtain ⟨i', pl, rfl, _, _⟩ := hasTy_enum hv
    show (i == i' && (fs.isEmpty || dmatchAll fs [pl])) =
      ((e == e && i' == i) && dmatchAll fs (if (dataTy env e i').isVoid then [] else [pl]))
    rw [beq_self_eq_true, Bool.true_and, BEq.comm (a := i')]
    cases hi : i == i' with
    | false => rfl
    | true =>
      cases eq_of_beq hi
      -- the payload column is there exactly when the payload type is not `void`
      have hl' : fs.length = (if (dataTy env e i).isVoid then [] else [dataTy env e i]).length := hl
      by_cases hvd : (dataTy env e i).isVoid = true
      · rw [if_pos hvd] at hl' ⊢; cases List.eq_nil_of_length_eq_zero hl'; rfl
      · rw [if_neg hvd] at hl' ⊢
        match fs, hl' with
        | [f], _ => rfl

theorem covered_wild (c : Ctor) (r : WReason) : c.isCoveredBy (.wild r) = true := by cases c <;> rfl

theorem covered_eq {c h : Ctor} (hcov : c.isCoveredBy h = true) (hw : h.isWild = false) : h = c := by
  cases h with
  | wild r => cases hw
  | bool b | int b | float b | str b => cases c <;> first | cases hcov | rw [eq_of_beq hcov]
  | product => cases c <;> first | rfl | cases hcov
  | or => cases c <;> cases hcov
  | variant e i =>
    cases c with
    | variant e' i' =>
      have h' : (e' == e && i' == i) = true := hcov
      simp only [Bool.and_eq_true, beq_iff_eq] at h'
      rw [h'.1, h'.2]
    | _ => cases hcov

theorem covered_self {c : Ctor} (hw : c.isWild = false) (ho : c.isOr = false) : c.isCoveredBy c = true := by
  cases c with
  | wild r => cases hw
  | or => cases ho
  | product => rfl
  | variant e i => exact Bool.and_eq_true_iff.2 ⟨beq_self_eq_true e, beq_self_eq_true i⟩
  | _ => exact beq_self_eq_true _

/-! ## `DeconstructedPat::specialize` -/

theorem specialize_ctor (env : EnumEnv) {c : Ctor} (fs : List DPat) (ty : Ty) (c' : Ctor) (n : Nat)
    (hw : c.isWild = false) : (DPat.mk c fs ty).specialize env c' n = fs := by
  cases c <;> first | rfl | cases hw

theorem specialize_wild (env : EnumEnv) (r : WReason) (fs : List DPat) (ty : Ty) (c : Ctor) (n : Nat) :
    ∃ ts : List Ty, ts.length = n ∧ (DPat.mk (.wild r) fs ty).specialize env c n = ts.map (wildOf .spec) :=
  ⟨(List.range n).map fun i => (fieldTys env ty c).getD i .void, by simp, (List.map_map ..).symm⟩

theorem isWild_eq {c : Ctor} (h : c.isWild = true) : ∃ r, c = .wild r := by
  cases c <;> first | exact ⟨_, rfl⟩ | cases h

/-! ## Specialisation lemma, row level -/

/-- **Specialisation lemma** (Maranget), at the constructor of the value -/
theorem row_specialize {p : DPat} {v : Val} (ps : List DPat) (vs : List Val)
    (hp : patWT env p T = true) (hv : hasTy env v T = true) (ho : p.ctor.isOr = false) :
    dmatchAll (p :: ps) (v :: vs) =
      ((ctorOf T v).isCoveredBy p.ctor &&
        dmatchAll (p.specialize env (ctorOf T v) ((ctorOf T v).arity env T) ++ ps) (fieldsOf env T v ++ vs)) := by
  obtain ⟨c, fs, ty⟩ := p
  have hlen := fieldsOf_length hv
  rw [dmatchAll_cons, show (DPat.mk c fs ty).ctor = c from rfl]
  cases hw : c.isWild with
  | true =>
    obtain ⟨r, rfl⟩ := isWild_eq hw
    obtain ⟨ts, hts, hsp⟩ := specialize_wild env r fs ty (ctorOf T v) ((ctorOf T v).arity env T)
    rw [← specTys_length, ← hlen] at hts
    rw [hsp, dmatchAll_pw.append _ _ _ _ (by rw [List.length_map, hts]), dmatchAll_wilds _ _ _ hts]
    exact congrArg (· && _) (covered_wild _ _).symm
  | false =>
    obtain ⟨hc, hfs⟩ := patWT_ctor hp hw ho
    rw [dmatch_ctor ty hc (patsWT_length hfs) hv, specialize_ctor env fs ty _ _ hw]
    cases hcov : (ctorOf T v).isCoveredBy c with
    | false => rfl
    | true =>
      cases covered_eq hcov hw
      rw [dmatchAll_pw.append _ _ _ _ ((patsWT_length hfs).trans hlen.symm)]
      rfl

theorem ctor_of_dmatch {p : DPat} {v : Val}
    (hp : patWT env p T = true) (hv : hasTy env v T = true) (hm : dmatch p v = true)
    (hw : p.ctor.isWild = false) (ho : p.ctor.isOr = false) : p.ctor = ctorOf T v := by
  obtain ⟨c, fs, ty⟩ := p
  obtain ⟨hc, hfs⟩ := patWT_ctor hp hw ho
  rw [dmatch_ctor ty hc (patsWT_length hfs) hv, Bool.and_eq_true] at hm
  exact covered_eq hm.1 hw

theorem patsWT_specialize {p : DPat} {ps : List DPat} {c : Ctor}
    (hp : patWT env p T = true) (hps : patsWT env ps Ts = true) (ho : p.ctor.isOr = false)
    (hcov : c.isCoveredBy p.ctor = true) :
    patsWT env (p.specialize env c (c.arity env T) ++ ps) (specTys env T c ++ Ts) = true := by
  apply patsWT_append _ hps
  obtain ⟨pc, fs, ty⟩ := p
  cases hw : pc.isWild with
  | true =>
    obtain ⟨r, rfl⟩ := isWild_eq hw
    obtain ⟨ts, hts, hsp⟩ := specialize_wild env r fs ty c (c.arity env T)
    rw [hsp]
    exact patsWT_wilds env (by decide) ts _ (hts.trans (specTys_length ..).symm)
  | false =>
    cases covered_eq hcov hw
    rw [specialize_ctor env fs ty _ _ hw]
    exact (patWT_ctor hp hw ho).2

/-- **Default-matrix lemma**: a value that no constructor pattern of the column matches is only
    matched by the wildcard rows -/
theorem row_default {p : DPat} {v : Val} (ps : List DPat) (vs : List Val) (r : WReason)
    (hd : p.ctor.isWild = false → dmatch p v = false) :
    dmatchAll (p :: ps) (v :: vs) =
      ((Ctor.wild r).isCoveredBy p.ctor &&
        dmatchAll (p.specialize env (.wild r) ((Ctor.wild r).arity env T) ++ ps) vs) := by
  obtain ⟨pc, fs, ty⟩ := p
  cases hw : pc.isWild with
  | true => obtain ⟨r', rfl⟩ := isWild_eq hw; rfl
  | false =>
    rw [dmatchAll_cons, hd hw]
    cases pc <;> first | rfl | cases hw

theorem patsWT_default {env : EnumEnv} {T : Ty} {p : DPat} {ps : List DPat} {Ts : List Ty} (r : WReason)
    (hps : patsWT env ps Ts = true) (hcov : (Ctor.wild r).isCoveredBy p.ctor = true) :
    patsWT env (p.specialize env (.wild r) ((Ctor.wild r).arity env T) ++ ps)
      (specTys env T (.wild r) ++ Ts) = true := by
  obtain ⟨pc, fs, ty⟩ := p
  -- only a wildcard head is covered by the wildcard constructor; it is specialised to no columns
  cases pc with
  | wild r' => exact hps
  | _ => cases hcov

/-! ## First matching row; the matrix-level specialisation lemmas -/

def firstMatch (rows : List Row) (vs : List Val) : Option Nat :=
  rows.findIdx? (fun r => dmatchAll r.pats vs)

/-- `parent_row` of the first row of a specialised matrix that matches -/
def firstParent (spec : List Row) (us : List Val) : Option Nat :=
  (spec.find? (fun r => dmatchAll r.pats us)).map Row.parent

theorem firstMatch_nil (vs : List Val) : firstMatch [] vs = none := rfl

theorem firstMatch_cons (r : Row) (rs : List Row) (vs : List Val) :
    firstMatch (r :: rs) vs = if dmatchAll r.pats vs then some 0 else (firstMatch rs vs).map (· + 1) := by
  simp [firstMatch, List.findIdx?_cons]

theorem firstParent_cons (r : Row) (rs : List Row) (us : List Val) :
    firstParent (r :: rs) us = if dmatchAll r.pats us then some r.parent else firstParent rs us := by
  simp only [firstParent, List.find?_cons]
  split <;> simp_all

theorem firstParent_append (a b : List Row) (us : List Val) :
    firstParent (a ++ b) us = (firstParent a us).or (firstParent b us) := by
  simp only [firstParent, List.find?_append]
  cases List.find? _ a <;> rfl

/-- the first matching row found by `find?` is the row at the index found by `findIdx?` -/
theorem firstParent_eq_some (spec : List Row) (us : List Val) (i : Nat) :
    firstParent spec us = some i ↔
      ∃ k r, firstMatch spec us = some k ∧ spec[k]? = some r ∧ r.parent = i := by
  simp only [firstParent, firstMatch, List.find?_eq_bind_findIdx?_getElem?, Option.map_eq_some_iff,
    Option.bind_eq_some_iff]
  exact ⟨fun ⟨r, ⟨k, h1, h2⟩, h3⟩ => ⟨k, r, h1, h2, h3⟩, fun ⟨k, r, h1, h2, h3⟩ => ⟨r, ⟨k, h1, h2⟩, h3⟩⟩

theorem firstMatch_lt {vs : List Val} {k : Nat} (h : firstMatch rows vs = some k) : k < rows.length :=
  (List.findIdx?_eq_some_iff_getElem.1 h).1

theorem firstParent_none_iff (spec : List Row) (us : List Val) :
    firstParent spec us = none ↔ firstMatch spec us = none := by
  simp [firstParent, firstMatch, List.findIdx?_eq_none_iff]

/-- the row numbering of a tail, shifted to that of the whole list -/
theorem map_succ_add (o : Option Nat) (off : Nat) : (o.map (· + 1)).map (· + off) = o.map (· + (off + 1)) := by
  cases o with
  | none => rfl
  | some k => exact congrArg some (Nat.add_right_comm k 1 off)

/-- **Matrix-level specialisation lemma**, generic in the row-level fact `hrow` -/
theorem specializeAux_first (env : EnumEnv) (c : Ctor) (a : Nat) (rows : List Row) (vs us : List Val)
    (hrow : ∀ r ∈ rows, ∀ k, dmatchAll r.pats vs =
      (c.isCoveredBy r.headCtor && dmatchAll (popHead env r c a k).pats us)) (off : Nat) :
    firstParent (specializeAux env c a off rows) us = (firstMatch rows vs).map (· + off) := by
  induction rows generalizing off with
  | nil => simp [specializeAux, firstParent, firstMatch]
  | cons r rs ih =>
    have hr := hrow r (List.mem_cons_self ..) off
    have ih' := ih (fun r' hr' => hrow r' (List.mem_cons_of_mem _ hr')) (off + 1)
    rw [firstMatch_cons, specializeAux]
    by_cases hc : c.isCoveredBy r.headCtor = true
    · rw [if_pos hc, firstParent_cons, ih']
      rw [hc, Bool.true_and] at hr
      rw [← hr]
      by_cases hm : dmatchAll r.pats vs = true
      · -- the popped row keeps the index `off` of `r`
        simp [hm, popHead]
        cases r.pats <;> simp
      · rw [if_neg hm, if_neg hm, map_succ_add]
    · rw [if_neg hc, ih']
      rw [Bool.eq_false_iff.2 hc, Bool.false_and] at hr
      rw [if_neg (by rw [hr]; exact Bool.false_ne_true), map_succ_add]

theorem mem_specializeAux {c : Ctor} {a : Nat} {r' : Row} {off : Nat}
    (h : r' ∈ specializeAux env c a off rows) :
    ∃ r ∈ rows, c.isCoveredBy r.headCtor = true ∧ ∃ k, r' = popHead env r c a k := by
  induction rows generalizing off with
  | nil => cases h
  | cons r rs ih =>
    rw [specializeAux] at h
    split at h
    · rename_i hcov
      rcases List.mem_cons.1 h with rfl | h
      · exact ⟨r, List.mem_cons_self .., hcov, off, rfl⟩
      · exact (ih h).imp fun r0 h0 => ⟨List.mem_cons_of_mem _ h0.1, h0.2⟩
    · exact (ih h).imp fun r0 h0 => ⟨List.mem_cons_of_mem _ h0.1, h0.2⟩

/-! ## Or-pattern expansion -/

mutual
  theorem any_expandPat (p : DPat) (v : Val) : (expandPat p).any (fun h => dmatch h v) = dmatch p v := by
    match p with
    | .mk c fs ty =>
      cases c with
      | or => exact any_expandPats fs v
      | _ => exact Bool.or_false _
  theorem any_expandPats (ps : List DPat) (v : Val) :
      (expandPats ps).any (fun h => dmatch h v) = dmatchAny ps v := by
    match ps with
    | [] => rfl
    | p :: ps =>
      show (expandPat p ++ expandPats ps).any _ = (dmatch p v || dmatchAny ps v)
      rw [List.any_append, any_expandPat p v, any_expandPats ps v]
end

mutual
  theorem wt_expandPat (env : EnumEnv) (p : DPat) (T : Ty) (hp : patWT env p T = true) :
      ∀ h ∈ expandPat p, patWT env h T = true ∧ h.ctor.isOr = false := by
    match p with
    | .mk c fs ty =>
      cases c with
      | or =>
        rw [patWT_or, Bool.and_eq_true] at hp
        exact wt_expandPats env fs T hp.2
      | _ => intro h hh; cases List.mem_singleton.1 hh; exact ⟨hp, rfl⟩
  theorem wt_expandPats (env : EnumEnv) (ps : List DPat) (T : Ty) (hp : patsWTOr env ps T = true) :
      ∀ h ∈ expandPats ps, patWT env h T = true ∧ h.ctor.isOr = false := by
    match ps with
    | [] => intro h hh; cases hh
    | p :: ps =>
      rw [patsWTOr_cons, Bool.and_eq_true] at hp
      intro h hh
      cases List.mem_append.1 (hh : h ∈ expandPat p ++ expandPats ps) with
      | inl hh => exact wt_expandPat env p T hp.1 h hh
      | inr hh => exact wt_expandPats env ps T hp.2 h hh
end

theorem any_expandOrRow (r : Row) (vs : List Val) :
    (expandOrRow r).any (fun e => dmatchAll e.pats vs) = dmatchAll r.pats vs := by
  unfold expandOrRow
  cases hp : r.pats with
  | nil => simp [hp]
  | cons p rest =>
    cases vs with
    | nil => simp
    | cons v vs =>
      simp only [List.any_map, dmatchAll_cons, Function.comp_def]
      rw [← any_expandPat p v]
      induction expandPat p with
      | nil => simp
      | cons h hs ih =>
        simp only [List.any_cons, ih]
        cases dmatch h v <;> cases dmatchAll rest vs <;> simp

theorem firstParent_const_parent (l : List Row) (i : Nat) (us : List Val) :
    firstParent (l.map (fun e => { e with parent := i })) us =
      if l.any (fun e => dmatchAll e.pats us) then some i else none := by
  induction l with
  | nil => simp [firstParent]
  | cons e es ih =>
    rw [List.map_cons, firstParent_cons, ih]
    by_cases h : dmatchAll e.pats us = true <;> simp [h]

/-- **Or-expansion lemma**: the first matching row of the expanded matrix comes from the first
    matching row of the original -/
theorem specializeOrAux_first (rows : List Row) (vs : List Val) (off : Nat) :
    firstParent (specializeOrAux off rows) vs = (firstMatch rows vs).map (· + off) := by
  induction rows generalizing off with
  | nil => simp [specializeOrAux, firstParent, firstMatch]
  | cons r rs ih =>
    rw [specializeOrAux, firstParent_append, firstParent_const_parent, any_expandOrRow, ih (off + 1),
      firstMatch_cons]
    by_cases hm : dmatchAll r.pats vs = true
    · simp [hm]
    · rw [if_neg hm, if_neg hm, Option.none_or, map_succ_add]

/-! ## `unspecialize` -/

theorem unspecialize_cons (flags : List Bool) (r : Row) (rs : List Row) (u : Bool) (us : List Bool) :
    unspecialize flags (r :: rs) (u :: us) =
      unspecialize (flags.set r.parent (flags.getD r.parent false || u)) rs us := rfl

theorem unspecialize_nil (flags cf : List Bool) : unspecialize flags [] cf = flags := by cases cf <;> rfl

theorem unspecialize_length (flags : List Bool) (spec : List Row) (cf : List Bool) :
    (unspecialize flags spec cf).length = flags.length := by
  induction spec generalizing flags cf with
  | nil => rw [unspecialize_nil]
  | cons r rs ih =>
    cases cf with
    | nil => rfl
    | cons u us => rw [unspecialize_cons, ih, List.length_set]

theorem unspecialize_getD (flags : List Bool) (spec : List Row) (cf : List Bool) (i : Nat) :
    (unspecialize flags spec cf).getD i false =
      (flags.getD i false ||
        (decide (i < flags.length) && (spec.zip cf).any (fun x => x.1.parent == i && x.2))) := by
  induction spec generalizing flags cf with
  | nil => simp [unspecialize_nil]
  | cons r rs ih =>
    cases cf with
    | nil => simp [show unspecialize flags (r :: rs) [] = flags from rfl]
    | cons u us =>
      simp only [unspecialize_cons, List.zip_cons_cons, List.any_cons]
      rw [ih]
      by_cases hi : i < flags.length
      · by_cases hp : r.parent = i
        · subst hp
          simp [hi, List.getD_eq_getElem?_getD, Bool.or_assoc]
        · have : (r.parent == i) = false := by simpa using hp
          simp [hi, this, List.getD_eq_getElem?_getD, List.getElem_set_ne hp]
      · simp [hi, List.getD_eq_getElem?_getD]

theorem any_zip_parent_iff (spec : List Row) (cf : List Bool) (i : Nat) :
    (spec.zip cf).any (fun x => x.1.parent == i && x.2) = true ↔
      ∃ k r, spec[k]? = some r ∧ r.parent = i ∧ cf.getD k false = true := by
  simp only [List.any_eq_true, List.mem_iff_getElem?, List.getElem?_zip_eq_some, Bool.and_eq_true, beq_iff_eq,
    Prod.exists, List.getD_eq_getElem?_getD]
  constructor
  · rintro ⟨r, u, ⟨k, h1, h2⟩, h3, rfl⟩; exact ⟨k, r, h1, h3, by rw [h2]; rfl⟩
  · rintro ⟨k, r, h1, h2, h3⟩
    cases hc : cf[k]? with
    | none => rw [hc] at h3; cases h3
    | some u => rw [hc] at h3; cases (h3 : u = true); exact ⟨r, true, ⟨k, h1, hc⟩, h2, rfl⟩

/-! ## `ConstructorSet::split` -/

theorem mem_presentVariants (e n : Nat) (cs : List Ctor) (acc : List Nat) (i : Nat) :
    i ∈ presentVariants e n cs acc ↔ i ∈ acc ∨ (i < n ∧ Ctor.variant e i ∈ cs) := by
  induction cs generalizing acc with
  | nil => simp [presentVariants]
  | cons c cs ih =>
    cases c with
    | variant e' i' =>
      simp only [presentVariants]
      split
      · rename_i h
        simp only [Bool.and_eq_true, beq_iff_eq, decide_eq_true_eq, Bool.not_eq_true',
          List.contains_eq_mem, decide_eq_false_iff_not] at h
        obtain ⟨⟨he, hn⟩, hacc⟩ := h
        subst he
        rw [ih]
        simp only [List.mem_cons, Ctor.variant.injEq, true_and]
        constructor
        · rintro ((h | h) | h)
          · subst h; exact Or.inr ⟨hn, Or.inl rfl⟩
          · exact Or.inl h
          · exact Or.inr ⟨h.1, Or.inr h.2⟩
        · rintro (h | ⟨h1, (h | h)⟩)
          · exact Or.inl (Or.inr h)
          · subst h; exact Or.inl (Or.inl rfl)
          · exact Or.inr ⟨h1, h⟩
      · rename_i h
        rw [ih]
        simp only [List.mem_cons, Ctor.variant.injEq]
        constructor
        · rintro (h' | h')
          · exact Or.inl h'
          · exact Or.inr ⟨h'.1, Or.inr h'.2⟩
        · rintro (h' | ⟨h1, (⟨h2, h3⟩ | h2)⟩)
          · exact Or.inl h'
          · subst h2 h3
            simp only [Bool.and_eq_true, beq_iff_eq, decide_eq_true_eq, Bool.not_eq_true',
              List.contains_eq_mem, decide_eq_false_iff_not, true_and, not_and, Decidable.not_not] at h
            exact Or.inl (h h1)
          · exact Or.inr ⟨h1, h2⟩
    | _ => simp [presentVariants, ih]

/-- a present constructor heads some row, except that `product` is present as soon as there is a row;
    wildcards are only present in columns of an unlistable type -/
theorem split_present {heads : List Ctor} {c : Ctor}
    (hc : c ∈ (split (ctorsForTy env T) heads).1) :
    (c ∈ heads ∧ (c.isWild = false ∨ ctorsForTy env T = .unlistable)) ∨
      (c = .product ∧ ctorsForTy env T = .product) := by
  have prod : ctorsForTy env T = .product → c = .product := by
    intro h; rw [h] at hc; simp only [split] at hc
    split at hc
    · cases hc
    · exact List.mem_singleton.1 hc
  cases T with
  | bool =>
    simp only [ctorsForTy, split, List.mem_append, List.mem_ite_nil_right, List.mem_singleton, List.contains_iff_mem] at hc
    rcases hc with ⟨h, rfl⟩ | ⟨h, rfl⟩ <;> exact Or.inl ⟨h, Or.inl rfl⟩
  | enum e =>
    simp only [ctorsForTy, split, List.mem_map] at hc
    obtain ⟨i, hi, rfl⟩ := hc
    rcases (mem_presentVariants e _ heads [] i).1 hi with h | h
    · cases h
    · exact Or.inl ⟨h.2, Or.inl rfl⟩
  | void | tuple _ | struct _ _ => exact Or.inr ⟨prod rfl, rfl⟩
  | int | float | string => exact Or.inl ⟨hc, Or.inr rfl⟩

theorem exists_key_fresh (g : Ctor → Nat) (cs : List Ctor) : ∃ n, ∀ c ∈ cs, g c ≠ n := by
  suffices h : ∃ n, ∀ c ∈ cs, g c < n from h.imp fun n hn c hc => Nat.ne_of_lt (hn c hc)
  induction cs with
  | nil => exact ⟨0, fun _ h => nomatch h⟩
  | cons c cs ih =>
    obtain ⟨n, hn⟩ := ih
    refine ⟨max n (g c + 1), fun c' hc' => ?_⟩
    rcases List.mem_cons.1 hc' with rfl | h
    · omega
    · have := hn c' h; omega

/-- `int`, `float` bits and `str` are unbounded in the model: there is a literal beyond those among the heads -/
theorem fresh_unlistable (env : EnumEnv) (heads : List Ctor) (hT : ctorsForTy env T = .unlistable) :
    ∃ v0, hasTy env v0 T = true ∧ ctorOf T v0 ∉ heads := by
  cases T <;> first | cases hT | skip
  · obtain ⟨n, hn⟩ := exists_key_fresh (fun | .int i => i.natAbs | _ => 0) heads
    exact ⟨.int n, rfl, fun hm => hn _ hm (Int.natAbs_natCast n)⟩
  · obtain ⟨n, hn⟩ := exists_key_fresh (fun | .float f => f | _ => 0) heads
    exact ⟨.float n, rfl, fun hm => hn _ hm rfl⟩
  · obtain ⟨n, hn⟩ := exists_key_fresh (fun | .str s => s.length | _ => 0) heads
    exact ⟨.str (List.replicate n 0), rfl, fun hm => hn _ hm List.length_replicate⟩

/-- every value's constructor is present, or the default class is processed -/
theorem split_cover {heads : List Ctor} {v0 : Val} (hv : hasTy env v0 T = true) :
    ctorOf T v0 ∈ (split (ctorsForTy env T) heads).1 ∨
      (ctorOf T v0 ∉ heads ∧
        ((split (ctorsForTy env T) heads).2 ≠ [] ∨ ∃ c ∈ (split (ctorsForTy env T) heads).1, c.isWild = true)) := by
  generalize hk : ctorsForTy env T = k
  cases k with
  | unlistable =>
    simp only [split]
    by_cases hc : ctorOf T v0 ∈ heads
    · exact Or.inl hc
    · refine Or.inr ⟨hc, ?_⟩
      by_cases hw : heads.any Ctor.isWild = true
      · exact Or.inr (List.any_eq_true.1 hw)
      · exact Or.inl (by rw [if_neg hw]; exact List.cons_ne_nil _ _)
  | product =>
    have : ctorOf T v0 = .product := by
      cases T <;> first | cases hk | skip
      · rw [hasTy_void hv]; rfl
      · obtain ⟨vs, rfl, _⟩ := hasTy_prod_tuple hv; rfl
      · obtain ⟨vs, rfl, _⟩ := hasTy_prod_struct hv; rfl
    rw [this]; simp only [split]
    cases heads <;> simp
  | bool =>
    cases T <;> first | cases hk | skip
    obtain ⟨b, rfl⟩ := hasTy_lit hv
    simp only [split, ctorOf, List.mem_append, List.mem_ite_nil_right, List.mem_singleton, List.contains_iff_mem]
    by_cases hb : Ctor.bool b ∈ heads
    · left; cases b <;> simp [hb]
    · right; refine ⟨hb, Or.inl ?_⟩; cases b <;> simp [hb]
  | enumVariants e n =>
    cases T <;> cases hk
    obtain ⟨i, pl, rfl, hs, _⟩ := hasTy_enum hv
    rw [variantFields_isSome] at hs
    simp only [split, ctorOf, List.mem_map]
    by_cases hc : Ctor.variant e i ∈ heads
    · exact Or.inl ⟨i, (mem_presentVariants e _ heads [] i).2 (Or.inr ⟨hs, hc⟩), rfl⟩
    · refine Or.inr ⟨hc, Or.inl fun hnil => ?_⟩
      have : Ctor.variant e i ∈ ((List.range (env e).length).filter
          (fun j => !(presentVariants e (env e).length heads []).contains j)).map (Ctor.variant e) := by
        refine List.mem_map.2 ⟨i, List.mem_filter.2 ⟨List.mem_range.2 hs, ?_⟩, rfl⟩
        simp only [Bool.not_eq_true', List.contains_eq_mem, decide_eq_false_iff_not]
        intro hm
        rcases (mem_presentVariants e _ heads [] i).1 hm with h | h
        · cases h
        · exact hc h.2
      rw [hnil] at this; cases this

theorem split_missing (hinh : ∀ T, ∃ v, hasTy env v T = true) {heads : List Ctor}
    {m : Ctor} (hm : m ∈ (split (ctorsForTy env T) heads).2) :
    ∃ v0, hasTy env v0 T = true ∧ ctorOf T v0 ∉ heads ∧ dmatch (missingFromCtor env m T) v0 = true := by
  have unl : ctorsForTy env T = .unlistable → missingFromCtor env (.wild .nonExh) T = .mk (.wild .nonExh) [] T →
      ∃ v0, hasTy env v0 T = true ∧ ctorOf T v0 ∉ heads ∧ dmatch (missingFromCtor env m T) v0 = true := by
    intro hT hmf
    rw [hT] at hm; simp only [split, List.mem_ite_nil_left, List.mem_singleton] at hm
    obtain ⟨v0, h1, h2⟩ := fresh_unlistable env heads hT
    rw [hm.2, hmf]
    exact ⟨v0, h1, h2, rfl⟩
  -- a product is only missing from the empty matrix: any value of the type will do
  have prod : ctorsForTy env T = .product → (∀ v0, hasTy env v0 T = true → dmatch (missingFromCtor env .product T) v0 = true) →
      ∃ v0, hasTy env v0 T = true ∧ ctorOf T v0 ∉ heads ∧ dmatch (missingFromCtor env m T) v0 = true := by
    intro hT hd
    rw [hT] at hm; simp only [split] at hm
    split at hm
    · rename_i hempty
      cases List.mem_singleton.1 hm
      cases List.isEmpty_iff.1 hempty
      obtain ⟨v0, hv0⟩ := hinh T
      exact ⟨v0, hv0, List.not_mem_nil, hd v0 hv0⟩
    · cases hm
  cases T with
  | bool =>
    simp only [ctorsForTy, split, List.mem_append, List.mem_ite_nil_left, List.mem_singleton, List.contains_iff_mem] at hm
    rcases hm with ⟨hb, rfl⟩ | ⟨hb, rfl⟩
    · exact ⟨.bool false, rfl, hb, rfl⟩
    · exact ⟨.bool true, rfl, hb, rfl⟩
  | int | float | string => exact unl rfl rfl
  | void => exact prod rfl fun v0 hv0 => by rw [hasTy_void hv0]; rfl
  | tuple ts =>
    refine prod rfl fun v0 hv0 => ?_
    obtain ⟨vs, rfl, hvs⟩ := hasTy_prod_tuple hv0
    exact dmatchAll_wilds _ _ _ (hasTys_length hvs).symm
  | struct id ts =>
    refine prod rfl fun v0 hv0 => ?_
    obtain ⟨vs, rfl, hvs⟩ := hasTy_prod_struct hv0
    exact dmatchAll_wilds _ _ _ (hasTys_length hvs).symm
  | enum e =>
    simp only [ctorsForTy, split, List.mem_map, List.mem_filter, List.mem_range] at hm
    obtain ⟨i, ⟨hi, hnp⟩, rfl⟩ := hm
    obtain ⟨pl, hpl⟩ := hinh (dataTy env e i)
    refine ⟨.variant i pl, hasTy_variant.2 ⟨(variantFields_isSome ..).2 hi, hpl⟩, fun hc => ?_, ?_⟩
    · have := (mem_presentVariants e _ heads [] i).2 (Or.inr ⟨hi, hc⟩)
      simp [this] at hnp
    · show dmatch (if (dataTy env e i).isVoid then .mk (.variant e i) [] (.enum e)
        else .mk (.variant e i) [wildOf .nonExh (dataTy env e i)] (.enum e)) (.variant i pl) = true
      split <;> exact Bool.and_eq_true_iff.2 ⟨beq_self_eq_true i, rfl⟩

/-! ## Matrices: well-formedness and the two class lemmas -/

def rowsWT (env : EnumEnv) (Ts : List Ty) (rows : List Row) : Prop :=
  ∀ r ∈ rows, patsWT env r.pats Ts = true

def noOrHeads (rows : List Row) : Prop := ∀ r ∈ rows, r.headCtor.isOr = false

theorem noOrHeads_of_not_any (h : ¬rows.any (fun r => r.headCtor.isOr) = true) : noOrHeads rows := by
  intro r hr
  cases hc : r.headCtor.isOr with
  | false => rfl
  | true => exact absurd (List.any_eq_true.2 ⟨r, hr, hc⟩) h

theorem row_cons_of_WT {r : Row}
    (h : patsWT env r.pats (T :: Ts) = true) :
    ∃ p ps k, r = ⟨p :: ps, k⟩ ∧ patWT env p T = true ∧ patsWT env ps Ts = true := by
  obtain ⟨pats, k⟩ := r
  cases pats with
  | nil => cases h
  | cons p ps => exact ⟨p, ps, k, rfl, Bool.and_eq_true_iff.1 h⟩

/-- class of the value's own constructor -/
theorem class_real (hwt : rowsWT env (T :: Ts) rows) (hno : noOrHeads rows) {v0 : Val} (vs : List Val)
    (hv0 : hasTy env v0 T = true) :
    firstParent (specialize env (ctorOf T v0) ((ctorOf T v0).arity env T) rows)
      (fieldsOf env T v0 ++ vs) = firstMatch rows (v0 :: vs) := by
  have := specializeAux_first env (ctorOf T v0) ((ctorOf T v0).arity env T) rows (v0 :: vs)
    (fieldsOf env T v0 ++ vs) (fun r hr k => ?_) 0
  · simpa [specialize] using this
  · obtain ⟨p, ps, _, rfl, hpw, _⟩ := row_cons_of_WT (hwt r hr)
    exact row_specialize ps vs hpw hv0 (hno _ hr)

/-- class of the values no constructor pattern of the column matches (default matrix) -/
theorem class_default (hwt : rowsWT env (T :: Ts) rows) (hno : noOrHeads rows) {v0 : Val} (vs : List Val)
    (hv0 : hasTy env v0 T = true) (hfresh : ctorOf T v0 ∉ rows.map Row.headCtor) (r : WReason) :
    firstParent (specialize env (.wild r) ((Ctor.wild r).arity env T) rows) vs = firstMatch rows (v0 :: vs) := by
  have := specializeAux_first env (.wild r) ((Ctor.wild r).arity env T) rows (v0 :: vs) vs (fun row hr k => ?_) 0
  · simpa [specialize] using this
  · obtain ⟨p, ps, _, rfl, hpw, _⟩ := row_cons_of_WT (hwt row hr)
    refine row_default ps vs r fun hw => ?_
    -- a constructor pattern that matched `v0` would put the constructor of `v0` among the heads
    cases hm : dmatch p v0 with
    | false => rfl
    | true => exact absurd (List.mem_map.2 ⟨_, hr, ctor_of_dmatch hpw hv0 hm hw (hno _ hr)⟩) hfresh

theorem rowsWT_specialize (hwt : rowsWT env (T :: Ts) rows) (hno : noOrHeads rows) (c : Ctor) :
    rowsWT env (specTys env T c ++ Ts) (specialize env c (c.arity env T) rows) := by
  intro r' hr'
  obtain ⟨r, hr, hcov, k, rfl⟩ := mem_specializeAux hr'
  obtain ⟨p, ps, _, rfl, hpw, hpsw⟩ := row_cons_of_WT (hwt r hr)
  exact patsWT_specialize hpw hpsw (hno _ hr) hcov

theorem specializeOrAux_rows (hwt : rowsWT env (T :: Ts) rows) (off : Nat) :
    ∀ r ∈ specializeOrAux off rows, patsWT env r.pats (T :: Ts) = true ∧ r.headCtor.isOr = false := by
  induction rows generalizing off with
  | nil => intro r hr; cases hr
  | cons row rs ih =>
    intro r hr
    rw [specializeOrAux, List.mem_append] at hr
    rcases hr with hr | hr
    · obtain ⟨e, he, rfl⟩ := List.mem_map.1 hr
      obtain ⟨p, ps, k, rfl, hpw, hpsw⟩ := row_cons_of_WT (hwt row (List.mem_cons_self ..))
      obtain ⟨h, hh, rfl⟩ := List.mem_map.1 (he : e ∈ (expandPat p).map fun h => ⟨h :: ps, k⟩)
      obtain ⟨h1, h2⟩ := wt_expandPat env p T hpw h hh
      exact ⟨Bool.and_eq_true_iff.2 ⟨h1, hpsw⟩, h2⟩
    · exact ih (fun r hr => hwt r (List.mem_cons_of_mem _ hr)) _ r hr

theorem rowsWT_specializeOr (hwt : rowsWT env (T :: Ts) rows) : rowsWT env (T :: Ts) (specializeOr rows) :=
  fun r hr => (specializeOrAux_rows hwt 0 r hr).1

/-! ## The invariant of `compute_exhaustiveness_and_usefulness` -/

/-- what the result of the algorithm on `(Ts, rows)` means: a row is flagged useful exactly when
    some well-typed value vector reaches it first; no witnesses ⇒ every vector matches a row; every
    witness (a stack: last element = first column) covers a well-typed vector that matches no row -/
structure Good (env : EnumEnv) (Ts : List Ty) (rows : List Row) (res : Result) : Prop where
  len : res.1.length = rows.length
  useful : ∀ i, i < rows.length →
    (res.1.getD i false = true ↔ ∃ vs, hasTys env vs Ts = true ∧ firstMatch rows vs = some i)
  exh : res.2 = [] → ∀ vs, hasTys env vs Ts = true → firstMatch rows vs ≠ none
  wit : ∀ w ∈ res.2, ∃ vs, hasTys env vs Ts = true ∧ firstMatch rows vs = none ∧ dmatchAll w.reverse vs = true

theorem good_base (hwt : rowsWT env [] rows) :
    Good env [] rows (baseFlags rows.length, if rows.isEmpty then [[]] else []) := by
  cases rows with
  | nil =>
    -- no rows and no columns: the empty vector is matched by nothing, the empty witness row covers it
    refine ⟨rfl, (fun i hi => absurd hi (Nat.not_lt_zero i)), (fun h => by cases h), fun w hw => ?_⟩
    cases List.mem_singleton.1 hw
    exact ⟨[], rfl, rfl, rfl⟩
  | cons r rs =>
    have hfm : ∀ vs, hasTys env vs [] = true → firstMatch (r :: rs) vs = some 0 := by
      intro vs hvs
      cases hasTys_nil hvs
      rw [firstMatch_cons, patsWT_nil (hwt r (List.mem_cons_self ..))]; rfl
    refine ⟨by simp [baseFlags], fun i hi => ?_, fun _ vs hvs h => ?_, fun w hw => by cases hw⟩
    · have hi' : i < rs.length + 1 := hi
      have hg : (baseFlags (r :: rs).length).getD i false = (i == 0) := by
        simp [baseFlags, List.getD_eq_getElem?_getD, hi']
      rw [hg, beq_iff_eq]
      constructor
      · rintro rfl; exact ⟨[], rfl, hfm [] rfl⟩
      · rintro ⟨vs, hvs, hf⟩
        rw [hfm vs hvs] at hf
        exact (Option.some.inj hf).symm
    · rw [hfm vs hvs] at h; cases h

/-- the result for a specialised matrix `spec`, read in the row numbering of the matrix it came from -/
theorem Good.parent {Ts' : List Ty} {spec : List Row} {cf : List Bool} {w : List (List DPat)}
    (G : Good env Ts' spec (cf, w)) (flags : List Bool) :
    (∀ i, i < flags.length → ((unspecialize flags spec cf).getD i false = true ↔
      flags.getD i false = true ∨ ∃ us, hasTys env us Ts' = true ∧ firstParent spec us = some i)) ∧
    (w = [] → ∀ us, hasTys env us Ts' = true → firstParent spec us ≠ none) ∧
    ∀ w0 ∈ w, ∃ us, hasTys env us Ts' = true ∧ firstParent spec us = none ∧ dmatchAll w0.reverse us = true := by
  refine ⟨fun i hi => ?_, fun hw us hus => ?_, fun w0 hw0 => ?_⟩
  · -- a parent flag is set by a child row `k` with that parent whose own flag is set
    rw [unspecialize_getD, Bool.or_eq_true, decide_eq_true hi, Bool.true_and, any_zip_parent_iff]
    refine or_congr_right ⟨?_, ?_⟩
    · rintro ⟨k, r, h1, h2, h3⟩
      obtain ⟨us, hU, hf⟩ := (G.useful k (List.getElem?_eq_some_iff.1 h1).1).1 h3
      exact ⟨us, hU, (firstParent_eq_some spec us i).2 ⟨k, r, hf, h1, h2⟩⟩
    · rintro ⟨us, hU, hf⟩
      obtain ⟨k, r, h1, h2, h3⟩ := (firstParent_eq_some spec us i).1 hf
      exact ⟨k, r, h2, h3, (G.useful k (firstMatch_lt h1)).2 ⟨us, hU, h1⟩⟩
  · rw [Ne, firstParent_none_iff]; exact G.exh hw us hus
  · obtain ⟨us, h1, h2, h3⟩ := G.wit w0 hw0
    exact ⟨us, h1, (firstParent_none_iff ..).2 h2, h3⟩

theorem good_or {cf : List Bool} {w : List (List DPat)} (h : Good env (T :: Ts) (specializeOr rows) (cf, w)) :
    Good env (T :: Ts) rows (unspecialize (List.replicate rows.length false) (specializeOr rows) cf, w) := by
  have hfp : ∀ vs, firstParent (specializeOr rows) vs = firstMatch rows vs := by
    intro vs; have := specializeOrAux_first rows vs 0; simpa [specializeOr] using this
  obtain ⟨p1, p2, p3⟩ := h.parent (List.replicate rows.length false)
  simp only [hfp, List.length_replicate] at p1 p2 p3
  refine ⟨by simp [unspecialize_length], fun i hi => (p1 i hi).trans ?_, p2, p3⟩
  simp [List.getD_eq_getElem?_getD, hi]

/-! ## The constructor loop -/

/-- what one iteration of `for ctor in present_ctors` does to the child witnesses -/
def transform (env : EnumEnv) (c : Ctor) (arity : Nat) (missing : List Ctor) (T : Ty) (W : List (List DPat)) :
    List (List DPat) :=
  if c.isNonExh then applyMissing env missing T W else applyConstructor c arity T W

/-- `apply_constructor` on one witness row: the last `a` entries become the fields of `c` -/
theorem transform_ctor {c : Ctor} (h : c.isNonExh = false) (a : Nat) (missing : List Ctor) (w0 : List DPat) :
    transform env c a missing T [w0] =
      [w0.take (w0.length - a) ++ [DPat.mk c (w0.drop (w0.length - a)).reverse T]] := by
  rw [transform, h]; rfl

theorem mem_transform {c : Ctor} {a : Nat} {missing : List Ctor} {W : List (List DPat)} {w1 : List DPat} :
    w1 ∈ transform env c a missing T W ↔ ∃ w0 ∈ W, w1 ∈ transform env c a missing T [w0] := by
  unfold transform
  split
  · unfold applyMissing
    split
    · simp
    · simp only [List.mem_flatMap, List.mem_map, List.mem_singleton]
      constructor
      · rintro ⟨m, hm, w0, hw0, rfl⟩; exact ⟨w0, hw0, m, hm, w0, rfl, rfl⟩
      · rintro ⟨w0, hw0, m, hm, w0', rfl, rfl⟩; exact ⟨m, hm, w0', hw0, rfl⟩
  · simp only [applyConstructor, List.mem_map, List.map_cons, List.map_nil, List.mem_singleton]
    constructor <;> rintro ⟨w0, h, h'⟩ <;> exact ⟨w0, h, h'.symm⟩

theorem transform_nil {c : Ctor} {a : Nat} {missing : List Ctor} {W : List (List DPat)}
    (h : transform env c a missing T W = []) : W = [] := by
  unfold transform at h
  split at h
  · unfold applyMissing at h
    split at h
    · exact h
    · rename_i hne
      cases missing with
      | nil => simp at hne
      | cons m ms =>
        simp only [List.flatMap_cons, List.append_eq_nil_iff, List.map_eq_nil_iff] at h
        exact h.1
  · simpa [applyConstructor] using h

theorem dmatch_ctor_fields {v0 : Val} (F : List DPat) (ty : Ty)
    (hv0 : hasTy env v0 T = true) (hF : dmatchAll F (fieldsOf env T v0) = true) :
    dmatch (.mk (ctorOf T v0) F ty) v0 = true := by
  obtain ⟨hc, _⟩ := hasTy_ctor hv0
  rw [dmatch_ctor ty hc ((dmatchAll_pw.length hF).trans (fieldsOf_length hv0)) hv0, hF, Bool.and_true]
  exact covered_self (by cases v0 <;> rfl) (by cases v0 <;> rfl)

/-- every loop iteration is justified by one of the two class lemmas -/
structure CtorOK (env : EnumEnv) (T : Ty) (Ts : List Ty) (rows : List Row) (missing : List Ctor) (c : Ctor) : Prop where
  up : ∀ us, hasTys env us (specTys env T c ++ Ts) = true →
    ∃ vs, hasTys env vs (T :: Ts) = true ∧
      firstMatch rows vs = firstParent (specialize env c (c.arity env T) rows) us
  wit : ∀ us, hasTys env us (specTys env T c ++ Ts) = true → ∀ w0, dmatchAll w0.reverse us = true →
    ∀ w1 ∈ transform env c (c.arity env T) missing T [w0],
      ∃ vs, hasTys env vs (T :: Ts) = true ∧
        firstMatch rows vs = firstParent (specialize env c (c.arity env T) rows) us ∧
        dmatchAll w1.reverse vs = true

theorem ctorOK_real (hwt : rowsWT env (T :: Ts) rows) (hno : noOrHeads rows) (missing : List Ctor) {c : Ctor}
    (hc : CtorOf env T c) (hnw : c.isWild = false) : CtorOK env T Ts rows missing c := by
  have key : ∀ us, hasTys env us (specTys env T c ++ Ts) = true →
      ∃ v0, hasTy env v0 T = true ∧ ctorOf T v0 = c ∧
        fieldsOf env T v0 = us.take (c.arity env T) ∧
        hasTys env (v0 :: us.drop (c.arity env T)) (T :: Ts) = true ∧
        firstMatch rows (v0 :: us.drop (c.arity env T)) = firstParent (specialize env c (c.arity env T) rows) us := by
    intro us hus
    obtain ⟨h1, h2⟩ := (hasTys_pw env).split hus (specTys env T c).length
    rw [List.take_left' rfl, specTys_length] at h1
    rw [List.drop_left' rfl, specTys_length] at h2
    obtain ⟨v0, hv0, hc, hf⟩ := hc.value h1
    refine ⟨v0, hv0, hc, hf, Bool.and_eq_true_iff.2 ⟨hv0, h2⟩, ?_⟩
    have := class_real hwt hno (us.drop (c.arity env T)) hv0
    rw [hc, hf, List.take_append_drop] at this
    exact this.symm
  constructor
  · intro us hus
    obtain ⟨v0, _, _, _, h4, h5⟩ := key us hus
    exact ⟨_, h4, h5⟩
  · intro us hus w0 hw0 w1 hw1
    obtain ⟨v0, hv0, hc, hf, h4, h5⟩ := key us hus
    refine ⟨_, h4, h5, ?_⟩
    have hne : c.isNonExh = false := by
      cases c with
      | wild r => cases hnw
      | _ => rfl
    rw [transform_ctor hne, List.mem_singleton] at hw1
    subst hw1
    -- read in column order, the witness row is `c` applied to the first `arity` columns, then the rest
    obtain ⟨hF, hK⟩ := dmatchAll_pw.split hw0 (c.arity env T)
    rw [List.reverse_append, List.reverse_singleton, List.singleton_append, dmatchAll_cons,
      ← List.take_reverse, ← List.drop_reverse, hK, Bool.and_true]
    have := dmatch_ctor_fields (w0.reverse.take (c.arity env T)) T hv0 (hf ▸ hF)
    rwa [hc] at this

/-- the default class (wildcard constructor): every new witness row is an old one extended by a
    pattern that covers some value whose constructor heads no row -/
theorem ctorOK_default (hwt : rowsWT env (T :: Ts) rows) (hno : noOrHeads rows) {missing : List Ctor} {r : WReason}
    (hex : ∃ v0, hasTy env v0 T = true ∧ ctorOf T v0 ∉ rows.map Row.headCtor)
    (hq : ∀ w0, ∀ w1 ∈ transform env (.wild r) 0 missing T [w0], ∃ q v0, w1 = w0 ++ [q] ∧
      hasTy env v0 T = true ∧ ctorOf T v0 ∉ rows.map Row.headCtor ∧ dmatch q v0 = true) :
    CtorOK env T Ts rows missing (.wild r) := by
  have key : ∀ v0, hasTy env v0 T = true → ctorOf T v0 ∉ rows.map Row.headCtor →
      ∀ us, hasTys env us (specTys env T (.wild r) ++ Ts) = true → hasTys env (v0 :: us) (T :: Ts) = true ∧
        firstMatch rows (v0 :: us) = firstParent (specialize env (.wild r) ((Ctor.wild r).arity env T) rows) us :=
    fun v0 hv0 hf us hus => ⟨Bool.and_eq_true_iff.2 ⟨hv0, hus⟩, (class_default hwt hno us hv0 hf r).symm⟩
  constructor
  · intro us hus
    obtain ⟨v0, hv0, hf⟩ := hex
    exact ⟨_, key v0 hv0 hf us hus⟩
  · intro us hus w0 hw0 w1 hw1
    obtain ⟨q, v0, rfl, hv0, hf, hqv⟩ := hq w0 w1 hw1
    refine ⟨_, (key v0 hv0 hf us hus).1, (key v0 hv0 hf us hus).2, ?_⟩
    rw [List.reverse_append, List.reverse_singleton, List.singleton_append, dmatchAll_cons, hqv, hw0]; rfl

/-- loop invariant of `for ctor in present_ctors` -/
structure LoopInv (env : EnumEnv) (T : Ty) (Ts : List Ty) (rows : List Row) (done : List Ctor) (acc : Result) : Prop where
  len : acc.1.length = rows.length
  useful : ∀ i, i < rows.length →
    (acc.1.getD i false = true ↔ ∃ c ∈ done, ∃ us, hasTys env us (specTys env T c ++ Ts) = true ∧
      firstParent (specialize env c (c.arity env T) rows) us = some i)
  exh : acc.2 = [] → ∀ c ∈ done, ∀ us, hasTys env us (specTys env T c ++ Ts) = true →
    firstParent (specialize env c (c.arity env T) rows) us ≠ none
  wit : ∀ w ∈ acc.2, ∃ vs, hasTys env vs (T :: Ts) = true ∧ firstMatch rows vs = none ∧ dmatchAll w.reverse vs = true

theorem loop_init (env : EnumEnv) (T : Ty) (Ts : List Ty) (rows : List Row) :
    LoopInv env T Ts rows [] (List.replicate rows.length false, []) := by
  refine ⟨by simp, ?_, by simp, by simp⟩
  intro i hi
  simp [List.getD_eq_getElem?_getD, hi]

theorem loop_step {rec : List Ty → List Row → Option Result}
    (hrec : ∀ Ts' rows' res, rowsWT env Ts' rows' → rec Ts' rows' = some res → Good env Ts' rows' res)
    (hwt : rowsWT env (T :: Ts) rows) (hno : noOrHeads rows)
    {missing : List Ctor} {c : Ctor} (hok : CtorOK env T Ts rows missing c) {done : List Ctor} {acc acc' : Result}
    (hinv : LoopInv env T Ts rows done acc)
    (hstep : stepCtor env rec T Ts rows missing acc c = some acc') :
    LoopInv env T Ts rows (done ++ [c]) acc' := by
  unfold stepCtor at hstep
  simp only [] at hstep
  cases hr : rec (specTys env T c ++ Ts) (specialize env c (c.arity env T) rows) with
  | none => simp [hr] at hstep
  | some res =>
    obtain ⟨cf, w⟩ := res
    simp only [hr, Option.some.injEq] at hstep
    subst hstep
    have G := hrec _ _ _ (rowsWT_specialize hwt hno c) hr
    obtain ⟨p1, p2, p3⟩ := G.parent acc.1
    refine ⟨by simp [unspecialize_length, hinv.len], fun i hi => ?_, fun hnil c' hc' => ?_, fun w1 hw1 => ?_⟩
    · rw [p1 i (hinv.len ▸ hi), hinv.useful i hi]
      simp only [List.mem_append, List.mem_singleton]
      constructor
      · rintro (⟨c', hc', h⟩ | h)
        · exact ⟨c', Or.inl hc', h⟩
        · exact ⟨c, Or.inr rfl, h⟩
      · rintro ⟨c', (hc' | rfl), h⟩
        · exact Or.inl ⟨c', hc', h⟩
        · exact Or.inr h
    · have hnil' := List.append_eq_nil_iff.1 hnil
      rcases List.mem_append.1 hc' with hc' | hc'
      · exact hinv.exh hnil'.1 c' hc'
      · cases List.mem_singleton.1 hc'
        exact p2 (transform_nil (c := c) (a := c.arity env T) hnil'.2)
    · rcases List.mem_append.1 hw1 with hw1 | hw1
      · exact hinv.wit w1 hw1
      · obtain ⟨w0, hw0, hw1'⟩ := mem_transform.1 (hw1 : w1 ∈ transform env c (c.arity env T) missing T w)
        obtain ⟨us, hus, hnone, hm⟩ := p3 w0 hw0
        obtain ⟨vs, h1, h2, h3⟩ := hok.wit us hus w0 hm w1 hw1'
        exact ⟨vs, h1, h2.trans hnone, h3⟩

theorem loop_all {rec : List Ty → List Row → Option Result}
    (hrec : ∀ Ts' rows' res, rowsWT env Ts' rows' → rec Ts' rows' = some res → Good env Ts' rows' res)
    (hwt : rowsWT env (T :: Ts) rows) (hno : noOrHeads rows)
    {missing : List Ctor} (cs : List Ctor) (hok : ∀ c ∈ cs, CtorOK env T Ts rows missing c)
    {done : List Ctor} {acc res : Result} (hinv : LoopInv env T Ts rows done acc)
    (hfold : foldCtors (stepCtor env rec T Ts rows missing) acc cs = some res) :
    LoopInv env T Ts rows (done ++ cs) res := by
  induction cs generalizing done acc with
  | nil => simp only [foldCtors, Option.some.injEq] at hfold; subst hfold; simpa using hinv
  | cons c cs ih =>
    simp only [foldCtors] at hfold
    cases hs : stepCtor env rec T Ts rows missing acc c with
    | none => simp [hs] at hfold
    | some acc' =>
      simp only [hs] at hfold
      have := ih (fun c' hc' => hok c' (List.mem_cons_of_mem _ hc'))
        (loop_step hrec hwt hno (hok c (List.mem_cons_self ..)) hinv hs) hfold
      simpa using this

/-- the constructors the loop runs over -/
def presentCtors (env : EnumEnv) (T : Ty) (rows : List Row) : List Ctor :=
  let sp := split (ctorsForTy env T) (rows.map Row.headCtor)
  if sp.2.isEmpty then sp.1 else sp.1 ++ [.wild .nonExh]

theorem mem_presentCtors {c : Ctor} :
    c ∈ presentCtors env T rows ↔ c ∈ (split (ctorsForTy env T) (rows.map Row.headCtor)).1 ∨
      ((split (ctorsForTy env T) (rows.map Row.headCtor)).2 ≠ [] ∧ c = .wild .nonExh) := by
  unfold presentCtors
  simp only []
  split
  · rename_i he
    rw [List.isEmpty_iff.1 he]
    exact ⟨Or.inl, fun h => h.elim id fun h => absurd rfl h.1⟩
  · rename_i he
    rw [List.mem_append, List.mem_singleton, List.isEmpty_iff] at *
    exact ⟨fun h => h.imp id fun h => ⟨he, h⟩, fun h => h.imp id fun h => h.2⟩

theorem ctorOK_all (hinh : ∀ T, ∃ v, hasTy env v T = true)
    (hwt : rowsWT env (T :: Ts) rows) (hno : noOrHeads rows) :
    ∀ c ∈ presentCtors env T rows,
      CtorOK env T Ts rows (split (ctorsForTy env T) (rows.map Row.headCtor)).2 c := by
  have h1 : ∀ c ∈ (split (ctorsForTy env T) (rows.map Row.headCtor)).1,
      CtorOK env T Ts rows (split (ctorsForTy env T) (rows.map Row.headCtor)).2 c := by
    intro c hc
    rcases split_present hc with ⟨hh, hk⟩ | ⟨rfl, hT⟩
    · -- `c` heads a row: read its typing off that row's head pattern
      obtain ⟨r, hr, rfl⟩ := List.mem_map.1 hh
      obtain ⟨⟨pc, fs, ty⟩, ps, k, rfl, hpw, _⟩ := row_cons_of_WT (hwt r hr)
      cases hw : pc.isWild with
      | false => exact ctorOK_real hwt hno _ (patWT_ctor hpw hw (hno _ hr)).1 hw
      | true =>
        -- a wildcard row in a column of an unlistable type: its witness is the wildcard itself
        obtain ⟨r', rfl⟩ := isWild_eq hw
        have hne : (Ctor.wild r').isNonExh = false := by
          cases r' with
          | nonExh => cases T <;> cases hpw  -- `patWT` rejects a `nonExh` wildcard at every type
          | _ => rfl
        obtain ⟨v0, hv0, hfresh⟩ :=
          fresh_unlistable env (rows.map Row.headCtor) (hk.resolve_left fun h => nomatch h)
        refine ctorOK_default hwt hno ⟨v0, hv0, hfresh⟩ fun w0 w1 hw1 => ?_
        rw [transform_ctor hne, List.mem_singleton, Nat.sub_zero, List.take_length, List.drop_length] at hw1
        exact ⟨_, v0, hw1, hv0, hfresh, rfl⟩
    · exact ctorOK_real hwt hno _ (by cases T <;> first | rfl | cases hT) rfl
  intro c hc
  rcases mem_presentCtors.1 hc with hc | ⟨hne, rfl⟩
  · exact h1 c hc
  · -- the missing constructors: one witness per missing constructor, each with a value of its own
    have hmis : ∀ m ∈ (split (ctorsForTy env T) (rows.map Row.headCtor)).2, _ := fun m hm => split_missing hinh hm
    refine ctorOK_default hwt hno ?_ fun w0 w1 hw1 => ?_
    · obtain ⟨m, hm⟩ := List.exists_mem_of_ne_nil _ hne
      obtain ⟨v0, hv0, hfresh, _⟩ := hmis m hm
      exact ⟨v0, hv0, hfresh⟩
    · simp only [transform, Ctor.isNonExh, applyMissing, List.isEmpty_iff, hne, if_true, if_false,
        List.mem_flatMap, List.map_cons, List.map_nil, List.mem_singleton] at hw1
      obtain ⟨m, hm, rfl⟩ := hw1
      obtain ⟨v0, hv0, hfresh, hmatch⟩ := hmis m hm
      exact ⟨_, v0, rfl, hv0, hfresh, hmatch⟩

theorem cover_all (hwt : rowsWT env (T :: Ts) rows) (hno : noOrHeads rows) {vs : List Val}
    (hvs : hasTys env vs (T :: Ts) = true) :
    ∃ c ∈ presentCtors env T rows, ∃ us, hasTys env us (specTys env T c ++ Ts) = true ∧
      firstParent (specialize env c (c.arity env T) rows) us = firstMatch rows vs := by
  obtain ⟨v0, vs', rfl, hv0, hvs'⟩ := hasTys_cons hvs
  rcases split_cover (heads := rows.map Row.headCtor) hv0 with h | ⟨hfresh, h⟩
  · refine ⟨_, mem_presentCtors.2 (Or.inl h), fieldsOf env T v0 ++ vs', ?_, class_real hwt hno vs' hv0⟩
    rw [(hasTys_pw env).append _ _ _ _ (fieldsOf_length hv0), (hasTy_ctor hv0).2, hvs']; rfl
  · rcases h with h | ⟨c, hc, hcw⟩
    · exact ⟨_, mem_presentCtors.2 (Or.inr ⟨h, rfl⟩), vs', hvs', class_default hwt hno vs' hv0 hfresh _⟩
    · obtain ⟨r, rfl⟩ := isWild_eq hcw
      exact ⟨_, mem_presentCtors.2 (Or.inl hc), vs', hvs', class_default hwt hno vs' hv0 hfresh r⟩

theorem good_of_loop (hinh : ∀ T, ∃ v, hasTy env v T = true)
    (hwt : rowsWT env (T :: Ts) rows) (hno : noOrHeads rows) {res : Result}
    (hinv : LoopInv env T Ts rows (presentCtors env T rows) res) : Good env (T :: Ts) rows res := by
  have hok := ctorOK_all (Ts := Ts) hinh hwt hno
  refine ⟨hinv.len, ?_, ?_, hinv.wit⟩
  · intro i hi
    rw [hinv.useful i hi]
    constructor
    · rintro ⟨c, hc, us, hus, hf⟩
      obtain ⟨vs, h1, h2⟩ := (hok c hc).up us hus
      exact ⟨vs, h1, by rw [h2, hf]⟩
    · rintro ⟨vs, hvs, hf⟩
      obtain ⟨c, hc, us, hus, h⟩ := cover_all hwt hno hvs
      exact ⟨c, hc, us, hus, by rw [h, hf]⟩
  · intro hnil vs hvs
    obtain ⟨c, hc, us, hus, h⟩ := cover_all hwt hno hvs
    rw [← h]; exact hinv.exh hnil c hc us hus

/-- **Main invariant**: whatever fuel the run had, a result is `Good` -/
theorem compute_good {env : EnumEnv} (hinh : ∀ T, ∃ v, hasTy env v T = true) (fuel : Nat) :
    ∀ Ts rows res, rowsWT env Ts rows → compute env fuel Ts rows = some res → Good env Ts rows res := by
  induction fuel with
  | zero => intro Ts rows res _ h; simp [compute] at h
  | succ fuel ih =>
    intro Ts rows res hwt h
    cases Ts with
    | nil =>
      simp only [compute, Option.some.injEq] at h
      subst h; exact good_base hwt
    | cons T Ts =>
      simp only [compute] at h
      split at h
      · -- an or-pattern at the head of some row
        cases hr : compute env fuel (T :: Ts) (specializeOr rows) with
        | none => simp [hr] at h
        | some r =>
          obtain ⟨cf, w⟩ := r
          simp only [hr, Option.some.injEq] at h
          subst h
          exact good_or (ih _ _ _ (rowsWT_specializeOr hwt) hr)
      · rename_i hor
        have hno := noOrHeads_of_not_any hor
        have hinv := loop_all ih hwt hno _ (ctorOK_all hinh hwt hno) (loop_init env T Ts rows) h
        exact good_of_loop hinh hwt hno (by simpa [presentCtors] using hinv)

/-! ## From the matrix to the arm list (`match_expr_exhaustive_check`) -/

theorem firstMatch_initRows (pats : List DPat) (v : Val) (off : Nat) :
    firstMatch (initRows off pats) [v] = pats.findIdx? (fun p => dmatch p v) := by
  induction pats generalizing off with
  | nil => simp [initRows, firstMatch]
  | cons p ps ih =>
    rw [initRows, firstMatch_cons, ih (off + 1), List.findIdx?_cons]
    simp

theorem initRows_length (pats : List DPat) (off : Nat) : (initRows off pats).length = pats.length := by
  induction pats generalizing off with
  | nil => simp [initRows]
  | cons p ps ih => simp [initRows, ih]

theorem rowsWT_initRows {env : EnumEnv} {ty : Ty} {pats : List DPat} (h : ∀ p ∈ pats, patWT env p ty = true)
    (off : Nat) : rowsWT env [ty] (initRows off pats) := by
  induction pats generalizing off with
  | nil => intro r hr; simp [initRows] at hr
  | cons p ps ih =>
    intro r hr
    simp only [initRows, List.mem_cons] at hr
    rcases hr with hr | hr
    · subst hr; exact Bool.and_eq_true_iff.2 ⟨h p (List.mem_cons_self ..), rfl⟩
    · exact ih (fun q hq => h q (List.mem_cons_of_mem _ hq)) _ r hr

theorem hasTys_single {vs : List Val} {ty : Ty} (h : hasTys env vs [ty] = true) :
    ∃ v, vs = [v] ∧ hasTy env v ty = true := by
  obtain ⟨v, vs', rfl, hv, hvs'⟩ := hasTys_cons h
  have := hasTys_nil hvs'; subst this
  exact ⟨v, rfl, hv⟩

/-- the result of `checkD`, read through any function `fm` that gives the first matching arm of a
    well-typed value -/
theorem checkD_spec (hinh : ∀ T, ∃ v, hasTy env v T = true) {fuel : Nat} {ty : Ty}
    {pats : List DPat} (hwt : ∀ p ∈ pats, patWT env p ty = true) {flags : List Bool} {wits : List DPat}
    (h : checkD env fuel ty pats = some (flags, wits)) (fm : Val → Option Nat)
    (hfm : ∀ v, hasTy env v ty = true → pats.findIdx? (fun p => dmatch p v) = fm v) :
    flags.length = pats.length ∧
      (∀ i, i < pats.length → (flags.getD i false = true ↔ ∃ v, hasTy env v ty = true ∧ fm v = some i)) ∧
      (wits = [] → ∀ v, hasTy env v ty = true → fm v ≠ none) ∧
      ∀ w ∈ wits, ∃ v, hasTy env v ty = true ∧ fm v = none ∧ dmatch w v = true := by
  unfold checkD at h
  cases hc : compute env fuel [ty] (initRows 0 pats) with
  | none => rw [hc] at h; cases h
  | some res =>
    obtain ⟨fl, W⟩ := res
    simp only [hc, Option.some.injEq, Prod.mk.injEq] at h
    obtain ⟨rfl, rfl⟩ := h
    have G := compute_good hinh fuel _ _ _ (rowsWT_initRows hwt 0) hc
    -- the matrix has one column: value vectors are single values, and so are the witness rows
    have hfm' : ∀ v, hasTy env v ty = true → firstMatch (initRows 0 pats) [v] = fm v :=
      fun v hv => (firstMatch_initRows pats v 0).trans (hfm v hv)
    have hW : ∀ w ∈ W, ∃ v w0, w = [w0] ∧ hasTy env v ty = true ∧ fm v = none ∧ dmatch w0 v = true := by
      intro w hw
      obtain ⟨vs, hvs, hnone, hm⟩ := G.wit w hw
      obtain ⟨v, rfl, hv⟩ := hasTys_single hvs
      have hl := dmatchAll_pw.length hm
      rw [List.length_reverse] at hl
      match w, hl with
      | [w0], _ => exact ⟨v, w0, rfl, hv, (hfm' v hv).symm.trans hnone, (Bool.and_eq_true_iff.1 hm).1⟩
    refine ⟨G.len.trans (initRows_length pats 0), fun i hi => ?_, fun hnil v hv => ?_, fun w0 hw0 => ?_⟩
    · rw [G.useful i ((initRows_length pats 0).symm ▸ hi)]
      constructor
      · rintro ⟨vs, hvs, hf⟩
        obtain ⟨v, rfl, hv⟩ := hasTys_single hvs
        exact ⟨v, hv, (hfm' v hv).symm.trans hf⟩
      · rintro ⟨v, hv, hf⟩
        exact ⟨[v], Bool.and_eq_true_iff.2 ⟨hv, rfl⟩, (hfm' v hv).trans hf⟩
    · have hWnil : W = [] := by
        cases W with
        | nil => rfl
        | cons w ws =>
          obtain ⟨_, w0, rfl, _⟩ := hW w (List.mem_cons_self ..)
          cases hnil
      rw [← hfm' v hv]
      exact G.exh hWnil [v] (Bool.and_eq_true_iff.2 ⟨hv, rfl⟩)
    · obtain ⟨w, hw, hh⟩ := List.mem_filterMap.1 hw0
      obtain ⟨v, w0', rfl, hv, hnone, hm⟩ := hW w hw
      cases hh
      exact ⟨v, hv, hnone, hm⟩

/-- meaning of the result of `checkD` (first match = `List.findIdx?` over the arms) -/
structure GoodCheck (env : EnumEnv) (ty : Ty) (pats : List DPat) (flags : List Bool) (wits : List DPat) : Prop where
  len : flags.length = pats.length
  useful : ∀ i, i < pats.length →
    (flags.getD i false = true ↔ ∃ v, hasTy env v ty = true ∧ pats.findIdx? (fun p => dmatch p v) = some i)
  exh : wits = [] → ∀ v, hasTy env v ty = true → pats.findIdx? (fun p => dmatch p v) ≠ none
  wit : ∀ w ∈ wits, ∃ v, hasTy env v ty = true ∧ pats.findIdx? (fun p => dmatch p v) = none ∧ dmatch w v = true

theorem checkD_good (hinh : ∀ T, ∃ v, hasTy env v T = true) {fuel : Nat} {ty : Ty}
    {pats : List DPat} (hwt : ∀ p ∈ pats, patWT env p ty = true) {flags : List Bool} {wits : List DPat}
    (h : checkD env fuel ty pats = some (flags, wits)) : GoodCheck env ty pats flags wits :=
  have g := checkD_spec hinh hwt h _ fun _ _ => rfl
  ⟨g.1, g.2.1, g.2.2.1, g.2.2.2⟩

/-! ## `from_ast_pat`: well-formedness and meaning are preserved -/

-- `pmatch` is compiled by well-founded recursion and does not unfold by `rfl`: the `rw [pmatch]` steps
-- below go through its equation lemmas
attribute [local simp] pmatch pmatchAll pmatchNamed

theorem pmatch_void {env : EnumEnv} : ∀ (p : Pat), patTyped env p .void = true → pmatch p (.prod []) = true
  | .wild, _ | .bind _, _ | .void, _ => by simp only [pmatch]
  | .or l r, h => by
    have h' : (patTyped env l .void && patTyped env r .void) = true := h
    rw [pmatch, pmatch_void l (Bool.and_eq_true_iff.1 h').1, Bool.true_or]
  | .bool _, h | .int _, h | .float _, h | .str _, h | .tuple _, h | .struct _ _, h | .variant0 _ _, h
  | .variantPos _ _ _, h | .variantNamed _ _ _, h => nomatch h

theorem patWT_variant {e i : Nat} (hs : (variantFields env e i).isSome = true)
    (fs : List DPat) (ty : Ty) :
    patWT env (.mk (.variant e i) fs ty) (.enum e) =
      patsWT env fs (if (dataTy env e i).isVoid then [] else [dataTy env e i]) := by
  show (e == e && (variantFields env e i).isSome && _) = _
  rw [beq_self_eq_true, hs]; rfl

/-- a variant pattern around a payload pattern `f` that means `m`: the payload column is erased when
    the payload type is `void`, where `m` holds of the only value anyway -/
theorem variant_payload_ok {e i : Nat} (hs : (variantFields env e i).isSome = true)
    {f : DPat} {m : Val → Bool} (ty : Ty) (hf : patWT env f (dataTy env e i) = true)
    (hm : ∀ pl, hasTy env pl (dataTy env e i) = true → dmatch f pl = m pl)
    (hvoid : (dataTy env e i).isVoid = true → m (.prod []) = true) :
    patWT env (if (dataTy env e i).isVoid then .mk (.variant e i) [] ty else .mk (.variant e i) [f] ty)
        (.enum e) = true ∧
      ∀ i' pl, hasTy env (.variant i' pl) (.enum e) = true →
        dmatch (if (dataTy env e i).isVoid then .mk (.variant e i) [] ty else .mk (.variant e i) [f] ty)
          (.variant i' pl) = (i == i' && m pl) := by
  by_cases hv : (dataTy env e i).isVoid = true
  · rw [if_pos hv, patWT_variant hs, if_pos hv]
    refine ⟨rfl, fun i' pl hpl => ?_⟩
    show (i == i' && true) = _
    cases hi : i == i' with
    | false => rfl
    | true =>
      cases eq_of_beq hi
      have := (hasTy_variant.1 hpl).2
      rw [isVoid_eq hv] at this
      rw [hasTy_void this, hvoid hv]
  · rw [if_neg hv, patWT_variant hs, if_neg hv]
    refine ⟨Bool.and_eq_true_iff.2 ⟨hf, rfl⟩, fun i' pl hpl => ?_⟩
    show (i == i' && (false || (dmatch f pl && true))) = _
    cases hi : i == i' with
    | false => rfl
    | true =>
      cases eq_of_beq hi
      rw [hm pl (hasTy_variant.1 hpl).2, Bool.false_or, Bool.and_true]

theorem fromAst_ty (env : EnumEnv) (ty : Ty) (p : Pat) : (fromAst env ty p).ty = ty := by
  cases p with
  | variantPos e i q => simp only [fromAst]; split <;> rfl
  | variantNamed e i ps =>
    simp only [fromAst]
    split
    · split <;> rfl
    · rfl
  | _ => rfl

mutual
  /-- `from_ast_pat` of a well-typed pattern is well-formed and means what the source pattern means -/
  theorem fromAst_ok (env : EnumEnv) (p : Pat) (ty : Ty) (ht : patTyped env p ty = true) :
      patWT env (fromAst env ty p) ty = true ∧
        ∀ v, hasTy env v ty = true → dmatch (fromAst env ty p) v = pmatch p v := by
    match p with
    | .wild => exact ⟨rfl, fun _ _ => by rw [pmatch]; rfl⟩
    | .bind _ => exact ⟨rfl, fun _ _ => by rw [pmatch]; rfl⟩
    | .bool b | .int b | .float b | .str b =>
      cases ty <;> first | cases ht | skip
      exact ⟨rfl, fun v hv => by obtain ⟨b', rfl⟩ := hasTy_lit hv; rw [pmatch]; rfl⟩
    | .void =>
      cases ty <;> first | cases ht | skip
      exact ⟨rfl, fun v hv => by rw [hasTy_void hv, pmatch]; rfl⟩
    | .tuple ps =>
      cases ty <;> first | cases ht | skip
      rename_i ts
      obtain ⟨h1, h2⟩ := fromAsts_ok env ps ts ht
      refine ⟨h1, fun v hv => ?_⟩
      obtain ⟨vs, rfl, hvs⟩ := hasTy_prod_tuple hv
      rw [pmatch]; exact h2 vs hvs
    | .struct id ps =>
      cases ty <;> first | cases ht | skip
      rename_i id' ts
      obtain ⟨h1, h2⟩ := fromAsts_ok env ps ts (Bool.and_eq_true_iff.1 ht).2
      refine ⟨h1, fun v hv => ?_⟩
      obtain ⟨vs, rfl, hvs⟩ := hasTy_prod_struct hv
      rw [pmatch]; exact h2 vs hvs
    | .variant0 e i =>
      cases ty <;> first | cases ht | skip
      rename_i e'
      have ht' : (e == e' && (variantFields env e i).isSome && (dataTy env e i).isVoid) = true := ht
      simp only [Bool.and_eq_true, beq_iff_eq] at ht'
      obtain ⟨⟨rfl, hs⟩, hvoid⟩ := ht'
      have := variant_payload_ok hs (f := wildOf .user (dataTy env e i)) (m := fun _ => true) (.enum e) rfl
        (fun _ _ => rfl) (fun _ => rfl)
      rw [if_pos hvoid] at this
      refine ⟨this.1, fun v hv => ?_⟩
      obtain ⟨i', pl, rfl, _, _⟩ := hasTy_enum hv
      rw [pmatch]; exact (this.2 i' pl hv).trans (Bool.and_true _)
    | .variantPos e i q =>
      cases ty <;> first | cases ht | skip
      rename_i e'
      have ht' : (e == e' && (variantFields env e i).isSome && patTyped env q (dataTy env e i)) = true := ht
      simp only [Bool.and_eq_true, beq_iff_eq] at ht'
      obtain ⟨⟨rfl, hs⟩, hq⟩ := ht'
      obtain ⟨h1, h2⟩ := fromAst_ok env q (dataTy env e i) hq
      have := variant_payload_ok hs (.enum e) h1 h2 (fun hv => pmatch_void q (isVoid_eq hv ▸ hq))
      refine ⟨this.1, fun v hv => ?_⟩
      obtain ⟨i', pl, rfl, _, _⟩ := hasTy_enum hv
      rw [pmatch]; exact this.2 i' pl hv
    | .variantNamed e i ps =>
      cases ty <;> first | cases ht | skip
      rename_i e'
      have ht' : (e == e' && (variantFields env e i).isSome &&
          patsTyped env ps ((variantFields env e i).getD []) && !ps.isEmpty) = true := ht
      simp only [Bool.and_eq_true, beq_iff_eq] at ht'
      obtain ⟨⟨⟨rfl, hs⟩, hps⟩, hne⟩ := ht'
      obtain ⟨fs, hfs⟩ := Option.isSome_iff_exists.1 hs
      rw [hfs, Option.getD_some] at hps
      obtain ⟨h1, h2⟩ := fromAsts_ok env ps fs hps
      have hd := dataTy_some hfs
      suffices hP : ∃ f, patWT env f (dataTy env e i) = true ∧
          (∀ pl, hasTy env pl (dataTy env e i) = true → dmatch f pl = pmatchNamed ps pl) ∧
          ((dataTy env e i).isVoid = true → pmatchNamed ps (.prod []) = true) ∧
          fromAst env (.enum e) (.variantNamed e i ps) =
            if (dataTy env e i).isVoid then .mk (.variant e i) [] (.enum e) else .mk (.variant e i) [f] (.enum e) by
        obtain ⟨f, hf, hm, hvoid, heq⟩ := hP
        have := variant_payload_ok hs (.enum e) hf hm hvoid
        rw [heq]
        refine ⟨this.1, fun v hv => ?_⟩
        obtain ⟨i', pl, rfl, _, _⟩ := hasTy_enum hv
        rw [pmatch]; exact this.2 i' pl hv
      rw [hd]
      cases ps with
      | nil => cases hne
      | cons q qs =>
      cases fs with
      | nil => cases hps
      | cons t ts =>
      have hqt : patTyped env q t = true := (Bool.and_eq_true_iff.1 hps).1
      have hrest : patsTyped env qs ts = true := (Bool.and_eq_true_iff.1 hps).2
      cases qs with
      | nil =>
        cases ts with
        | cons _ _ => cases hrest
        | nil =>
          -- one named field: the payload is the field itself
          refine ⟨fromAst env t q, (Bool.and_eq_true_iff.1 h1).1, fun pl hpl => ?_,
            (fun hv => by rw [pmatchNamed]; exact pmatch_void q ((isVoid_eq hv : t = Ty.void) ▸ hqt)), ?_⟩
          · have := h2 [pl] (Bool.and_eq_true_iff.2 ⟨hpl, rfl⟩)
            simp only [fromAsts, dmatchAll_cons, dmatchAll_nil_nil, Bool.and_true, pmatchAll] at this
            rw [pmatchNamed]; exact this
          · simp only [fromAst, hfs, Option.getD_some, fromAsts, fromAst_ty]; rfl
      | cons q' qs =>
        cases ts with
        | nil => cases hrest
        | cons t' ts =>
          -- several named fields: the payload is their tuple
          refine ⟨.mk .product (fromAsts env (t :: t' :: ts) (q :: q' :: qs))
            (.tuple ((fromAsts env (t :: t' :: ts) (q :: q' :: qs)).map DPat.ty)), h1, fun pl hpl => ?_,
            (fun hv => by cases hv), ?_⟩
          · obtain ⟨vs, rfl, hvs⟩ := hasTy_prod_tuple hpl
            rw [pmatchNamed]; exact h2 vs hvs
          · simp only [fromAst, hfs, Option.getD_some, fromAsts]; rfl
    | .or l r =>
      have ht' : (patTyped env l ty && patTyped env r ty) = true := ht
      rw [Bool.and_eq_true] at ht'
      obtain ⟨hl1, hl2⟩ := fromAst_ok env l ty ht'.1
      obtain ⟨hr1, hr2⟩ := fromAst_ok env r ty ht'.2
      refine ⟨?_, fun v hv => ?_⟩
      · rw [show fromAst env ty (.or l r) = .mk .or [fromAst env ty l, fromAst env ty r] ty from rfl, patWT_or,
          patsWTOr_cons, patsWTOr_cons, hl1, hr1]; rfl
      · rw [pmatch, ← hl2 v hv, ← hr2 v hv]
        exact congrArg (dmatch (fromAst env ty l) v || ·) (Bool.or_false _)
  theorem fromAsts_ok (env : EnumEnv) (ps : List Pat) (ts : List Ty) (ht : patsTyped env ps ts = true) :
      patsWT env (fromAsts env ts ps) ts = true ∧
        ∀ vs, hasTys env vs ts = true → dmatchAll (fromAsts env ts ps) vs = pmatchAll ps vs := by
    match ps, ts, ht with
    | [], [], _ => exact ⟨rfl, fun vs hvs => by cases hasTys_nil hvs; rw [pmatchAll]; rfl⟩
    | p :: ps, t :: ts, ht =>
      have ht' : (patTyped env p t && patsTyped env ps ts) = true := ht
      rw [Bool.and_eq_true] at ht'
      obtain ⟨h1, h2⟩ := fromAst_ok env p t ht'.1
      obtain ⟨h3, h4⟩ := fromAsts_ok env ps ts ht'.2
      refine ⟨Bool.and_eq_true_iff.2 ⟨h1, h3⟩, fun vs hvs => ?_⟩
      obtain ⟨v, vs', rfl, hv, hvs'⟩ := hasTys_cons hvs
      rw [pmatchAll, ← h2 v hv, ← h4 vs' hvs']; rfl
    | [], _ :: _, ht => cases ht
    | _ :: _, [], ht => cases ht
end

theorem findIdx?_map_congr {α β : Type} (f : α → β) (P : β → Bool) (Q : α → Bool) (l : List α)
    (h : ∀ a ∈ l, P (f a) = Q a) : (l.map f).findIdx? P = l.findIdx? Q := by
  induction l with
  | nil => rfl
  | cons a as ih =>
    simp only [List.map_cons, List.findIdx?_cons, h a (List.mem_cons_self ..)]
    rw [ih (fun b hb => h b (List.mem_cons_of_mem _ hb))]

/-- meaning of the result of `check` on source arms, in terms of `pmatch` only -/
structure GoodArms (env : EnumEnv) (ty : Ty) (arms : List Pat) (flags : List Bool) (wits : List DPat) : Prop where
  len : flags.length = arms.length
  useful : ∀ i, i < arms.length →
    (flags.getD i false = true ↔ ∃ v, hasTy env v ty = true ∧ arms.findIdx? (fun p => pmatch p v) = some i)
  exh : wits = [] → ∀ v, hasTy env v ty = true → arms.findIdx? (fun p => pmatch p v) ≠ none
  wit : ∀ w ∈ wits, ∃ v, hasTy env v ty = true ∧ arms.findIdx? (fun p => pmatch p v) = none ∧ dmatch w v = true

theorem check_good (hinh : ∀ T, ∃ v, hasTy env v T = true) {fuel : Nat} {ty : Ty}
    {arms : List Pat} (htyped : ∀ p ∈ arms, patTyped env p ty = true) {flags : List Bool} {wits : List DPat}
    (h : check env fuel ty arms = some (flags, wits)) : GoodArms env ty arms flags wits := by
  have hwt : ∀ p ∈ arms.map (fromAst env ty), patWT env p ty = true := by
    intro p hp
    obtain ⟨a, ha, rfl⟩ := List.mem_map.1 hp
    exact (fromAst_ok env a ty (htyped a ha)).1
  have g := checkD_spec hinh hwt h (fun v => arms.findIdx? (fun p => pmatch p v)) fun v hv =>
    findIdx?_map_congr _ _ _ _ fun a ha => (fromAst_ok env a ty (htyped a ha)).2 v hv
  rw [List.length_map] at g
  exact ⟨g.1, g.2.1, g.2.2.1, g.2.2.2⟩

end Abra.PatMatrix
