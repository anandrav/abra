import AbraModel.SpanTree
/-! Lemmas for C35/C34: the two offset searches of `lsp_helper.rs` on their search trees.
   The specification side is stated with plain membership-style predicates (`Hit`, `Cand`) that do not
   mention the order in which the searches walk. -/
namespace Abra.SpanTree

theorem inSpan_some (lo hi off : Nat) : inSpan (some (lo, hi)) off = true ↔ lo ≤ off ∧ off < hi := by
  simp [inSpan]

theorem span_test_some (lo hi off i id : Nat) :
    (if inSpan (some (lo, hi)) off then some i else none) = some id ↔ i = id ∧ lo ≤ off ∧ off < hi := by
  rw [← inSpan_some]
  split <;> simp [*]

mutual
/-- `id` is an identifier occurrence of `t` whose span contains `off` (no reference to walk order or to
    the spans of enclosing nodes) -/
def Hit (off id : Nat) : STree → Prop
  | .ident lo hi i => i = id ∧ lo ≤ off ∧ off < hi
  | .node _ _ kids => HitL off id kids
def HitL (off id : Nat) : List STree → Prop
  | [] => False
  | k :: ks => Hit off id k ∨ HitL off id ks
end

mutual
/-- children lie inside the parent's range: an identifier below a node with a span is inside that span -/
def Nested : STree → Prop
  | .ident _ _ _ => True
  | .node span _ kids => (∀ off id, HitL off id kids → inSpan span off = true) ∧ NestedL kids
def NestedL : List STree → Prop
  | [] => True
  | k :: ks => Nested k ∧ NestedL ks
end

mutual
/-- a node whose answer is final for the enclosing loop (a match arm) does not overlap the identifiers of
    the siblings visited after it -/
def CutOK : STree → Prop
  | .ident _ _ _ => True
  | .node _ _ kids => CutOKL kids
def CutOKL : List STree → Prop
  | [] => True
  | k :: ks => CutOK k ∧ (∀ off id, k.cuts off = true → ¬ HitL off id ks) ∧ CutOKL ks
end

/-- identifier spans are pairwise disjoint: no offset lies in two different identifiers -/
def Unique (t : STree) : Prop := ∀ off id₁ id₂, Hit off id₁ t → Hit off id₂ t → id₁ = id₂

mutual
theorem search_sound (off id : Nat) : ∀ t, search off t = some id → Hit off id t
  | .ident lo hi i, h => (span_test_some lo hi off i id).1 h
  | .node span _ kids, h => by
    rw [search] at h
    split at h
    · exact searchKids_sound off id kids h
    · cases h
theorem searchKids_sound (off id : Nat) : ∀ ks, searchKids off ks = some id → HitL off id ks
  | [], h => nomatch h
  | k :: ks, h => by
    rw [searchKids] at h
    cases hk : search off k with
    | some r => rw [hk] at h; exact Or.inl (search_sound off id k (hk.trans h))
    | none =>
      rw [hk] at h
      have h : (if k.cuts off = true then none else searchKids off ks) = some id := h
      split at h
      · cases h
      · exact Or.inr (searchKids_sound off id ks h)
end

mutual
theorem search_complete (off id : Nat) : ∀ t, Nested t → CutOK t → Hit off id t → ∃ r, search off t = some r
  | .ident lo hi i, _, _, h => ⟨i, (span_test_some lo hi off i i).2 ⟨rfl, h.2⟩⟩
  | .node span cut kids, hn, hc, h => by
    obtain ⟨r, hr⟩ := searchKids_complete off id kids hn.2 hc h
    exact ⟨r, by rw [search, if_pos (hn.1 off id h)]; exact hr⟩
theorem searchKids_complete (off id : Nat) :
    ∀ ks, NestedL ks → CutOKL ks → HitL off id ks → ∃ r, searchKids off ks = some r
  | [], _, _, h => h.elim
  | k :: ks, hn, hc, h => by
    rw [searchKids]
    cases hk : search off k with
    | some r => exact ⟨r, rfl⟩
    | none =>
      -- the hit is not in `k` (else `k` would have answered), and `k` does not cut it off
      have hks : HitL off id ks := h.resolve_left fun hh => by
        obtain ⟨r, hr⟩ := search_complete off id k hn.1 hc.1 hh
        rw [hk] at hr; cases hr
      cases hcut : k.cuts off with
      | true => exact absurd hks (hc.2.1 off id hcut)
      | false => exact searchKids_complete off id ks hn.2 hc.2.2 hks
end

theorem search_spec (t : STree) (hn : Nested t) (hc : CutOK t) (hu : Unique t) (off : Nat) :
    (∀ id, search off t = some id ↔ Hit off id t) ∧ (search off t = none ↔ ∀ id, ¬ Hit off id t) := by
  have fwd : ∀ id, search off t = some id → Hit off id t := fun id => search_sound off id t
  have bwd : ∀ id, Hit off id t → search off t = some id := by
    intro id h
    obtain ⟨r, hr⟩ := search_complete off id t hn hc h
    rw [hr, hu off r id (fwd r hr) h]
  refine ⟨fun id => ⟨fwd id, bwd id⟩, fun h id hh => ?_, fun h => ?_⟩
  · rw [bwd id hh] at h; cases h
  · cases hs : search off t with
    | none => rfl
    | some r => exact absurd (fwd r hs) (h r)

theorem search_past_end (t : STree) (n : Nat) (hb : ∀ off id, Hit off id t → off < n)
    (off : Nat) (h : n ≤ off) : search off t = none := by
  cases hs : search off t with
  | none => rfl
  | some id => exact absurd (hb off id (search_sound off id t hs)) (Nat.not_lt.2 h)

/-! ## innermost-node search, without any hypothesis on the tree

`Reach off id t`: `id` is a node of `t` that can answer, whose own span AND the spans of all nodes above it
contain `off` (on a properly nested tree that is just "its span contains `off`", see `reach_iff_cand`). -/

mutual
def Reach (off id : Nat) : ITree → Prop
  | .leaf lo hi i => i = id ∧ lo ≤ off ∧ off < hi
  | .node span self kids => inSpan span off = true ∧ (self = some id ∨ ReachL off id kids)
def ReachL (off id : Nat) : List ITree → Prop
  | [] => False
  | k :: ks => Reach off id k ∨ ReachL off id ks
end

mutual
/-- `id` is reachable at `off` and no node below it is -/
def InnermostR (off id : Nat) : ITree → Prop
  | .leaf lo hi i => i = id ∧ lo ≤ off ∧ off < hi
  | .node span self kids =>
    inSpan span off = true ∧ ((self = some id ∧ ∀ id', ¬ ReachL off id' kids) ∨ InnermostRL off id kids)
def InnermostRL (off id : Nat) : List ITree → Prop
  | [] => False
  | k :: ks => InnermostR off id k ∨ InnermostRL off id ks
end

mutual
theorem searchI_reach (off : Nat) : ∀ t,
    (∀ id, searchI off t = some id → InnermostR off id t) ∧ (searchI off t = none → ∀ id, ¬ Reach off id t)
  | .leaf lo hi i =>
    ⟨fun id h => (span_test_some lo hi off i id).1 h,
     fun h _ hc => nomatch (if_pos ((inSpan_some lo hi off).2 hc.2)).symm.trans h⟩
  | .node span self kids => by
    have hk := searchKidsI_reach off kids
    by_cases hs : inSpan span off = true
    · rw [searchI, if_pos hs]
      cases hr : searchKidsI off kids with
      | some r => exact ⟨fun id h => ⟨hs, Or.inr (hk.1 id (hr.trans h))⟩, nofun⟩
      | none =>
        exact ⟨fun id h => ⟨hs, Or.inl ⟨h, hk.2 hr⟩⟩,
          fun h id hc => hc.2.elim (fun hself => nomatch hself.symm.trans h) (hk.2 hr id)⟩
    · rw [searchI, if_neg hs]
      exact ⟨nofun, fun _ _ hc => hs hc.1⟩
theorem searchKidsI_reach (off : Nat) : ∀ ks,
    (∀ id, searchKidsI off ks = some id → InnermostRL off id ks) ∧
      (searchKidsI off ks = none → ∀ id, ¬ ReachL off id ks)
  | [] => ⟨nofun, fun _ _ hc => hc⟩
  | k :: ks => by
    have hk := searchI_reach off k
    have hks := searchKidsI_reach off ks
    rw [searchKidsI]
    cases hr : searchI off k with
    | some r => exact ⟨fun id h => Or.inl (hk.1 id (hr.trans h)), nofun⟩
    | none => exact ⟨fun id h => Or.inr (hks.1 id h), fun h id hc => hc.elim (hk.2 hr id) (hks.2 h id)⟩
end

theorem searchKidsI_sound_reach (off id : Nat) : ∀ ks, searchKidsI off ks = some id → InnermostRL off id ks :=
  fun ks => (searchKidsI_reach off ks).1 id

mutual
theorem InnermostR.reach (off id : Nat) : ∀ t, InnermostR off id t → Reach off id t
  | .leaf _ _ _, h => h
  | .node _ _ kids, ⟨hs, h⟩ => ⟨hs, h.imp And.left (InnermostRL.reach off id kids)⟩
theorem InnermostRL.reach (off id : Nat) : ∀ ks, InnermostRL off id ks → ReachL off id ks
  | [], h => h
  | k :: ks, h => h.imp (InnermostR.reach off id k) (InnermostRL.reach off id ks)
end

/-! ## innermost-node search on a properly nested tree -/

mutual
/-- `id` is a node of `t` that can be returned and whose own span contains `off` -/
def Cand (off id : Nat) : ITree → Prop
  | .leaf lo hi i => i = id ∧ lo ≤ off ∧ off < hi
  | .node span self kids => (self = some id ∧ inSpan span off = true) ∨ CandL off id kids
def CandL (off id : Nat) : List ITree → Prop
  | [] => False
  | k :: ks => Cand off id k ∨ CandL off id ks
end

mutual
/-- children lie inside the parent's range -/
def NestedI : ITree → Prop
  | .leaf _ _ _ => True
  | .node span _ kids => (∀ off id, CandL off id kids → inSpan span off = true) ∧ NestedIL kids
def NestedIL : List ITree → Prop
  | [] => True
  | k :: ks => NestedI k ∧ NestedIL ks
end

mutual
/-- `id` is a node of `t` whose span contains `off` while no node below it does -/
def Innermost (off id : Nat) : ITree → Prop
  | .leaf lo hi i => i = id ∧ lo ≤ off ∧ off < hi
  | .node span self kids =>
    inSpan span off = true ∧ ((self = some id ∧ ∀ id', ¬ CandL off id' kids) ∨ InnermostL off id kids)
def InnermostL (off id : Nat) : List ITree → Prop
  | [] => False
  | k :: ks => Innermost off id k ∨ InnermostL off id ks
end

mutual
theorem Innermost.cand (off id : Nat) : ∀ t, Innermost off id t → Cand off id t
  | .leaf _ _ _, h => h
  | .node _ _ kids, ⟨hs, h⟩ => h.imp (fun h1 => ⟨h1.1, hs⟩) (InnermostL.cand off id kids)
theorem InnermostL.cand (off id : Nat) : ∀ ks, InnermostL off id ks → CandL off id ks
  | [], h => h
  | k :: ks, h => h.imp (Innermost.cand off id k) (InnermostL.cand off id ks)
end

mutual
theorem reach_iff_cand (off id : Nat) : ∀ t, NestedI t → (Reach off id t ↔ Cand off id t)
  | .leaf _ _ _, _ => Iff.rfl
  | .node span self kids, hn => by
    show _ ∧ (_ ∨ ReachL off id kids) ↔ (_ ∧ _) ∨ CandL off id kids
    rw [reachL_iff_candL off id kids hn.2]
    exact ⟨fun ⟨hs, h⟩ => h.imp_left (⟨·, hs⟩),
      fun h => h.elim (fun ⟨h, hs⟩ => ⟨hs, Or.inl h⟩) fun h => ⟨hn.1 off id h, Or.inr h⟩⟩
theorem reachL_iff_candL (off id : Nat) : ∀ ks, NestedIL ks → (ReachL off id ks ↔ CandL off id ks)
  | [], _ => Iff.rfl
  | k :: ks, hn => or_congr (reach_iff_cand off id k hn.1) (reachL_iff_candL off id ks hn.2)
end

mutual
theorem innermostR_iff (off id : Nat) : ∀ t, NestedI t → (InnermostR off id t ↔ Innermost off id t)
  | .leaf _ _ _, _ => Iff.rfl
  | .node span self kids, hn => by
    show _ ∧ (_ ∧ (∀ id', ¬ ReachL off id' kids) ∨ InnermostRL off id kids) ↔
      _ ∧ (_ ∧ (∀ id', ¬ CandL off id' kids) ∨ InnermostL off id kids)
    rw [innermostRL_iff off id kids hn.2, forall_congr' fun id' => not_congr (reachL_iff_candL off id' kids hn.2)]
theorem innermostRL_iff (off id : Nat) : ∀ ks, NestedIL ks → (InnermostRL off id ks ↔ InnermostL off id ks)
  | [], _ => Iff.rfl
  | k :: ks, hn => or_congr (innermostR_iff off id k hn.1) (innermostRL_iff off id ks hn.2)
end

theorem searchI_sound (off id : Nat) (t : ITree) (hn : NestedI t) (h : searchI off t = some id) :
    Innermost off id t :=
  (innermostR_iff off id t hn).1 ((searchI_reach off t).1 id h)

theorem searchKidsI_sound (off id : Nat) : ∀ ks, NestedIL ks → searchKidsI off ks = some id → InnermostL off id ks :=
  fun ks hn h => (innermostRL_iff off id ks hn).1 (searchKidsI_sound_reach off id ks h)

theorem searchI_complete (off id : Nat) (t : ITree) (hn : NestedI t) (h : Cand off id t) :
    ∃ r, searchI off t = some r := by
  cases hs : searchI off t with
  | some r => exact ⟨r, rfl⟩
  | none => exact absurd ((reach_iff_cand off id t hn).2 h) ((searchI_reach off t).2 hs id)

end Abra.SpanTree
