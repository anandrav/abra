import AbraProofs.Lemmas.HashMapChain
/-! For C27: the representation invariant, what a table means, lookups. -/
namespace Abra.Lib.HashMap

variable {K V : Type}

/-- what the theorems need of the key type's `Hash` / `Equal`: equality is an equivalence and equal keys
    hash equally.  Nothing else — colliding and constant hashes are lawful. -/
structure Lawful (hash : K → Int) (eq : K → K → Bool) : Prop where
  refl : ∀ a, eq a a = true
  symm : ∀ a b, eq a b = true → eq b a = true
  trans : ∀ a b c, eq a b = true → eq b c = true → eq a c = true
  hash_eq : ∀ a b, eq a b = true → hash a = hash b

/-- The representation invariant, with the bucket chains `ch` and the free chain `fr` as witnesses. -/
structure WF (hash : K → Int) (eq : K → K → Bool) (t : Table K V) (ch : Nat → List Nat) (fr : List Nat) : Prop where
  lenV : t.values.length = t.keys.length
  lenH : t.hashes.length = t.keys.length
  lenN : t.nexts.length = t.keys.length
  lenO : t.occupied.length = t.keys.length
  /-- without buckets there are no entries -/
  noBuckets : t.buckets.length = 0 → ∀ i : Nat, t.occupied[i]? ≠ some true
  /-- each bucket heads an acyclic chain … -/
  chain : ∀ b, b < t.buckets.length → ∃ s, t.buckets[b]? = some s ∧ Chain t.nexts s (ch b)
  nodup : ∀ b, b < t.buckets.length → (ch b).Nodup
  /-- … of occupied entries hashing to it … -/
  inBucket : ∀ b, b < t.buckets.length → ∀ i ∈ ch b,
    t.occupied[i]? = some true ∧ ∃ h, t.hashes[i]? = some h ∧ h % (t.buckets.length : Int) = b
  /-- … that enumerates all of them -/
  complete : ∀ (i : Nat) (h : Int), t.occupied[i]? = some true → t.hashes[i]? = some h →
    i ∈ ch (h % (t.buckets.length : Int)).toNat
  /-- stored hashes are the hashes of the stored keys -/
  hashOk : ∀ (i : Nat) (k : K), t.occupied[i]? = some true → t.keys[i]? = some k → t.hashes[i]? = some (hash k)
  /-- occupied keys are pairwise distinct w.r.t. `Equal` -/
  distinct : ∀ (i j : Nat) (ki kj : K), t.occupied[i]? = some true → t.occupied[j]? = some true →
    t.keys[i]? = some ki → t.keys[j]? = some kj → eq ki kj = true → i = j
  /-- the free list enumerates exactly the unoccupied slots -/
  freeChain : Chain t.nexts t.freeList fr
  freeNodup : fr.Nodup
  freeIff : ∀ i : Nat, i ∈ fr ↔ t.occupied[i]? = some false
  /-- `count` is the number of occupied slots -/
  countOk : t.count = ((t.occupied.count true : Nat) : Int)

/-- `WF` for some witnesses -/
def Inv (hash : K → Int) (eq : K → K → Bool) (t : Table K V) : Prop := ∃ ch fr, WF hash eq t ch fr

/-- slot `i` holds (a key equal to) `k` -/
def Holds (eq : K → K → Bool) (t : Table K V) (k : K) (i : Nat) : Prop :=
  t.occupied[i]? = some true ∧ ∃ ki, t.keys[i]? = some ki ∧ eq ki k = true

/-- `t` represents the dictionary `d` -/
def Models (hash : K → Int) (eq : K → K → Bool) (t : Table K V) (d : K → Option V) : Prop :=
  Inv hash eq t ∧ ∀ k v, d k = some v ↔ ∃ i, Holds eq t k i ∧ t.values[i]? = some v

theorem models_congr {hash : K → Int} {eq : K → K → Bool} {t : Table K V} {d d' : K → Option V}
    (hm : Models hash eq t d) (h : ∀ k, d' k = d k) : Models hash eq t d' :=
  ⟨hm.1, fun k v => by rw [h k]; exact hm.2 k v⟩

/-- the bucket in whose chain slot `i` belongs: that of its stored hash when the slot is occupied -/
def slotHome (m : Nat) (hashes : List Int) (occ : List Bool) (i : Nat) : Option Nat :=
  if occ[i]? = some true then hashes[i]?.map fun h => (h % (m : Int)).toNat else none

theorem slotHome_of_not_occ {m : Nat} {hashes : List Int} {occ : List Bool} {i : Nat} (h : occ[i]? ≠ some true) :
    slotHome m hashes occ i = none := if_neg h

theorem slotHome_eq_some {m : Nat} {hashes : List Int} {occ : List Bool} {i b : Nat} :
    slotHome m hashes occ i = some b ↔
      occ[i]? = some true ∧ ∃ h, hashes[i]? = some h ∧ (h % (m : Int)).toNat = b := by
  unfold slotHome
  by_cases ho : occ[i]? = some true
  · rw [if_pos ho, Option.map_eq_some_iff]
    exact ⟨fun h => ⟨ho, h⟩, fun h => h.2⟩
  · rw [if_neg ho]
    exact ⟨nofun, fun h => absurd h.1 ho⟩

/-- a slot written with `occupied = o` and hash `h` (or appended so): where the slots belong afterwards -/
theorem slotHome_write {m : Nat} {hashes hashes' : List Int} {occ occ' : List Bool} {j : Nat} {o : Bool} {h : Int}
    (hO : ∀ i, occ'[i]? = if i = j then some o else occ[i]?)
    (hH : ∀ i, i ≠ j → hashes'[i]? = hashes[i]?) (hj : hashes'[j]? = some h) (i : Nat) :
    slotHome m hashes' occ' i =
      if i = j then (if o = true then some (h % (m : Int)).toNat else none) else slotHome m hashes occ i := by
  unfold slotHome
  by_cases e : i = j
  · subst e
    rw [hO, if_pos rfl, hj, if_pos rfl]
    cases o <;> rfl
  · rw [hO, if_neg e, hH i e, if_neg e]

section
variable {bk nx hashes : List Int} {occ : List Bool} {ch : Nat → List Nat}

theorem Buckets.inBucket (B : Buckets bk nx (slotHome bk.length hashes occ) ch) (b : Nat) (hb : b < bk.length)
    (i : Nat) (hi : i ∈ ch b) : occ[i]? = some true ∧ ∃ h, hashes[i]? = some h ∧ h % (bk.length : Int) = b := by
  obtain ⟨ho, h, hh, e⟩ := slotHome_eq_some.mp (((B b hb).mem i).mp hi)
  exact ⟨ho, h, hh, e ▸ (toNat_emod h (Nat.ne_of_gt (Nat.zero_lt_of_lt hb))).symm⟩

theorem Buckets.complete (B : Buckets bk nx (slotHome bk.length hashes occ) ch) (hm : bk.length ≠ 0)
    (i : Nat) (h : Int) (ho : occ[i]? = some true) (hh : hashes[i]? = some h) :
    i ∈ ch (h % (bk.length : Int)).toNat :=
  ((B _ (toNat_emod_lt h hm)).mem i).mpr (slotHome_eq_some.mpr ⟨ho, h, hh, rfl⟩)

end

section lookup
variable {hash : K → Int} {eq : K → K → Bool} {t : Table K V} {ch : Nat → List Nat} {fr : List Nat}

theorem WF.buckets (wf : WF hash eq t ch fr) :
    Buckets t.buckets t.nexts (slotHome t.buckets.length t.hashes t.occupied) ch := by
  intro b hb
  obtain ⟨s, hs, hc⟩ := wf.chain b hb
  refine ⟨⟨s, hs, hc⟩, wf.nodup b hb, fun i => ⟨fun hi => ?_, fun hi => ?_⟩⟩
  · obtain ⟨ho, h, hh, e⟩ := wf.inBucket b hb i hi
    exact slotHome_eq_some.mpr ⟨ho, h, hh, congrArg Int.toNat e⟩
  · obtain ⟨ho, h, hh, e⟩ := slotHome_eq_some.mp hi
    exact e ▸ wf.complete i h ho hh

theorem WF.free_len (wf : WF hash eq t ch fr) : fr.length < t.keys.length + 1 :=
  Nat.lt_succ_of_le (wf.lenN ▸ wf.freeChain.length_le wf.freeNodup)

theorem Holds.lt (h : Holds eq t k i) : i < t.keys.length := by
  obtain ⟨_, ki, hk, _⟩ := h
  exact getElem?_lt hk

theorem Holds.unique (law : Lawful hash eq) (wf : WF hash eq t ch fr) {k : K} {i j : Nat}
    (hi : Holds eq t k i) (hj : Holds eq t k j) : i = j := by
  obtain ⟨oi, ki, hki, ei⟩ := hi
  obtain ⟨oj, kj, hkj, ej⟩ := hj
  exact wf.distinct i j ki kj oi oj hki hkj (law.trans _ _ _ ei (law.symm _ _ ej))

theorem Holds.congr (law : Lawful hash eq) {k k' : K} {i : Nat} (hi : Holds eq t k i) :
    Holds eq t k' i ↔ eq k k' = true := by
  obtain ⟨oi, ki, hki, ei⟩ := hi
  constructor
  · rintro ⟨_, kj, hkj, ej⟩
    rw [hki] at hkj
    cases hkj
    exact law.trans _ _ _ (law.symm _ _ ei) ej
  · exact fun e => ⟨oi, ki, hki, law.trans _ _ _ ei e⟩

theorem absent_none {d : K → Option V} (hd : ∀ k v, d k = some v ↔ ∃ i, Holds eq t k i ∧ t.values[i]? = some v)
    {k : K} (hnone : ∀ j, ¬ Holds eq t k j) : d k = none := by
  cases e : d k with
  | none => rfl
  | some v =>
    obtain ⟨j, hj, _⟩ := (hd k v).mp e
    exact absurd hj (hnone j)

/-- The walk over the chain of the key's bucket finds the slot holding the key, and finds none only when
    no slot holds it. -/
theorem WF.walk (law : Lawful hash eq) (wf : WF hash eq t ch fr) (hm : t.buckets.length ≠ 0) (k : K) :
    ∃ (b : Nat) (s : Int), bucketIdx (hash k) t.buckets.length = .ok (b : Int) ∧
      (hash k % (t.buckets.length : Int)).toNat = b ∧ t.buckets[b]? = some s ∧
      Chain t.nexts s (ch b) ∧ (ch b).length < t.keys.length + 1 ∧
      (∀ i, (ch b).find? (matchP eq t (hash k) k) = some i → i ∈ ch b ∧ Holds eq t k i) ∧
      ((ch b).find? (matchP eq t (hash k) k) = none → ∀ j, ¬ Holds eq t k j) := by
  obtain ⟨b, hbi, hb, hbm⟩ := bucketIdx_range (hash k) t.buckets.length hm
  have hbm : (hash k % (t.buckets.length : Int)).toNat = b := congrArg Int.toNat hbm.symm
  obtain ⟨s, hs, hch⟩ := wf.chain b hb
  refine ⟨b, s, hbi, hbm, hs, hch, Nat.lt_succ_of_le (wf.lenN ▸ hch.length_le (wf.nodup b hb)), fun i hf => ?_,
    fun hf j hj => ?_⟩
  · have hp := List.find?_some hf
    have hmem := List.mem_of_find?_eq_some hf
    obtain ⟨hocc, h, hh, _⟩ := wf.inBucket b hb i hmem
    obtain ⟨ki, hki⟩ : ∃ ki, t.keys[i]? = some ki :=
      ⟨_, List.getElem?_eq_getElem (by rw [← wf.lenO]; exact getElem?_lt hocc)⟩
    simp only [matchP, hh, hki, Bool.and_eq_true] at hp
    exact ⟨hmem, hocc, ki, hki, hp.2⟩
  · obtain ⟨hocc, kj, hkj, hej⟩ := hj
    have hh := wf.hashOk j kj hocc hkj
    rw [law.hash_eq _ _ hej] at hh
    have hmem := wf.complete j _ hocc hh
    rw [hbm] at hmem
    exact List.find?_eq_none.mp hf j hmem (by simp only [matchP, hh, hkj, hej, decide_true, Bool.and_self])

theorem tryGet_spec (law : Lawful hash eq) (wf : WF hash eq t ch fr) (k : K) :
    ∃ r, tryGet hash eq t k = .ok r ∧ ∀ v, r = some v ↔ ∃ i, Holds eq t k i ∧ t.values[i]? = some v := by
  unfold tryGet
  by_cases hm : t.buckets.length = 0
  · rw [if_pos hm]
    exact ⟨none, rfl, fun v => ⟨nofun, fun ⟨i, hi, _⟩ => absurd hi.1 (wf.noBuckets hm i)⟩⟩
  · obtain ⟨b, s, hbi, _, hs, hch, hlen, hsome, hnone⟩ := wf.walk law hm k
    simp only [if_neg hm, hbi, getI_nat hs, findLoop_chain eq t (hash k) k wf.lenH wf.lenN hch _ hlen]
    cases hf : (ch b).find? (matchP eq t (hash k) k) with
    | none => exact ⟨none, rfl, fun v => ⟨nofun, fun ⟨i, hi, _⟩ => absurd hi (hnone hf i)⟩⟩
    | some i =>
      have hi := (hsome i hf).2
      have hlt : i < t.values.length := wf.lenV ▸ hi.lt
      have hv : t.values[i]? = some t.values[i] := List.getElem?_eq_getElem hlt
      refine ⟨some t.values[i], by simp only [Option.map_some, Int.ofNat_eq_natCast, getI_nat hv], fun v => ?_⟩
      constructor
      · rintro ⟨⟩
        exact ⟨i, hi, hv⟩
      · rintro ⟨j, hj, hvj⟩
        cases Holds.unique law wf hj hi
        exact hv.symm.trans hvj

/-- every table satisfying the invariant represents a dictionary: the one `try_get` reads off it -/
theorem Inv.models (law : Lawful hash eq) (hinv : Inv hash eq t) : ∃ d, Models hash eq t d := by
  obtain ⟨ch, fr, wf⟩ := hinv
  refine ⟨fun k => match tryGet hash eq t k with | .ok o => o | .error _ => none, ⟨ch, fr, wf⟩, fun k v => ?_⟩
  obtain ⟨r, hr, hspec⟩ := tryGet_spec law wf k
  simp only [hr]
  exact hspec v

end lookup

theorem new_models (hash : K → Int) (eq : K → K → Bool) : Models hash eq (Table.new : Table K V) (fun _ => none) := by
  -- the table has no bucket and no slot, so every clause about one is void
  have hb : ∀ {b : Nat}, ¬ b < (Table.new : Table K V).buckets.length := Nat.not_lt_zero _
  have ho : ∀ {i : Nat} {x : Bool}, (Table.new : Table K V).occupied[i]? ≠ some x :=
    fun h => nomatch List.getElem?_nil.symm.trans h
  exact ⟨⟨fun _ => [], [], {
    lenV := rfl
    lenH := rfl
    lenN := rfl
    lenO := rfl
    noBuckets := fun _ _ => ho
    chain := fun _ h => absurd h hb
    nodup := fun _ h => absurd h hb
    inBucket := fun _ h => absurd h hb
    complete := fun _ _ h => absurd h ho
    hashOk := fun _ _ h => absurd h ho
    distinct := fun _ _ _ _ h => absurd h ho
    freeChain := Chain.nil
    freeNodup := List.nodup_nil
    freeIff := fun _ => ⟨nofun, fun h => absurd h ho⟩
    countOk := rfl }⟩, fun _ _ => ⟨nofun, fun ⟨_, ⟨h, _⟩, _⟩ => absurd h ho⟩⟩

end Abra.Lib.HashMap
