import AbraModel.AsmProg
/-!
Lemmas for C05: the `Res` monad, sequencing of instructions (`Res.andThen`), and the stack algebra in
which the peephole rules are proved: what a pop, a fetch from `Top`, a `StoreOffset` or a conditional
jump does right after a push (`St.push`), and which reads a push leaves alone.  Then, about the models
`Opt` and `AsmProg` by themselves: the optimizer's vocabulary (`isOther`), and one step of a whole program
under a relation on continuations (`stepBody_rel`), with its instance "more fuel, fewer checks" (`runG_weaken`).
-/
namespace Abra.Asm

variable {H : Type}

@[simp] theorem Res.bind_ok {α β : Type} (a : α) (f : α → Res β) : (Res.ok a).bind f = f a := rfl
@[simp] theorem Res.bind_err {α β : Type} (k : ErrKind) (f : α → Res β) : (Res.err k : Res α).bind f = .err k := rfl
@[simp] theorem Res.bind_fault {α β : Type} (f : α → Res β) : (Res.fault : Res α).bind f = .fault := rfl

theorem Res.bind_assoc {α β γ : Type} (x : Res α) (f : α → Res β) (g : β → Res γ) :
    (x.bind f).bind g = x.bind fun a => (f a).bind g := by
  cases x <;> rfl

/-- continue with `k` where control falls through; a taken jump, an error or a fault is the outcome -/
def Res.andThen (x : Res (St H × Ctl)) (k : St H → Res (St H × Ctl)) : Res (St H × Ctl) :=
  x.bind fun (s', c) =>
    match c with
    | .next => k s'
    | .jump l => .ok (s', .jump l)

theorem Res.andThen_next (s : St H) (k : St H → Res (St H × Ctl)) : (Res.ok (s, Ctl.next)).andThen k = k s := rfl

theorem Res.andThen_bind {α : Type} (x : Res α) (f : α → Res (St H × Ctl)) (k : St H → Res (St H × Ctl)) :
    (x.bind f).andThen k = x.bind fun a => (f a).andThen k :=
  Res.bind_assoc x f _

theorem Res.andThen_assoc (x : Res (St H × Ctl)) (k k' : St H → Res (St H × Ctl)) :
    (x.andThen k).andThen k' = x.andThen fun s => (k s).andThen k' := by
  rcases x with ⟨_, _ | _⟩ | _ | _ <;> rfl

theorem Res.andThen_ok (x : Res (St H × Ctl)) : (x.andThen fun s => .ok (s, .next)) = x := by
  rcases x with ⟨_, _ | _⟩ | _ | _ <;> rfl

/-- two continuations need to agree only on the states in which the first part falls through -/
theorem Res.andThen_congr {x : Res (St H × Ctl)} {k k' : St H → Res (St H × Ctl)}
    (h : ∀ s, x = .ok (s, .next) → k s = k' s) : x.andThen k = x.andThen k' := by
  rcases x with ⟨s, _ | _⟩ | _ | _
  · exact h s rfl
  all_goals rfl

@[simp] theorem run_nil (P : Prims H) (s : St H) : run P [] s = .ok (s, .next) := rfl

theorem run_cons (P : Prims H) (i : Instr) (rest : List Instr) (s : St H) :
    run P (i :: rest) s = (exec P i s).andThen (run P rest) := rfl

theorem run_single (P : Prims H) (i : Instr) (s : St H) : run P [i] s = exec P i s :=
  Res.andThen_ok _

theorem run_two (P : Prims H) (i j : Instr) (s : St H) :
    run P [i, j] s = (exec P i s).andThen (exec P j) :=
  congrArg (exec P i s).andThen (funext (run_single P j))

theorem run_three (P : Prims H) (i j k : Instr) (s : St H) :
    run P [i, j, k] s = (exec P i s).andThen fun s' => (exec P j s').andThen (exec P k) :=
  congrArg (exec P i s).andThen (funext (run_two P j k))

theorem run_append (P : Prims H) (xs ys : List Instr) (s : St H) :
    run P (xs ++ ys) s = (run P xs s).andThen (run P ys) := by
  induction xs generalizing s with
  | nil => rfl
  | cons i xs ih => rw [List.cons_append, run_cons, run_cons, Res.andThen_assoc]; exact congrArg (exec P i s).andThen (funext ih)

def St.push (s : St H) (v : Val) : St H := { s with stack := v :: s.stack }

theorem loadReg_top_push (s : St H) (v : Val) : loadReg .top (s.push v) = .ok (v, s) := rfl
theorem loadReg_off (s : St H) (n : Int) : loadReg (.off n) s = (loadOff s n).bind fun v => .ok (v, s) := rfl

theorem exec_pop_push (P : Prims H) (s : St H) (v : Val) : exec P .pop (s.push v) = .ok (s, .next) := rfl
theorem exec_loadOffset (P : Prims H) (n : Int) (s : St H) :
    exec P (.loadOffset n) s = (loadOff s n).bind fun v => .ok (s.push v, .next) := rfl
theorem exec_storeOffset_push (P : Prims H) (n : Int) (s : St H) (v : Val) :
    exec P (.storeOffset n) (s.push v) = (storeOff s n v).bind fun s' => .ok (s', .next) := rfl
theorem exec_jumpIf_push (P : Prims H) (l : String) (s : St H) (v : Val) :
    exec P (.jumpIf l) (s.push v) = (asBool v).bind fun b => .ok (s, if b then .jump l else .next) := rfl
theorem exec_jumpIfFalse_push (P : Prims H) (l : String) (s : St H) (v : Val) :
    exec P (.jumpIfFalse l) (s.push v) = (asBool v).bind fun b => .ok (s, if b then .next else .jump l) := rfl
theorem exec_not_push (P : Prims H) (s : St H) (v : Val) :
    exec P (.un .not .top .top) (s.push v) = (asBool v).bind fun b => .ok (s.push (.bool !b), .next) := by
  cases v <;> rfl

theorem pushN_succ (n : Nat) (st : List Val) : pushN (n + 1) st = Val.int 0 :: pushN n st := by
  induction n generalizing st with
  | zero => rfl
  | succ n ih => exact ih (Val.int 0 :: st)

theorem getAbs_push (st : List Val) (v : Val) (i : Nat) (h : i ≠ st.length) :
    getAbs (v :: st) i = getAbs st i := by
  unfold getAbs
  rw [List.length_cons]
  by_cases h1 : i < st.length
  · rw [if_pos h1, if_pos (Nat.lt_succ_of_lt h1),
      show st.length + 1 - 1 - i = (st.length - 1 - i) + 1 by omega, List.getElem?_cons_succ]
  · rw [if_neg h1, if_neg fun h2 => h1 (Nat.lt_of_le_of_ne (Nat.le_of_lt_succ h2) h)]

/-- the offset does not name the slot that a push is about to create -/
def NotTopSlot (s : St H) (off : Int) : Prop := absIdx s.base off ≠ some s.stack.length

theorem loadOff_push (s : St H) (v : Val) (off : Int) (h : NotTopSlot s off) :
    loadOff (s.push v) off = loadOff s off := by
  unfold loadOff
  cases hi : absIdx s.base off with
  | none => simp [St.push, hi]
  | some i =>
    have : i ≠ s.stack.length := by
      intro e; apply h; rw [hi, e]
    simp [St.push, hi, getAbs_push _ _ _ this]

/-! ### operand fetches fault or succeed: they raise no runtime error, so their order is immaterial -/

theorem loadOff_cases (s : St H) (off : Int) : (∃ v, loadOff s off = .ok v) ∨ loadOff s off = .fault := by
  unfold loadOff
  cases h1 : absIdx s.base off with
  | none => right; rfl
  | some i =>
    cases h2 : getAbs s.stack i with
    | none => right; simp [h2]
    | some v => left; exact ⟨v, by simp [h2]⟩

theorem loadOff_bind_fault {β : Type} (s : St H) (off : Int) :
    (loadOff s off).bind (fun _ => (Res.fault : Res β)) = .fault := by
  rcases loadOff_cases s off with ⟨v, h⟩ | h <;> rw [h] <;> rfl

@[simp] theorem asInt_bind_fault {β : Type} (w : Val) : (asInt w).bind (fun _ => (Res.fault : Res β)) = .fault := by
  cases w <;> rfl
@[simp] theorem asFloat_bind_fault {β : Type} (w : Val) : (asFloat w).bind (fun _ => (Res.fault : Res β)) = .fault := by
  cases w <;> rfl
@[simp] theorem asBool_bind_fault {β : Type} (w : Val) : (asBool w).bind (fun _ => (Res.fault : Res β)) = .fault := by
  cases w <;> rfl

end Abra.Asm

namespace Abra.Opt
open Abra.Asm

variable {H : Type}

/-- an operand fetched from `Top` right after `LoadOffset(x)` is the operand fetched from `Offset(x)`:
    whatever the instruction goes on to do with it (`K`) -/
theorem loadOffset_andThen_top (P : Prims H) (x : Int) (s : St H) (K : Val × St H → Res (St H × Ctl)) :
    ((exec P (.loadOffset x) s).andThen fun s' => (loadReg .top s').bind K) = (loadReg (.off x) s).bind K := by
  rw [exec_loadOffset, Res.andThen_bind, loadReg_off, Res.bind_assoc]; rfl

theorem run_push_push_binI (P : Prims H) (op : IntOp) (a b : Int) (s : St H) :
    run P [.pushInt a, .pushInt b, .binI op .top .top .top] s =
      (evalInt op a b).bind fun c => .ok (s.push c, .next) := by
  rw [run_three]; rfl

theorem run_push_push_binF (P : Prims H) (op : FloatOp) (a b : String) (s : St H) :
    run P [.pushFloat a, .pushFloat b, .binF op .top .top .top] s =
      (evalFloat P op (P.parse a) (P.parse b)).bind fun c => .ok (s.push c, .next) := by
  rw [run_three]; rfl

theorem evalInt_of_fold (op : IntOp) (a b c : Int) (h : foldInt op a b = some c) :
    evalInt op a b = .ok (.int c) := by
  have key : ∀ o : Option Int, o = some c → ofOut (I64.ofChecked o) = .ok (.int c) := fun _ e => e ▸ rfl
  cases op with
  | add | sub | mul => exact key _ h
  | div =>
    dsimp only [foldInt, I64.fold] at h
    dsimp only [evalInt, I64.div]
    split at h
    · cases h
    next hb => rw [if_neg hb]; exact key _ h
  | pow =>
    dsimp only [foldInt, I64.fold] at h
    dsimp only [evalInt]
    cases hp : I64.pow a b <;> rw [hp] at h <;> cases h
    rfl
  | _ => cases h

theorem PassRes.map_eq_ok {f : List Line → List Line} {x : PassRes} {r : List Line} (h : x.map f = .ok r) :
    ∃ tl, x = .ok tl ∧ r = f tl := by
  cases x with
  | ok tl => exact ⟨tl, rfl, (PassRes.ok.inj h).symm⟩
  | needFold => cases h

theorem afterLabel_instrs {α : Type} (f : α → Instr) (g : α → Ann) (xs : List α) (ls : List Line) (l : String) :
    afterLabel (xs.map (fun x => Line.instr (f x) (g x)) ++ ls) l = afterLabel ls l := by
  induction xs with
  | nil => rfl
  | cons _ _ ih => exact ih

def isOther : Instr → Bool
  | .other _ => true
  | _ => false

theorem isOther_replace (i : Instr) :
    (∀ r, isOther (replaceSecondArg i r) = isOther i) ∧ (∀ r, isOther (replaceFirstArg i r) = isOther i) ∧
    (∀ r, isOther (replaceDest i r) = isOther i) ∧ (∀ n, isOther (replaceSecondArgImmInt i n) = isOther i) ∧
    (∀ f, isOther (replaceSecondArgImmFloat i f) = isOther i) := by
  cases i <;> exact ⟨fun _ => rfl, fun _ => rfl, fun _ => rfl, fun _ => rfl, fun _ => rfl⟩

theorem not_other_of_operand (i : Instr) :
    (secondArgIsTop i = true → isOther i = false) ∧
    (firstArgIsTopAndSecondArgIsOffsetOrImm i = true → isOther i = false) ∧
    (destIsTop i = true → isOther i = false) := by
  cases i with
  | other _ => exact ⟨nofun, nofun, nofun⟩
  | _ => exact ⟨fun _ => rfl, fun _ => rfl, fun _ => rfl⟩

theorem loadOffsetOf_some (i : Instr) (o : Int) (h : loadOffsetOf i = some o) : i = .loadOffset o := by
  cases i with
  | loadOffset _ => cases h; rfl
  | _ => cases h
theorem storeOffsetOf_some (i : Instr) (o : Int) (h : storeOffsetOf i = some o) : i = .storeOffset o := by
  cases i with
  | storeOffset _ => cases h; rfl
  | _ => cases h
theorem pushIntOf_some (i : Instr) (n : Int) (h : pushIntOf i = some n) : i = .pushInt n := by
  cases i with
  | pushInt _ => cases h; rfl
  | _ => cases h
theorem pushFloatOf_some (i : Instr) (f : String) (h : pushFloatOf i = some f) : i = .pushFloat f := by
  cases i with
  | pushFloat _ => cases h; rfl
  | _ => cases h

theorem stepOf_known (P : Prims H) (C : Ctrl H) (i : Instr) (s : St H) (h : isOther i = false) :
    stepOf P C i s = .plain (exec P i s) := by
  cases i with
  | other _ => cases h
  | _ => rfl

/-- call stacks of equal depth: return continuations related by `Rc`, the saved data the same -/
inductive FramesRel (Rc : List Line → List Line → Prop) : Frames → Frames → Prop where
  | nil : FramesRel Rc [] []
  | cons {r r' : List Line} {info : List Nat} {fr fr' : Frames} :
      Rc r r' → FramesRel Rc fr fr' → FramesRel Rc ((r, info) :: fr) ((r', info) :: fr')

theorem FramesRel.refl : ∀ fr : Frames, FramesRel Eq fr fr
  | [] => .nil
  | _ :: t => .cons rfl (FramesRel.refl t)

theorem FramesRel.eq {fr fr' : Frames} (h : FramesRel Eq fr fr') : fr = fr' := by
  induction h with
  | nil => rfl
  | cons h1 _ ih => rw [h1, ih]

/-- one step of a whole program preserves a relation `Rc` on continuations (lifted to the call stacks) when
    the "rest of the run" does and labels correspond -/
theorem stepBody_rel {Rc : List Line → List Line → Prop} {G : Final H → Prop}
    (prog prog' : List Line) (k k' : List Line → Frames → St H → Final H)
    (hlab : ∀ l, match afterLabel prog l with
      | none => afterLabel prog' l = none
      | some c => ∃ c', afterLabel prog' l = some c' ∧ Rc c c')
    (hk : ∀ c c' fr fr' s out, Rc c c' → FramesRel Rc fr fr' → k c fr s = out → G out → k' c' fr' s = out)
    (st : OtherStep H) (r r' : List Line) (fr fr' : Frames) (out : Final H)
    (hr : Rc r r') (hf : FramesRel Rc fr fr') (h : stepBody prog k st r fr = out) (hg : G out) :
    stepBody prog' k' st r' fr' = out := by
  -- a jump or call target exists on both sides or on neither, and the targets are related
  have target : ∀ l (g g' : List Line → Final H), (∀ c c', Rc c c' → g c = out → g' c' = out) →
      (match afterLabel prog l with | some c => g c | none => .badJump l) = out →
      (match afterLabel prog' l with | some c => g' c | none => .badJump l) = out := by
    intro l g g' hgg h
    have hl := hlab l
    cases ha : afterLabel prog l with
    | none => rw [ha] at hl h; rw [hl]; exact h
    | some c =>
      rw [ha] at hl h
      obtain ⟨c', hc', hrc⟩ := hl
      rw [hc']; exact hgg c c' hrc h
  cases st with
  | plain res =>
    rcases res with ⟨s', _ | l⟩ | e | _
    · exact hk _ _ _ _ _ _ hr hf h hg
    · exact target l _ _ (fun _ _ hc h => hk _ _ _ _ _ _ hc hf h hg) h
    · exact h
    · exact h
  | call s' l info =>
    exact target l _ _ (fun _ _ hc h => hk _ _ _ _ _ _ hc (.cons hr hf) h hg) h
  | ret g =>
    cases hf with
    | nil => exact h
    | @cons _ _ info _ _ hrc hrf =>
      simp only [stepBody] at h ⊢
      cases hgi : g info with
      | ok s' => rw [hgi] at h; exact hk _ _ _ _ _ _ hrc hrf h hg
      | err e => rw [hgi] at h; exact h
      | fault => rw [hgi] at h; exact h
  | halt s' => exact h

/-- more fuel and fewer checks do not change a finished run: with more fuel if it did not end in `timeout`,
    without the side-condition check if it did not end in `sideFail` -/
theorem runG_weaken (P : Prims H) (C : Ctrl H) (prog : List Line) (chk chk' : Bool) (hc : chk' = true → chk = true) :
    ∀ (f g : Nat), f ≤ g → ∀ (c : List Line) (fr : Frames) (s : St H) (out : Final H),
      runG P C prog chk f c fr s = out → (f < g → out ≠ .timeout) → (chk ≠ chk' → out ≠ .sideFail) →
      runG P C prog chk' g c fr s = out := by
  intro f
  induction f with
  | zero =>
    intro g _ c fr s out h ht _
    cases g with
    | zero => exact h
    | succ g => exact absurd h.symm (ht (Nat.succ_pos g))
  | succ f ih =>
    intro g hle c fr s out h ht hs
    cases g with
    | zero => exact absurd hle (Nat.not_succ_le_zero f)
    | succ g =>
      have hle' := Nat.le_of_succ_le_succ hle
      have ht' : f < g → out ≠ .timeout := fun h => ht (Nat.succ_lt_succ h)
      match c with
      | [] => exact h
      | .label _ :: r => exact ih g hle' _ _ _ _ h ht' hs
      | .instr i a :: r =>
        simp only [runG, stepG] at h ⊢
        split at h
        next hk =>
          -- the check fails: `chk` is on, so `chk'` is on too or the outcome `sideFail` is excluded
          cases chk' with
          | true => rw [hc rfl] at hk; rw [if_pos hk]; exact h
          | false => exact absurd h.symm (hs fun e => by rw [e] at hk; cases hk)
        next hk =>
          have hk' : ¬(chk' && !nextPairOk s i r) = true := fun e => by
            cases chk' with
            | true => exact hk (by rw [hc rfl]; exact e)
            | false => cases e
          rw [if_neg hk']
          -- the same program, continuation and call stack on both sides; the rest of the run is `ih`
          refine stepBody_rel (Rc := Eq) (G := fun o => (f < g → o ≠ .timeout) ∧ (chk ≠ chk' → o ≠ .sideFail))
            prog prog _ _ ?_ ?_ _ r r fr fr out rfl (.refl fr) h ⟨ht', hs⟩
          · intro l
            cases afterLabel prog l with
            | none => rfl
            | some c => exact ⟨c, rfl, rfl⟩
          · intro c c' fr fr' s out hc hf h hg
            cases hc; cases hf.eq; exact ih g hle' c fr s out h hg.1 hg.2

/-- a checked run that finishes has passed the side-condition test at its first instruction -/
theorem runG_chk_first (P : Prims H) (C : Ctrl H) (prog : List Line) (f : Nat) (i : Instr) (a : Ann)
    (r : List Line) (fr : Frames) (s : St H) (out : Final H)
    (h : runG P C prog true f (.instr i a :: r) fr s = out)
    (hne : out ≠ .timeout) (hns : out ≠ .sideFail) : nextPairOk s i r = true := by
  cases f with
  | zero => exact absurd h.symm hne
  | succ f =>
    simp only [runG, stepG, Bool.true_and] at h
    cases hb : nextPairOk s i r with
    | true => rfl
    | false => rw [hb] at h; exact absurd h.symm hns

end Abra.Opt
