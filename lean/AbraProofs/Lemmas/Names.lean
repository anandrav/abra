import AbraModel.Names
/-! Lemmas and specification side of C21 (C20 uses the scope part): association tables with first-match
lookup, sequences of `add_declaration`, the supply list of a file's effective namespace, the environment
semantics `specStmts` that the scope stack refines, child namespaces against declarations. -/
namespace Abra.Names

variable {ν : Type} [DecidableEq ν]

def keys (t : Table ν) : List ν := t.map (·.1)

theorem get_nil (x : ν) : Table.get ([] : Table ν) x = none := rfl

theorem get_cons (y : ν) (d : Decl ν) (t : Table ν) (x : ν) :
    Table.get ((y, d) :: t) x = if y = x then some d else Table.get t x := rfl

theorem get_append (t u : Table ν) (x : ν) :
    Table.get (t ++ u) x = match Table.get t x with
      | some d => some d
      | none => Table.get u x := by
  induction t with
  | nil => rfl
  | cons e t ih =>
    obtain ⟨y, d⟩ := e
    rw [List.cons_append, get_cons, get_cons, ih]
    by_cases h : y = x
    · rw [if_pos h, if_pos h]
    · rw [if_neg h, if_neg h]

theorem get_eq_none_iff (t : Table ν) (x : ν) : Table.get t x = none ↔ x ∉ keys t := by
  induction t with
  | nil => exact ⟨fun _ => List.not_mem_nil, fun _ => rfl⟩
  | cons e t ih =>
    obtain ⟨y, d⟩ := e
    have hk : x ∈ keys ((y, d) :: t) ↔ x = y ∨ x ∈ keys t := List.mem_cons
    by_cases h : y = x
    · rw [get_cons, if_pos h, hk]
      exact ⟨nofun, fun h' => absurd (Or.inl h.symm) h'⟩
    · rw [get_cons, if_neg h, ih, hk, not_or]
      exact ⟨fun hh => ⟨Ne.symm h, hh⟩, And.right⟩

theorem get_isSome_iff (t : Table ν) (x : ν) : (Table.get t x).isSome ↔ x ∈ keys t := by
  rw [Option.isSome_iff_ne_none, Ne, get_eq_none_iff, Decidable.not_not]

theorem get_mem {t : Table ν} {x : ν} {d : Decl ν} (h : Table.get t x = some d) : (x, d) ∈ t := by
  induction t with
  | nil => cases h
  | cons e t ih =>
    obtain ⟨y, c⟩ := e
    rw [get_cons] at h
    split at h
    · cases h; subst y; exact List.mem_cons_self
    · exact List.mem_cons_of_mem _ (ih h)

theorem mem_keys_congr {t u : Table ν} {x : ν} (h : Table.get t x = Table.get u x) :
    x ∈ keys t ↔ x ∈ keys u := by
  rw [← get_isSome_iff, h, get_isSome_iff]

omit [DecidableEq ν] in
theorem keys_append (t u : Table ν) : keys (t ++ u) = keys t ++ keys u := List.map_append

omit [DecidableEq ν] in
theorem mem_keys_append (t u : Table ν) (x : ν) : x ∈ keys (t ++ u) ↔ x ∈ keys t ∨ x ∈ keys u := by
  rw [keys_append, List.mem_append]

omit [DecidableEq ν] in
theorem nodup_keys_left {t u : Table ν} (h : (keys (t ++ u)).Nodup) : (keys t).Nodup :=
  (List.nodup_append.1 (keys_append t u ▸ h)).1

omit [DecidableEq ν] in
theorem mem_keys_flatMap {α : Type} (l : List α) (f : α → Table ν) (x : ν) :
    x ∈ keys (l.flatMap f) ↔ ∃ i ∈ l, x ∈ keys (f i) := by
  simp only [keys, List.map_flatMap, List.mem_flatMap]

theorem get_filter (t : Table ν) (p : ν → Bool) (x : ν) :
    Table.get (t.filter (fun e => p e.1)) x = if p x then Table.get t x else none := by
  induction t with
  | nil => simp [get_nil]
  | cons e t ih =>
    obtain ⟨y, d⟩ := e
    by_cases hyx : y = x
    · subst hyx; cases hp : p y <;> simp [hp, get_cons, ih]
    · cases hp : p y <;> simp [hp, get_cons, hyx, ih]

theorem mem_keys_filter (t : Table ν) (p : ν → Bool) (x : ν) :
    x ∈ keys (t.filter (fun e => p e.1)) ↔ x ∈ keys t ∧ p x = true := by
  rw [← get_isSome_iff, get_filter]
  split <;> simp [*, get_isSome_iff]

theorem get_put (t : Table ν) (x : ν) (d : Decl ν) (y : ν) :
    Table.get (t.put x d) y = if x = y then some d else Table.get t y := by
  unfold Table.put
  rw [get_cons]
  split
  · rfl
  · rename_i h
    rw [get_filter t (fun k => decide (k ≠ x)) y]
    simp [Ne.symm h]

/-! ### sequences of `add_declaration` -/

theorem addDecl_get (t : Table ν) (x : ν) (d : Decl ν) (y : ν) :
    Table.get (addDecl t x d).1 y = Table.get (t ++ [(x, d)]) y := by
  unfold addDecl
  cases h : Table.get t x with
  | none => rfl
  | some d0 =>
    -- the entry that is not appended would have been shadowed anyway
    show Table.get t y = _
    rw [get_append, get_cons, get_nil]
    by_cases hxy : x = y
    · rw [← hxy, h]
    · rw [if_neg hxy]; cases Table.get t y <;> rfl

theorem addDecl_keys (t : Table ν) (x : ν) (d : Decl ν) (y : ν) :
    y ∈ keys (addDecl t x d).1 ↔ y ∈ keys t ∨ y = x := by
  rw [mem_keys_congr (addDecl_get t x d y), mem_keys_append]
  exact or_congr_right List.mem_singleton

theorem addDecl_clash (t : Table ν) (x : ν) (d : Decl ν) :
    (addDecl t x d).2 = if x ∈ keys t then [x] else [] := by
  unfold addDecl
  cases h : Table.get t x with
  | none => rw [if_neg ((get_eq_none_iff t x).1 h)]
  | some d0 => rw [if_pos ((get_isSome_iff t x).1 (by rw [h]; rfl))]

theorem gather_get (l t : Table ν) (y : ν) :
    Table.get (gather l t).1 y = Table.get (t ++ l) y := by
  induction l generalizing t with
  | nil => rw [List.append_nil]; rfl
  | cons e l ih =>
    obtain ⟨x, d⟩ := e
    simp only [gather]
    rw [ih, get_append, addDecl_get, ← get_append, ← List.append_cons]

theorem mem_keys_gather (l t : Table ν) (x : ν) :
    x ∈ keys (gather l t).1 ↔ x ∈ keys t ∨ x ∈ keys l := by
  rw [mem_keys_congr (gather_get l t x), mem_keys_append]

/-- stated for any `seen` with the members of `keys t`, so that the induction goes through -/
theorem gather_clashes (l t : Table ν) (seen : List ν) (hs : ∀ z, z ∈ seen ↔ z ∈ keys t) :
    (gather l t).2 = dupNames seen (keys l) := by
  induction l generalizing t seen with
  | nil => rfl
  | cons e l ih =>
    obtain ⟨x, d⟩ := e
    simp only [gather, addDecl_clash, ← hs x]
    show _ = dupNames seen (x :: keys l)
    by_cases hx : x ∈ seen
    · rw [ih _ seen fun z => by rw [addDecl_keys, ← hs]; exact ⟨Or.inl, fun h => h.elim id (· ▸ hx)⟩]
      simp [dupNames, hx]
    · rw [ih _ (x :: seen) fun z => by rw [addDecl_keys, ← hs, List.mem_cons, or_comm]]
      simp [dupNames, hx]

theorem count_dupNames (seen xs : List ν) (x : ν) :
    (dupNames seen xs).count x = if x ∈ seen then xs.count x else xs.count x - 1 := by
  induction xs generalizing seen with
  | nil => simp [dupNames]
  | cons y ys ih =>
    simp only [dupNames]
    by_cases hy : y ∈ seen
    · simp only [hy, if_true, List.count_cons, ih]
      by_cases hx : x ∈ seen
      · simp [hx]
      · have hne : y ≠ x := fun h => hx (h ▸ hy)
        simp [hx, hne]
    · simp only [hy, if_false, ih, List.mem_cons, List.count_cons]
      by_cases hyx : y = x
      · subst hyx; simp [hy]
      · have : ¬ x = y := fun h => hyx h.symm
        simp [this, hyx]

theorem addOtherPred_eq (t other : Table ν) (pred : ν → Bool) :
    addOtherPred t other pred = gather (other.filter (fun e => pred e.1)) t := by
  induction other generalizing t with
  | nil => rfl
  | cons e rest ih =>
    obtain ⟨x, d⟩ := e
    simp only [addOtherPred, List.filter_cons]
    cases pred x
    · exact ih t
    · simp only [if_true, gather, ih]

theorem addOtherPred_all (t other : Table ν) : addOtherPred t other (fun _ => true) = gather other t := by
  rw [addOtherPred_eq, List.filter_eq_self.2 fun _ _ => rfl]

theorem gather_append (l1 l2 t : Table ν) :
    gather (l1 ++ l2) t =
      ((gather l2 (gather l1 t).1).1, (gather l1 t).2 ++ (gather l2 (gather l1 t).1).2) := by
  induction l1 generalizing t with
  | nil => rfl
  | cons e l1 ih =>
    obtain ⟨x, d⟩ := e
    simp only [List.cons_append, gather, ih, List.append_assoc]

/-! ### overwriting insertion (`add_namespace`, the builtin table) -/

theorem mem_keys_put (t : Table ν) (y : ν) (d : Decl ν) (x : ν) :
    x ∈ keys (t.put y d) ↔ x ∈ keys t ∨ x = y := by
  rw [← get_isSome_iff, get_put, ← get_isSome_iff]
  by_cases h : y = x
  · simp [h]
  · simp [h, Ne.symm h]

theorem nodup_keys_put (t : Table ν) (h : (keys t).Nodup) (y : ν) (d : Decl ν) :
    (keys (t.put y d)).Nodup := by
  refine List.nodup_cons.2 ⟨fun hm => ?_, h.sublist (List.filter_sublist.map _)⟩
  obtain ⟨e, he, hey⟩ := List.mem_map.1 hm
  simpa [hey] using (List.mem_filter.1 he).2

theorem putAll_append (t l1 l2 : Table ν) : putAll t (l1 ++ l2) = putAll (putAll t l1) l2 := by
  induction l1 generalizing t with
  | nil => rfl
  | cons e l1 ih => exact ih _

theorem mem_keys_putAll (t l : Table ν) (x : ν) :
    x ∈ keys (putAll t l) ↔ x ∈ keys t ∨ x ∈ keys l := by
  induction l generalizing t with
  | nil => exact (or_iff_left List.not_mem_nil).symm
  | cons e l ih =>
    obtain ⟨y, d⟩ := e
    have hk : x ∈ keys ((y, d) :: l) ↔ x = y ∨ x ∈ keys l := List.mem_cons
    rw [putAll, ih, mem_keys_put, hk, or_assoc]

theorem nodup_keys_putAll (t l : Table ν) (h : (keys t).Nodup) : (keys (putAll t l)).Nodup := by
  induction l generalizing t with
  | nil => exact h
  | cons e l ih => exact ih _ (nodup_keys_put t h e.1 e.2)

theorem mem_putAll {t l : Table ν} {e : ν × Decl ν} (h : e ∈ putAll t l) : e ∈ t ∨ e ∈ l := by
  induction l generalizing t with
  | nil => exact Or.inl h
  | cons c l ih =>
    rcases ih h with h | h
    · rcases List.mem_cons.1 h with rfl | h
      · exact Or.inr List.mem_cons_self
      · exact Or.inl (List.mem_filter.1 h).1
    · exact Or.inr (List.mem_cons_of_mem _ h)

theorem putAll_get (t l : Table ν) (hnd : (keys l).Nodup) (x : ν) :
    (putAll t l).get x = (l ++ t).get x := by
  induction l generalizing t with
  | nil => rfl
  | cons e l ih =>
    obtain ⟨y, d⟩ := e
    obtain ⟨hy, hl⟩ := List.nodup_cons.1 hnd
    rw [putAll, ih _ hl, get_append, get_put, List.cons_append, get_cons, get_append]
    by_cases hyx : y = x
    · rw [if_pos hyx, if_pos hyx, (get_eq_none_iff l x).2 (hyx ▸ hy)]
    · rw [if_neg hyx, if_neg hyx]

theorem builtinTable_eq (w : World ν) :
    builtinTable w = putAll [] (w.builtins.map fun x => (x, Decl.builtin x)) := by
  unfold builtinTable
  generalize ([] : Table ν) = t
  induction w.builtins generalizing t with
  | nil => rfl
  | cons y ys ih => exact ih _

/-! ### what a file is supplied with -/

/-- the declarations one import item lets through, as the property states them -/
def importSupply (w : World ν) (file : Nat) : Import ν → Table ν
  | .glob m => (ownTable w m).1
  | .incl m names => (ownTable w m).1.filter (fun e => names.contains e.1)
  | .excl m names => (ownTable w m).1.filter (fun e => !names.contains e.1)
  | .as_ m p => [(p, Decl.alias file p m)]
  | .missing => []

/-- the child namespaces one import item adds, as a table -/
def kidSupply (w : World ν) (file : Nat) : Import ν → Table ν
  | .glob m => ownKids w m
  | .incl m names => (ownKids w m).filter (fun c => names.contains c.1)
  | .excl m names => (ownKids w m).filter (fun c => !names.contains c.1)
  | .as_ m p => [(p, Decl.alias file p m)]
  | .missing => []

def importsOf (w : World ν) (file : Nat) : List (Import ν) :=
  match w.files[file]? with
  | some f => f.imports
  | none => []

/-- everything inserted with `add_declaration` into the effective namespace, in order -/
def supply (w : World ν) (file : Nat) : Table ν :=
  preludeTable w ++ (ownTable w file).1 ++ (importsOf w file).flatMap (importSupply w file)

theorem applyImport_eq (w : World ν) (file : Nat) (e : Eff ν) (i : Import ν) :
    (applyImport w file e i).table = (gather (importSupply w file i) e.table).1 ∧
    (applyImport w file e i).clashes = e.clashes ++ (gather (importSupply w file i) e.table).2 ∧
    (applyImport w file e i).kids = putAll e.kids (kidSupply w file i) := by
  cases i with
  | glob m => simp only [applyImport, addOtherPred_all]; exact ⟨rfl, rfl, rfl⟩
  | incl m names => simp only [applyImport, addOtherPred_eq]; exact ⟨rfl, rfl, rfl⟩
  | excl m names => simp only [applyImport, addOtherPred_eq]; exact ⟨rfl, rfl, rfl⟩
  | as_ m p => exact ⟨rfl, congrArg (e.clashes ++ ·) (List.append_nil _).symm, rfl⟩
  | missing => exact ⟨rfl, (List.append_nil _).symm, rfl⟩

theorem applyImports_eq (w : World ν) (file : Nat) (is : List (Import ν)) (e : Eff ν) :
    (applyImports w file is e).table = (gather (is.flatMap (importSupply w file)) e.table).1 ∧
    (applyImports w file is e).clashes = e.clashes ++ (gather (is.flatMap (importSupply w file)) e.table).2 ∧
    (applyImports w file is e).kids = putAll e.kids (is.flatMap (kidSupply w file)) := by
  induction is generalizing e with
  | nil => simp [applyImports, gather, putAll]
  | cons i is ih =>
    obtain ⟨h1, h2, h3⟩ := ih (applyImport w file e i)
    obtain ⟨g1, g2, g3⟩ := applyImport_eq w file e i
    simp only [applyImports, List.flatMap_cons, gather_append, putAll_append]
    rw [h1, h2, h3, g1, g2, g3, List.append_assoc]
    exact ⟨rfl, rfl, rfl⟩

theorem effective_eq (w : World ν) (file : Nat) :
    (effective w file).table = (gather (supply w file) (builtinTable w)).1 ∧
    (effective w file).clashes = (gather (supply w file) (builtinTable w)).2 ∧
    (effective w file).kids =
      putAll (putAll [] (ownKids w file)) ((importsOf w file).flatMap (kidSupply w file)) := by
  have h : effective w file = applyImports w file (importsOf w file)
      { table := (gather (preludeTable w ++ (ownTable w file).1) (builtinTable w)).1,
        kids := putAll [] (ownKids w file),
        clashes := (gather (preludeTable w ++ (ownTable w file).1) (builtinTable w)).2,
        badImports := 0 } := by
    simp only [effective, importsOf, addOtherPred_all, gather_append]
    cases w.files[file]? <;> rfl
  obtain ⟨h1, h2, h3⟩ := applyImports_eq w file (importsOf w file) _
  rw [h, h1, h2, h3, supply, gather_append (preludeTable w ++ (ownTable w file).1)]
  exact ⟨rfl, rfl, rfl⟩

/-! ### the scope stack (`SymbolTable`) -/

theorem lookup_eq_get_flatten (st : SymTab ν) (x : ν) : lookup st x = Table.get st.flatten x := by
  induction st with
  | nil => rfl
  | cons s rest ih =>
    rw [lookup, List.flatten_cons, get_append, ih]
    cases Table.get s x <;> rfl

theorem lookup_extend (st : SymTab ν) (x : ν) (d : Decl ν) (y : ν) :
    lookup (extend st x d) y = if x = y then some d else lookup st y := by
  cases st with
  | nil =>
    simp only [extend, lookup, get_cons, get_nil]
    by_cases hxy : x = y
    · rw [if_pos hxy]
    · rw [if_neg hxy]
  | cons s rest =>
    simp only [extend, lookup, get_put]
    by_cases hxy : x = y
    · rw [if_pos hxy, if_pos hxy]
    · rw [if_neg hxy, if_neg hxy]

theorem lookup_newScope (st : SymTab ν) (y : ν) : lookup (newScope st) y = lookup st y := rfl

/-! ### the textbook semantics of lexical scoping: one environment, most recent binding first;
a binder is visible from its declaration to the end of its block -/

def specQualified (w : World ν) (env : Table ν) (q x : ν) : Res ν :=
  memberOf w x (env.get q)

mutual
def specStmt (w : World ν) (kids : Table ν) (env : Table ν) : Stmt ν → Table ν × List (Res ν)
  | .letv x id => ((x, Decl.loc id) :: env, [])
  | .use x =>
    (env, [Res.ofOption (env.get x)])
  | .quse q x => (env, [specQualified w env q x])
  | .block body => (env, (specStmts w kids env body).2)
  | .forv x id body => (env, (specStmts w kids ((x, Decl.loc id) :: env) body).2)
  | .matchv x id body => (env, (specStmts w kids ((x, Decl.loc id) :: env) body).2)
  | .lam x id body => (env, (specStmts w kids ((x, Decl.loc id) :: env) body).2)
  -- a qualified pattern looks at the file's namespaces only; an expression at the environment
  | .pmatch pre ty v => (env, [resolvePat w kids pre ty v])
  | .euse pre ty v => (env, [enumExprWith w (fun y => env.get y) pre ty v])
  -- sibling scopes: every arm / branch starts from the environment of the whole statement
  | .marms arms => (env, specArms w kids env arms)
  | .ifelse a b => (env, (specStmts w kids env a).2 ++ (specStmts w kids env b).2)

def specArms (w : World ν) (kids : Table ν) (env : Table ν) :
    List (Option (ν × Nat) × List (Stmt ν)) → List (Res ν)
  | [] => []
  | (some (x, id), body) :: rest =>
    (specStmts w kids ((x, Decl.loc id) :: env) body).2 ++ specArms w kids env rest
  | (none, body) :: rest => (specStmts w kids env body).2 ++ specArms w kids env rest

def specStmts (w : World ν) (kids : Table ν) (env : Table ν) : List (Stmt ν) → Table ν × List (Res ν)
  | [] => (env, [])
  | s :: ss =>
    let r := specStmt w kids env s
    let r2 := specStmts w kids r.1 ss
    (r2.1, r.2 ++ r2.2)
end

/-! The scope stack and the environment are related by `∀ y, lookup st y = env.get y`: opening a scope keeps
that, binding in the innermost scope is consing onto `env`. -/

theorem agree_extend {st : SymTab ν} {env : Table ν} (h : ∀ y, lookup st y = env.get y)
    (x : ν) (d : Decl ν) (y : ν) : lookup (extend st x d) y = Table.get ((x, d) :: env) y := by
  rw [lookup_extend, get_cons, h]

theorem agree_binder {st : SymTab ν} {env : Table ν} (h : ∀ y, lookup st y = env.get y)
    (x : ν) (d : Decl ν) (y : ν) :
    lookup (newScope (extend (newScope st) x d)) y = Table.get ((x, d) :: env) y :=
  agree_extend (st := newScope st) h x d y

omit [DecidableEq ν] in
theorem append_congr {α : Type} {a a' b b' : List α} (ha : a = a') (hb : b = b') : a ++ b = a' ++ b' :=
  ha ▸ hb ▸ rfl

mutual
theorem resolveStmt_refines (w : World ν) (kids : Table ν) (st : SymTab ν) (env : Table ν)
    (h : ∀ y, lookup st y = env.get y) : (s : Stmt ν) →
    (resolveStmt w true kids st s).2 = (specStmt w kids env s).2 ∧
      ∀ y, lookup (resolveStmt w true kids st s).1 y = (specStmt w kids env s).1.get y
  | .letv x id => ⟨rfl, agree_extend h x (Decl.loc id)⟩
  | .use x => ⟨congrArg (fun o => [Res.ofOption o]) (h x), h⟩
  | .quse q x => ⟨congrArg (fun o => [memberOf w x o]) (h q), h⟩
  | .block body => ⟨(resolveStmts_refines w kids (newScope st) env h body).1, h⟩
  | .forv x id body =>
    ⟨(resolveStmts_refines w kids _ _ (agree_extend (st := newScope st) h x (Decl.loc id)) body).1, h⟩
  | .matchv x id body => ⟨(resolveStmts_refines w kids _ _ (agree_binder h x (Decl.loc id)) body).1, h⟩
  | .lam x id body => ⟨(resolveStmts_refines w kids _ _ (agree_binder h x (Decl.loc id)) body).1, h⟩
  | .pmatch .. => ⟨rfl, h⟩
  | .euse pre ty v => ⟨congrArg (fun look => [enumExprWith w look pre ty v]) (funext h), h⟩
  | .marms arms => ⟨resolveArms_refines w kids st env h arms, h⟩
  | .ifelse a b =>
    ⟨append_congr (resolveStmts_refines w kids (newScope st) env h a).1
      (resolveStmts_refines w kids (newScope st) env h b).1, h⟩

theorem resolveArms_refines (w : World ν) (kids : Table ν) (st : SymTab ν) (env : Table ν)
    (h : ∀ y, lookup st y = env.get y) : (arms : List (Option (ν × Nat) × List (Stmt ν))) →
    resolveArms w true kids st arms = specArms w kids env arms
  | [] => rfl
  | (some (x, id), body) :: rest =>
    append_congr (resolveStmts_refines w kids _ _ (agree_binder h x (Decl.loc id)) body).1
      (resolveArms_refines w kids st env h rest)
  | (none, body) :: rest =>
    append_congr (resolveStmts_refines w kids (newScope (newScope st)) env h body).1
      (resolveArms_refines w kids st env h rest)

theorem resolveStmts_refines (w : World ν) (kids : Table ν) (st : SymTab ν) (env : Table ν)
    (h : ∀ y, lookup st y = env.get y) : (ss : List (Stmt ν)) →
    (resolveStmts w true kids st ss).2 = (specStmts w kids env ss).2 ∧
      ∀ y, lookup (resolveStmts w true kids st ss).1 y = (specStmts w kids env ss).1.get y
  | [] => ⟨rfl, h⟩
  | s :: ss =>
    have hs := resolveStmt_refines w kids st env h s
    have hss := resolveStmts_refines w kids _ _ hs.2 ss
    ⟨append_congr hs.1 hss.1, hss.2⟩
end

/-! ### the names visible at file level -/

/-- the names a file declares (functions, enums, interfaces) -/
def declsOf (w : World ν) (file : Nat) : List ν := keys (ownEntries w file)

/-- names of the enums and interfaces a file declares -/
def typeNames (w : World ν) (file : Nat) : List ν := keys (typeEntries w file)

theorem mem_keys_builtinTable (w : World ν) (x : ν) : x ∈ keys (builtinTable w) ↔ x ∈ w.builtins := by
  rw [builtinTable_eq, mem_keys_putAll]
  simp [keys]

theorem nodup_keys_builtinTable (w : World ν) : (keys (builtinTable w)).Nodup :=
  builtinTable_eq w ▸ nodup_keys_putAll [] _ List.nodup_nil

omit [DecidableEq ν] in
theorem mem_keys_preludeTable (w : World ν) (x : ν) : x ∈ keys (preludeTable w) ↔ x ∈ w.prelude := by
  simp [preludeTable, keys]

theorem ownTable_get (w : World ν) (m : Nat) (x : ν) :
    (ownTable w m).1.get x = Table.get (ownEntries w m) x :=
  gather_get _ [] x

theorem mem_keys_ownTable (w : World ν) (m : Nat) (x : ν) :
    x ∈ keys (ownTable w m).1 ↔ x ∈ declsOf w m :=
  mem_keys_congr (ownTable_get w m x)

theorem mem_keys_ownKids (w : World ν) (m : Nat) (x : ν) :
    x ∈ keys (ownKids w m) ↔ x ∈ typeNames w m :=
  (mem_keys_putAll [] _ x).trans (or_iff_right List.not_mem_nil)

omit [DecidableEq ν] in
theorem typeNames_sub_declsOf (w : World ν) (m : Nat) (x : ν) (h : x ∈ typeNames w m) :
    x ∈ declsOf w m :=
  (mem_keys_append _ _ x).2 (Or.inr h)

/-- the names an import item makes visible, as the property states them -/
def visibleThrough (w : World ν) : Import ν → ν → Prop
  | .glob m, x => x ∈ declsOf w m                      -- all of the imported file's names
  | .incl m l, x => x ∈ declsOf w m ∧ x ∈ l            -- only the listed subset
  | .excl m l, x => x ∈ declsOf w m ∧ x ∉ l            -- all but the `except` list
  | .as_ _ p, x => x = p                               -- nothing but the prefix itself
  | .missing, _ => False

/-- the child namespaces an import item brings along, as the property states it: those of the
    enums / interfaces whose *declaration* the item makes visible (same filter), or the prefix -/
def kidVisibleThrough (w : World ν) : Import ν → ν → Prop
  | .glob m, x => x ∈ typeNames w m
  | .incl m l, x => x ∈ typeNames w m ∧ x ∈ l
  | .excl m l, x => x ∈ typeNames w m ∧ x ∉ l
  | .as_ _ p, x => x = p
  | .missing, _ => False

theorem mem_keys_importSupply (w : World ν) (file : Nat) (i : Import ν) (x : ν) :
    x ∈ keys (importSupply w file i) ↔ visibleThrough w i x := by
  cases i with
  | glob m => exact mem_keys_ownTable w m x
  | incl m l =>
    exact (mem_keys_filter _ (l.contains ·) x).trans (and_congr (mem_keys_ownTable w m x) List.contains_iff_mem)
  | excl m l =>
    exact (mem_keys_filter _ (!l.contains ·) x).trans (and_congr (mem_keys_ownTable w m x) (by simp))
  | as_ m p => exact List.mem_singleton
  | missing => exact iff_of_false List.not_mem_nil id

theorem mem_keys_kidSupply (w : World ν) (file : Nat) (i : Import ν) (x : ν) :
    x ∈ keys (kidSupply w file i) ↔ kidVisibleThrough w i x := by
  cases i with
  | glob m => exact mem_keys_ownKids w m x
  | incl m l =>
    exact (mem_keys_filter _ (l.contains ·) x).trans (and_congr (mem_keys_ownKids w m x) List.contains_iff_mem)
  | excl m l =>
    exact (mem_keys_filter _ (!l.contains ·) x).trans (and_congr (mem_keys_ownKids w m x) (by simp))
  | as_ m p => exact List.mem_singleton
  | missing => exact iff_of_false List.not_mem_nil id

theorem mem_keys_supply (w : World ν) (file : Nat) (x : ν) :
    x ∈ keys (supply w file) ↔
      x ∈ w.prelude ∨ x ∈ declsOf w file ∨ ∃ i ∈ importsOf w file, visibleThrough w i x := by
  simp only [supply, mem_keys_append, mem_keys_flatMap, mem_keys_preludeTable, mem_keys_ownTable,
    mem_keys_importSupply, or_assoc]

/-! ### child namespaces follow the declarations when nothing clashes -/

/-- declarations that own a child namespace -/
def isNs : Decl ν → Bool
  | .enum_ .. => true
  | .iface .. => true
  | .alias .. => true
  | _ => false

def nsOnly : Option (Decl ν) → Option (Decl ν)
  | some d => if isNs d then some d else none
  | none => none

def Follows (k t : Table ν) : Prop := ∀ x, k.get x = nsOnly (t.get x)

theorem follows_self (l : Table ν) (h : ∀ e ∈ l, isNs e.2 = true) : Follows l l := fun x => by
  cases hg : l.get x with
  | none => rfl
  | some d => exact (if_pos (h _ (get_mem hg))).symm

theorem follows_nil (l : Table ν) (h : ∀ e ∈ l, isNs e.2 = false) : Follows [] l := fun x => by
  cases hg : l.get x with
  | none => rfl
  | some d => exact (if_neg (by rw [h _ (get_mem hg)]; exact Bool.false_ne_true)).symm

theorem Follows.filter {k t : Table ν} (h : Follows k t) (p : ν → Bool) :
    Follows (k.filter (fun e => p e.1)) (t.filter (fun e => p e.1)) := fun x => by
  rw [get_filter k p, get_filter t p, h x]; split <;> rfl

theorem Follows.putAll {k S K T : Table ν} (hk : Follows k S) (hK : Follows K T)
    (hndK : (keys K).Nodup) (hnd : (keys (S ++ T)).Nodup) : Follows (putAll k K) (S ++ T) := fun x => by
  rw [putAll_get k K hndK, get_append, get_append, hk x, hK x]
  cases hS : S.get x with
  | none => cases nsOnly (T.get x) <;> rfl
  | some d =>
    have hx : x ∈ keys S := (get_isSome_iff S x).1 (by rw [hS]; rfl)
    rw [(get_eq_none_iff T x).2 fun hT => (List.nodup_append.1 (keys_append S T ▸ hnd)).2.2 x hx x hT rfl]
    rfl

omit [DecidableEq ν] in
theorem typeEntriesAux_isNs (file : Nat) (i : Nat) (ts : List (TypeD ν)) :
    ∀ e ∈ typeEntriesAux file i ts, isNs e.2 = true := by
  induction ts generalizing i with
  | nil => intro e he; cases he
  | cons t ts ih =>
    intro e he
    rcases List.mem_cons.1 he with rfl | he
    · simp only [typeDecl]; split <;> rfl
    · exact ih _ e he

omit [DecidableEq ν] in
theorem typeEntries_isNs (w : World ν) (m : Nat) : ∀ e ∈ typeEntries w m, isNs e.2 = true := by
  unfold typeEntries
  cases w.files[m]? with
  | none => intro e he; cases he
  | some f => exact typeEntriesAux_isNs m 0 f.types

omit [DecidableEq ν] in
theorem fnEntries_not_ns (w : World ν) (m : Nat) : ∀ e ∈ fnEntries w m, isNs e.2 = false := by
  unfold fnEntries
  cases w.files[m]? with
  | none => intro e he; cases he
  | some f => intro e he; obtain ⟨y, _, rfl⟩ := List.mem_map.1 he; rfl

theorem builtin_prelude_not_ns (w : World ν) :
    ∀ e ∈ builtinTable w ++ preludeTable w, isNs e.2 = false := by
  intro e he
  rw [builtinTable_eq] at he
  rcases List.mem_append.1 he with he | he
  · rcases mem_putAll he with he | he
    · cases he
    · obtain ⟨y, _, rfl⟩ := List.mem_map.1 he; rfl
  · obtain ⟨y, _, rfl⟩ := List.mem_map.1 he; rfl

theorem nodup_keys_ownKids (w : World ν) (m : Nat) : (keys (ownKids w m)).Nodup :=
  nodup_keys_putAll [] _ List.nodup_nil

/-- inside one file without duplicate names: the child namespace called `x` is the one of the
    file's declaration `x` -/
theorem ownKids_follows (w : World ν) (m : Nat) (hnd : (keys (ownEntries w m)).Nodup) :
    Follows (ownKids w m) (ownTable w m).1 := fun x => by
  rw [ownTable_get]
  exact (follows_nil _ (fnEntries_not_ns w m)).putAll (follows_self _ (typeEntries_isNs w m))
    (List.nodup_append.1 (keys_append (fnEntries w m) (typeEntries w m) ▸ hnd)).2.1 hnd x

theorem kidSupply_follows (w : World ν) (file : Nat) (hown : ∀ m, (keys (ownEntries w m)).Nodup)
    (i : Import ν) : Follows (kidSupply w file i) (importSupply w file i) := by
  cases i with
  | glob m => exact ownKids_follows w m (hown m)
  | incl m l => exact (ownKids_follows w m (hown m)).filter (l.contains ·)
  | excl m l => exact (ownKids_follows w m (hown m)).filter (!l.contains ·)
  | as_ m p => exact follows_self _ fun e he => by cases List.mem_singleton.1 he; rfl
  | missing => exact fun _ => rfl

theorem kidSupply_nodup (w : World ν) (file : Nat) (i : Import ν) : (keys (kidSupply w file i)).Nodup := by
  cases i with
  | glob m => exact nodup_keys_ownKids w m
  | incl m l => exact (nodup_keys_ownKids w m).sublist (List.filter_sublist.map _)
  | excl m l => exact (nodup_keys_ownKids w m).sublist (List.filter_sublist.map _)
  | as_ m p => exact List.nodup_cons.2 ⟨List.not_mem_nil, List.nodup_nil⟩
  | missing => exact List.nodup_nil

/-- the invariant carried along the import list: the namespaces follow the declarations supplied
    so far -/
theorem follows_imports (w : World ν) (file : Nat) (hown : ∀ m, (keys (ownEntries w m)).Nodup)
    (is : List (Import ν)) (k S : Table ν) (hk : Follows k S)
    (hnd : (keys (S ++ is.flatMap (importSupply w file))).Nodup) :
    Follows (putAll k (is.flatMap (kidSupply w file))) (S ++ is.flatMap (importSupply w file)) := by
  induction is generalizing k S with
  | nil => exact (List.append_nil S).symm ▸ hk
  | cons i is ih =>
    rw [List.flatMap_cons, List.flatMap_cons, putAll_append, ← List.append_assoc] at *
    exact ih _ _ (hk.putAll (kidSupply_follows w file hown i) (kidSupply_nodup w file i)
      (nodup_keys_left hnd)) hnd

theorem nodup_of_no_clash (l t : Table ν) (ht : (keys t).Nodup) (h : (gather l t).2 = []) :
    (keys (t ++ l)).Nodup := by
  rw [keys_append, List.nodup_iff_count]
  intro x
  have hc := count_dupNames (keys t) (keys l) x
  rw [← gather_clashes l t (keys t) fun _ => Iff.rfl, h, List.count_nil] at hc
  rw [List.count_append, ht.count]
  by_cases hx : x ∈ keys t
  · rw [if_pos hx] at hc ⊢; rw [← hc]; exact Nat.le_refl 1
  · rw [if_neg hx] at hc ⊢; omega

end Abra.Names
