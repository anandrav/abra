import AbraModel.StrOps
/-!
Helper lemmas for C17: an independent recursive lexicographic order and its agreement with core's
`List` order, the latch, and the loop invariants of the one-byte-per-step instructions.
-/
namespace Abra.StrOps

/-! ### specification side: lexicographic order on byte lists, shorter prefix first -/

/-- simple recursive definition, independent of the step functions -/
def lexLt : Bytes → Bytes → Bool
  | _, [] => false
  | [], _ :: _ => true
  | x :: xs, y :: ys => if x < y then true else if y < x then false else lexLt xs ys

theorem u8_eq_of_not_lt {x y : UInt8} (h1 : ¬ x < y) (h2 : ¬ y < x) : x = y :=
  UInt8.le_antisymm (UInt8.not_lt.1 h2) (UInt8.not_lt.1 h1)

/-- `lexLt` is core's `<` on `List UInt8` (`List.lt`, i.e. `List.Lex (· < ·)`) -/
theorem lexLt_iff (a b : Bytes) : lexLt a b = true ↔ a < b := by
  fun_induction lexLt a b with
  | case1 => simp
  | case2 => simp
  | case3 x xs y ys h1 => simp [List.cons_lt_cons_iff, h1]
  | case4 x xs y ys h1 h2 =>
    have hne : x ≠ y := by rintro rfl; exact h1 h2
    simp [List.cons_lt_cons_iff, h1, hne]
  | case5 x xs y ys h1 h2 ih =>
    cases u8_eq_of_not_lt h1 h2
    simp [ih]

theorem lexLt_eq_decide (a b : Bytes) : lexLt a b = decide (a < b) := by
  rw [Bool.eq_iff_iff, lexLt_iff, decide_eq_true_iff]

theorem lexLt_exhausted {a b : Bytes} (h : a = [] ∨ b = []) :
    lexLt a b = decide (a.length < b.length) := by
  rcases h with rfl | rfl
  · cases b with
    | nil => rfl
    | cons y ys => exact (decide_eq_true (Nat.succ_pos _)).symm
  · cases a <;> exact (decide_eq_false (Nat.not_lt_zero _)).symm

/-- the two strict byte tests exclude each other, so they can be made in either order -/
theorem ite_lt_swap {α : Type} (x y : UInt8) (u v w : α) :
    (if y < x then u else if x < y then v else w) = if x < y then v else if y < x then u else w := by
  by_cases h1 : x < y
  · rw [if_pos h1, if_neg (UInt8.lt_asymm h1), if_pos h1]
  · rw [if_neg h1, if_neg h1]

/-- `lexLt` with the operands exchanged, by the same two byte tests in the same order -/
theorem lexLt_cons_swap (x y : UInt8) (xs ys : Bytes) :
    lexLt (y :: ys) (x :: xs) = if x < y then false else if y < x then true else lexLt ys xs := by
  rw [lexLt, ite_lt_swap]

/-! ### running and slicing -/

section
variable {ρ : Type} {step : Regs → Step ρ}

theorem run_again {r r' : Regs} (h : step r = .again r') (n : Nat) :
    run step (n + 1) r = run step n r' := by
  rw [run, h]

theorem run_done {r r' : Regs} {v : ρ} (h : step r = .done v r') (n : Nat) :
    run step (n + 1) r = .finished v r' := by
  rw [run, h]

theorem run_congr {r r' : Regs} (h : step r = step r') (n : Nat) :
    run step (n + 1) r = run step (n + 1) r' := by
  rw [run, run, h]

theorem run_add (step : Regs → Step ρ) (m n : Nat) (r : Regs) :
    run step (m + n) r =
      match run step m r with
      | .running r' => run step n r'
      | x => x := by
  induction m generalizing r with
  | zero => rw [Nat.zero_add]; rfl
  | succ m ih =>
    rw [Nat.succ_add, run, run]
    cases step r with
    | again r' => exact ih r'
    | _ => rfl

theorem runBudgets_eq_run (step : Regs → Step ρ) (ks : List Nat) (r : Regs) :
    runBudgets step ks r = run step ks.sum r := by
  induction ks generalizing r with
  | nil => rfl
  | cons k ks ih =>
    rw [runBudgets, List.sum_cons, run_add]
    cases run step k r with
    | running r' => exact ih r'
    | _ => rfl

theorem run_mono (step : Regs → Step ρ) (m n : Nat) (r r' : Regs) (v : ρ)
    (h : run step m r = .finished v r') (hmn : m ≤ n) : run step n r = .finished v r' := by
  obtain ⟨k, rfl⟩ := Nat.exists_eq_add_of_le hmn
  rw [run_add, h]

end

/-! ### the latch, and the loop over the common prefix -/

/-- the invariant between two steps of one instruction: the latched operands are `p ++ a'` and
    `p ++ b'` with the common prefix `p` already compared, and latching leaves the registers as they are -/
structure Mid (ra rb : Bytes) (r : Regs) (p a' b' : Bytes) : Prop where
  h1 : r.op1 = p ++ a'
  h2 : r.op2 = p ++ b'
  hi : r.idx1 = p.length
  hl : latch ra rb r = r

theorem latch_zero {ra rb : Bytes} {r : Regs} (h : r.idx1 = 0) :
    latch ra rb r = { r with op2 := rb, op1 := ra } := if_pos h

theorem latch_pos {ra rb : Bytes} {r : Regs} (h : r.idx1 ≠ 0) : latch ra rb r = r := if_neg h

theorem latch_latch (ra rb : Bytes) (r : Regs) : latch ra rb (latch ra rb r) = latch ra rb r := by
  by_cases h : r.idx1 = 0
  · rw [latch_zero h]
    exact latch_zero h
  · rw [latch_pos h, latch_pos h]

theorem Mid.start (ra rb : Bytes) {r : Regs} (h : r.idx1 = 0) : Mid ra rb (latch ra rb r) [] ra rb := by
  rw [latch_zero h]
  exact ⟨rfl, rfl, h, latch_zero h⟩

theorem Mid.next {ra rb : Bytes} {r : Regs} {p xs ys : Bytes} {x : UInt8}
    (m : Mid ra rb r p (x :: xs) (x :: ys)) :
    Mid ra rb { r with idx1 := r.idx1 + 1 } (p ++ [x]) xs ys where
  h1 := by rw [List.append_assoc]; exact m.h1
  h2 := by rw [List.append_assoc]; exact m.h2
  hi := by rw [List.length_append]; exact congrArg (· + 1) m.hi
  hl := latch_pos (Nat.succ_ne_zero _)

/-- What the instructions that walk the common prefix of their operands share: a step either
    finishes with the answer `spec` gives for the unread suffixes, or it finds equal heads, to which
    the answer is indifferent, and advances. -/
def Scans (ra rb : Bytes) (step : Regs → Step Bool) (spec : Bytes → Bytes → Bool) : Prop :=
  ∀ {r p a' b'}, Mid ra rb r p a' b' →
    step r = .done (spec a' b') { r with idx1 := 0 } ∨
    ∃ x xs ys, a' = x :: xs ∧ b' = x :: ys ∧ spec a' b' = spec xs ys ∧
      step r = .again { r with idx1 := r.idx1 + 1 }

section
variable {ra rb : Bytes} {step : Regs → Step Bool} {spec : Bytes → Bytes → Bool}

/-- so the answer is there after at most `min |a'| |b'| + 1` steps -/
theorem scan_run (hs : Scans ra rb step spec) :
    ∀ (fuel : Nat) (a' b' p : Bytes) (r : Regs), Mid ra rb r p a' b' →
      min a'.length b'.length + 1 ≤ fuel →
      run step fuel r = .finished (spec a' b') { r with idx1 := 0 } := by
  intro fuel
  induction fuel with
  | zero => intro _ _ _ _ _ h; cases h
  | succ n ih =>
    intro a' b' p r m hf
    rcases hs m with h | ⟨x, xs, ys, rfl, rfl, he, h⟩
    · exact run_done h n
    · rw [run_again h, he]
      exact ih xs ys _ _ m.next (Nat.le_of_succ_le_succ (Nat.add_min_add_right .. ▸ hf))

/-- the same from registers that have not latched yet -/
theorem scan_start (hs : Scans ra rb step spec) (hl : ∀ r, step (latch ra rb r) = step r) {r : Regs}
    (h0 : r.idx1 = 0) {fuel : Nat} (hf : min ra.length rb.length + 1 ≤ fuel) :
    run step fuel r = .finished (spec ra rb) { r with op1 := ra, op2 := rb, idx1 := 0 } := by
  cases fuel with
  | zero => cases hf
  | succ n =>
    rw [← run_congr (hl r), scan_run hs _ _ _ _ _ (Mid.start ra rb h0) hf, latch_zero h0]

end

/-! ### EqualString -/

theorem eqStep_scans (ra rb : Bytes) : Scans ra rb (eqStep ra rb) fun a b => decide (a = b) := by
  intro r p a' b' m
  -- in terms of the suffixes: exhausted means empty, the byte at the index is the head
  simp only [eqStep, m.hl, m.h1, m.h2, m.hi, List.length_append, Nat.left_eq_add,
    List.length_eq_zero_iff, Nat.add_left_cancel_iff, ne_eq,
    List.getElem?_append_right (Nat.le_refl _), Nat.sub_self]
  by_cases hl : a'.length = b'.length
  · rcases a' with _ | ⟨x, xs⟩ <;> rcases b' with _ | ⟨y, ys⟩ <;> try cases hl
    · left; simp
    · by_cases hxy : x = y
      · subst hxy
        right
        exact ⟨x, xs, ys, rfl, rfl, by simp, by simp [hl]⟩
      · left; simp [hl, hxy]
  · left
    have hne : a' ≠ b' := fun e => hl (e ▸ rfl)
    rw [if_neg fun h => hne (h.1.trans h.2.symm), if_pos hl, decide_eq_false hne]

theorem eq_start (a b : Bytes) {r : Regs} (h0 : r.idx1 = 0) {fuel : Nat}
    (hf : min a.length b.length + 1 ≤ fuel) :
    run (eqStep a b) fuel r =
      .finished (decide (a = b)) { r with op1 := a, op2 := b, idx1 := 0 } :=
  scan_start (eqStep_scans a b) (fun r => by rw [eqStep, eqStep, latch_latch]) h0 hf

/-! ### the four ordering instructions -/

/-- what each instruction must answer, in terms of the independent `lexLt` -/
def Cmp.spec : Cmp → Bytes → Bytes → Bool
  | .lt, a, b => lexLt a b
  | .le, a, b => !lexLt b a
  | .gt, a, b => lexLt b a
  | .ge, a, b => !lexLt a b

/-- `c.of l g`: the answer of instruction `c` when `l` tells whether `a < b` and `g` whether `b < a`.
    The four instructions differ only in how they read that pair. -/
def Cmp.of : Cmp → Bool → Bool → Bool
  | .lt, l, _ => l
  | .le, _, g => !g
  | .gt, _, g => g
  | .ge, l, _ => !l

theorem Cmp.spec_eq_of (c : Cmp) (a b : Bytes) : c.spec a b = c.of (lexLt a b) (lexLt b a) := by
  cases c <;> rfl

theorem Cmp.onExhausted_eq_of (c : Cmp) (la lb : Nat) :
    c.onExhausted la lb = c.of (decide (la < lb)) (decide (lb < la)) := by
  have le (m n : Nat) : decide (m ≤ n) = !decide (n < m) := by
    rw [← decide_not, decide_eq_decide]
    exact Nat.not_lt.symm
  cases c
  · rfl
  · exact le la lb
  · rfl
  · exact le lb la

theorem Cmp.onByte_eq_of (c : Cmp) (x y : UInt8) :
    c.onByte x y =
      if x < y then some (c.of true false) else if y < x then some (c.of false true) else none := by
  -- `GreaterThan*` make the two byte tests in the other order
  cases c
  · rfl
  · rfl
  · exact ite_lt_swap ..
  · exact ite_lt_swap ..

theorem cmpStep_scans (c : Cmp) (ra rb : Bytes) : Scans ra rb (cmpStep c ra rb) c.spec := by
  intro r p a' b' m
  -- in terms of the suffixes, and of what `c` makes of the pair (`a' < b'`, `b' < a'`)
  simp only [cmpStep, m.hl, m.h1, m.h2, m.hi, List.length_append, Nat.left_eq_add,
    List.length_eq_zero_iff, List.getElem?_append_right (Nat.le_refl _), Nat.sub_self,
    Cmp.onExhausted_eq_of, Nat.add_lt_add_iff_left, Cmp.spec_eq_of]
  by_cases h : a' = [] ∨ b' = []
  · left
    rw [if_pos h, lexLt_exhausted h, lexLt_exhausted h.symm]
  · obtain ⟨x, xs, rfl⟩ := List.exists_cons_of_ne_nil fun e => h (.inl e)
    obtain ⟨y, ys, rfl⟩ := List.exists_cons_of_ne_nil fun e => h (.inr e)
    rw [if_neg h, lexLt, lexLt_cons_swap]
    simp only [List.getElem?_cons_zero, Cmp.onByte_eq_of]
    by_cases h1 : x < y
    · left; simp only [h1, if_true]
    · by_cases h2 : y < x
      · left; simp only [h1, h2, if_true, if_false]
      · cases u8_eq_of_not_lt h1 h2
        right
        exact ⟨x, xs, ys, rfl, rfl, by simp only [h1, if_false], by simp only [h1, if_false]⟩

theorem cmp_start (c : Cmp) (a b : Bytes) {r : Regs} (h0 : r.idx1 = 0) {fuel : Nat}
    (hf : min a.length b.length + 1 ≤ fuel) :
    run (cmpStep c a b) fuel r = .finished (c.spec a b) { r with op1 := a, op2 := b, idx1 := 0 } :=
  scan_start (cmpStep_scans c a b) (fun r => by rw [cmpStep, cmpStep, latch_latch]) h0 hf

/-! ### ConcatStrings -/

/-- between two steps of `ConcatStrings`: latching leaves the registers as they are, the indices are inside
    the operands, and `w` is what remains to be copied -/
structure CatMid (ra rb : Bytes) (r : Regs) (w : Bytes) : Prop where
  hl : catLatch ra rb r = r
  h1 : r.idx1 ≤ r.op1.length
  h2 : r.idx2 ≤ r.op2.length
  hw : r.op1.drop r.idx1 ++ r.op2.drop r.idx2 = w

section
variable {ra rb : Bytes} {r : Regs}

theorem catStep_copy {x : UInt8} {w : Bytes} (m : CatMid ra rb r (x :: w)) :
    ∃ r', catStep ra rb r = .again r' ∧ CatMid ra rb r' w ∧ r'.builder = r.builder ++ [x] ∧
      r'.op1 = r.op1 ∧ r'.op2 = r.op2 := by
  have hw := m.hw
  rw [catStep, m.hl, catArms]
  by_cases h : r.idx1 < r.op1.length
  · rw [List.drop_eq_getElem_cons h, List.cons_append, List.cons.injEq] at hw
    refine ⟨{ r with builder := r.builder ++ [x], idx1 := r.idx1 + 1 }, ?_,
      ⟨?_, h, m.h2, hw.2⟩, rfl, rfl, rfl⟩
    · refine (if_neg fun e => Nat.ne_of_lt h e.1).trans ((if_pos h).trans ?_)
      rw [List.getElem?_eq_getElem h, hw.1]
    · exact if_neg fun h => Nat.succ_ne_zero _ h.1
  · rw [List.drop_eq_nil_of_le (Nat.not_lt.1 h), List.nil_append] at hw
    have h' : r.idx2 < r.op2.length :=
      Nat.lt_of_not_le fun hle => by rw [List.drop_eq_nil_of_le hle] at hw; cases hw
    rw [List.drop_eq_getElem_cons h', List.cons.injEq] at hw
    refine ⟨{ r with builder := r.builder ++ [x], idx2 := r.idx2 + 1 }, ?_,
      ⟨?_, m.h1, h', ?_⟩, rfl, rfl, rfl⟩
    · refine (if_neg fun e => Nat.ne_of_lt h' e.2).trans ((if_neg h).trans ((if_pos h').trans ?_))
      rw [List.getElem?_eq_getElem h', hw.1]
    · exact if_neg fun h => Nat.succ_ne_zero _ h.2
    · show List.drop r.idx1 r.op1 ++ List.drop (r.idx2 + 1) r.op2 = w
      rw [List.drop_eq_nil_of_le (Nat.not_lt.1 h), List.nil_append, hw.2]

theorem catStep_done (m : CatMid ra rb r []) :
    catStep ra rb r =
      if utf8Valid r.builder then .done r.builder { r with builder := [], idx1 := 0, idx2 := 0 }
      else .fault := by
  have hw := List.append_eq_nil_iff.1 m.hw
  have e1 : r.idx1 = r.op1.length := Nat.le_antisymm m.h1 (List.drop_eq_nil_iff.1 hw.1)
  have e2 : r.idx2 = r.op2.length := Nat.le_antisymm m.h2 (List.drop_eq_nil_iff.1 hw.2)
  rw [catStep, m.hl, catArms, if_pos ⟨e1, e2⟩]

theorem cat_run : ∀ (w : Bytes) (n : Nat) (r : Regs), CatMid ra rb r w →
    (n ≤ w.length → ∃ r', run (catStep ra rb) n r = .running r') ∧
    (w.length < n → run (catStep ra rb) n r =
      if utf8Valid (r.builder ++ w) then
        .finished (r.builder ++ w) { r with builder := [], idx1 := 0, idx2 := 0 }
      else .faulted) := by
  intro w n
  induction n generalizing w with
  | zero => exact fun r _ => ⟨fun _ => ⟨r, rfl⟩, nofun⟩
  | succ n ih =>
    intro r m
    cases w with
    | nil =>
      refine ⟨nofun, fun _ => ?_⟩
      rw [run, catStep_done m, List.append_nil]
      cases utf8Valid r.builder <;> rfl
    | cons x w =>
      obtain ⟨r', hs, m', hb, h1, h2⟩ := catStep_copy m
      rw [run_again hs, List.append_cons, ← hb, ← h1, ← h2]
      exact ⟨fun h => (ih w r' m').1 (Nat.le_of_succ_le_succ h),
        fun h => (ih w r' m').2 (Nat.lt_of_succ_lt_succ h)⟩

end

/-- From registers with both indices 0, at every number of steps: still copying up to `|a| + |b|`
    steps, and with more steps than that the result is there (or the `unwrap` has failed). -/
theorem cat_start (a b : Bytes) {r : Regs} (h1 : r.idx1 = 0) (h2 : r.idx2 = 0) (n : Nat) :
    (n ≤ a.length + b.length → ∃ r', run (catStep a b) n r = .running r') ∧
    (a.length + b.length < n → run (catStep a b) n r =
      if utf8Valid (a ++ b) then
        .finished (a ++ b) { r with op1 := a, op2 := b, builder := [], idx1 := 0, idx2 := 0 }
      else .faulted) := by
  cases n with
  | zero => exact ⟨fun _ => ⟨r, rfl⟩, nofun⟩
  | succ n =>
    have hl : catLatch a b r = { r with op2 := b, op1 := a, builder := [] } := by
      rw [catLatch, if_pos ⟨h1, h2⟩]
    have m : CatMid a b (catLatch a b r) (a ++ b) := by
      rw [hl]
      exact ⟨by rw [catLatch]; split <;> rfl, h1 ▸ Nat.zero_le _, h2 ▸ Nat.zero_le _,
        by rw [h1, h2]; rfl⟩
    have hs : catStep a b r = catStep a b (catLatch a b r) := by
      rw [catStep, catStep, m.hl]
    have := cat_run (a ++ b) (n + 1) _ m
    rw [← run_congr hs, List.length_append, hl] at this
    exact this

/-! ### validity of UTF-8 is closed under concatenation -/

theorem and_mono_right {x y z : Bool} (h : (x && y) = true) (hyz : y = true → z = true) :
    (x && z) = true := by
  rw [Bool.and_eq_true] at h ⊢
  exact ⟨h.1, hyz h.2⟩

theorem utf8Valid_append (a b : Bytes) (ha : utf8Valid a = true) (hb : utf8Valid b = true) :
    utf8Valid (a ++ b) = true := by
  -- per case, `ha` is the case's own test of the lead character's tail bytes and of the rest
  fun_induction utf8Valid a
  case case1 => exact hb
  case case2 b0 rest h ih =>
    unfold utf8Valid
    exact (if_pos h).trans (ih ha)
  case case3 b0 h1 h2 b1 r ih =>
    unfold utf8Valid
    exact (if_neg h1).trans ((if_pos h2).trans (and_mono_right ha ih))
  case case5 b0 h1 h2 h3 b1 b2 r ih =>
    unfold utf8Valid
    exact (if_neg h1).trans ((if_neg h2).trans ((if_pos h3).trans (and_mono_right ha ih)))
  case case7 b0 h1 h2 h3 h4 b1 b2 b3 r ih =>
    unfold utf8Valid
    exact (if_neg h1).trans ((if_neg h2).trans ((if_neg h3).trans ((if_pos h4).trans (and_mono_right ha ih))))
  all_goals cases ha

/-! ### the byte intrinsics -/

theorem nthByte_nat (s : Bytes) (i : Nat) (h : i < s.length) : nthByte s i = .val s[i].toNat := by
  rw [nthByte, Int.toNat_natCast,
    if_neg (not_or.2 ⟨Int.not_lt.2 (Int.natCast_nonneg i), Nat.not_le.2 h⟩),
    List.getElem?_eq_getElem h]

end Abra.StrOps
