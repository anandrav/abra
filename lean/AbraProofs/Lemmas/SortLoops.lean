import AbraModel.Lib.SortLoops
import AbraProofs.Lemmas.Sort
import AbraProofs.Lemmas.ListIndex
/-! Lemmas for C25: the loops of `sort_by` on the whole array (`AbraModel/Lib/SortLoops.lean`) compute the list
functions of `AbraModel/Lib/Sort.lean`.

The array is always given as an append of its segments and every index as a variable tied to a segment length by a
hypothesis (`k = A.length`), so that a loop step is a step on the segment lists and the index side conditions are
linear arithmetic over a handful of variables.  The statements in terms of `take`/`drop` of an arbitrary array follow
by cutting the array once. -/
namespace Abra.Lib

variable {α : Type} (le : α → α → Bool)

theorem set_at {X Y : List α} {g : α} {k : Nat} (a : α) (h : k = X.length) :
    (X ++ g :: Y).set k a = X ++ a :: Y := by
  subst h
  induction X with
  | nil => rfl
  | cons x X ih => exact congrArg (x :: ·) ih

theorem mergeMainA_exit (temp : List α) (right fuel : Nat) (arr : List α) (i j k : Nat)
    (h : ¬(i < temp.length ∧ j ≤ right)) : mergeMainA le temp right fuel arr i j k = (arr, i, k) := by
  cases fuel with
  | zero => rfl
  | succ f => rw [mergeMainA, if_neg h]

/-- the drain loop from any state: `T₀`/`T` the read/unread part of `temp`, `A` the array up to `k`, `G` the cells
    from `k` on that the unread elements will fill -/
theorem mergeDrainA_spec (temp S T T₀ A G : List α) (fuel i k : Nat) (ht : temp = T₀ ++ T) (hi : i = T₀.length)
    (hk : k = A.length) (hG : G.length = T.length) (hf : T.length ≤ fuel) :
    mergeDrainA temp fuel (A ++ (G ++ S)) i k = A ++ (T ++ S) := by
  induction T generalizing T₀ A G fuel i k with
  | nil =>
    cases List.eq_nil_of_length_eq_zero hG
    have : temp[i]? = none := by rw [ht, hi]; simp
    cases fuel with
    | zero => rfl
    | succ f => rw [mergeDrainA, this]
  | cons a T ih =>
    obtain ⟨g, G, rfl⟩ := List.exists_cons_of_length_eq_add_one hG
    obtain ⟨f, rfl⟩ := Nat.exists_eq_add_one.mpr (Nat.lt_of_lt_of_le (Nat.succ_pos _) hf)
    have h1 : temp[i]? = some a := by rw [ht]; exact getElem?_at_length hi
    rw [mergeDrainA, h1]
    show mergeDrainA temp f ((A ++ g :: (G ++ S)).set k a) (i + 1) (k + 1) = _
    rw [set_at a hk, List.append_cons A]
    exact (ih (T₀ ++ [a]) (A ++ [a]) G f (i + 1) (k + 1) (by rw [ht, List.append_assoc]; rfl)
      (by rw [List.length_append, hi]; rfl) (by rw [List.length_append, hk]; rfl) (Nat.succ.inj hG)
      (Nat.le_of_succ_le_succ hf)).trans (List.append_assoc _ _ _)

/-- one round of the main loop: `temp[i] = a` goes to `self[k]` if `le a b`, else `self[j] = b` does; the cell `g` at `k`
    is overwritten, and in the second case the cell at `j` becomes one of the cells no longer needed -/
theorem mergeMainA_step {temp T₀ T A G R S : List α} {a b g : α} {right f i j k : Nat}
    (ht : temp = T₀ ++ a :: T) (hi : i = T₀.length) (hk : k = A.length) (hj : j = k + (G.length + 1))
    (hR : j + (R.length + 1) = right + 1) :
    mergeMainA le temp right (f + 1) (A ++ (g :: G ++ (b :: R ++ S))) i j k =
      if le a b = true then mergeMainA le temp right f (A ++ [a] ++ (G ++ (b :: R ++ S))) (i + 1) j (k + 1)
      else mergeMainA le temp right f (A ++ [b] ++ (G ++ [b] ++ (R ++ S))) i (j + 1) (k + 1) := by
  have h1 : temp[i]? = some a := by rw [ht]; exact getElem?_at_length hi
  have h2 : (A ++ (g :: G ++ (b :: R ++ S)))[j]? = some b := by
    rw [← List.append_assoc]; exact getElem?_at_length (by simp [hj, hk])
  rw [mergeMainA, if_pos ⟨by rw [ht, hi]; simp, by omega⟩, h1, h2, ← List.append_cons A, ← List.append_cons A,
    ← List.append_cons G]
  show (if le a b = true then mergeMainA le temp right f ((A ++ g :: (G ++ b :: (R ++ S))).set k a) (i + 1) j (k + 1)
    else mergeMainA le temp right f ((A ++ g :: (G ++ b :: (R ++ S))).set k b) i (j + 1) (k + 1)) = _
  rw [set_at a hk, set_at b hk]
  rfl

/-- `merge_by` from any state of its main loop, through the drain: `T₀`/`T` the read/unread part of `temp`, `A` the
    array up to `k` (the part merged so far ends it), `G` the cells between `k` and `j` whose content is no longer
    needed (as many as `temp` has unread elements), `R` the unread part of the right run (from `j` to `right`).  No
    write ever lands on `R`; what is left of `R` when `temp` runs out is already in place. -/
theorem mergeA_spec (temp S : List α) (right : Nat) (T R T₀ A G : List α) (fuel i j k : Nat)
    (ht : temp = T₀ ++ T) (hi : i = T₀.length) (hk : k = A.length) (hj : j = k + G.length)
    (hG : G.length = T.length) (hR : j + R.length = right + 1) (hf : T.length + R.length ≤ fuel) :
    (match mergeMainA le temp right fuel (A ++ (G ++ (R ++ S))) i j k with
      | (arr1, i', k') => mergeDrainA temp (temp.length - i') arr1 i' k') = A ++ (merge le T R ++ S) := by
  fun_induction merge le T R generalizing T₀ A G fuel i j k with
  | case1 R =>
    rw [mergeMainA_exit _ _ _ _ _ _ _ _ (by rw [ht, hi]; simp)]
    exact mergeDrainA_spec temp (R ++ S) [] T₀ A G _ i k ht hi hk hG (Nat.zero_le _)
  | case2 T hT =>
    rw [mergeMainA_exit _ _ _ _ _ _ _ _ (by simp only [List.length_nil] at hR; omega)]
    exact mergeDrainA_spec temp S T T₀ A G _ i k ht hi hk hG (by rw [ht, hi]; simp)
  | case3 a T b R h ih =>
    obtain ⟨g, G, rfl⟩ := List.exists_cons_of_length_eq_add_one hG
    obtain ⟨f, rfl⟩ := Nat.exists_eq_add_one.mpr (Nat.lt_of_lt_of_le (Nat.add_pos_left (Nat.succ_pos _) _) hf)
    rw [mergeMainA_step le ht hi hk hj hR, if_pos h]
    exact (ih (T₀ ++ [a]) (A ++ [a]) G f (i + 1) j (k + 1) (by rw [ht, List.append_assoc]; rfl)
      (by rw [List.length_append, hi]; rfl) (by rw [List.length_append, hk]; rfl)
      (hj.trans (Nat.succ_add k G.length).symm) (Nat.succ.inj hG) hR
      (Nat.le_of_succ_le_succ (Nat.succ_add _ _ ▸ hf))).trans (List.append_assoc _ _ _)
  | case4 a T b R h ih =>
    obtain ⟨g, G, rfl⟩ := List.exists_cons_of_length_eq_add_one hG
    obtain ⟨f, rfl⟩ := Nat.exists_eq_add_one.mpr (Nat.lt_of_lt_of_le (Nat.add_pos_left (Nat.succ_pos _) _) hf)
    rw [mergeMainA_step le ht hi hk hj hR, if_neg h]
    exact (ih T₀ (A ++ [b]) (G ++ [b]) f i (j + 1) (k + 1) ht hi (by rw [List.length_append, hk]; rfl)
      (by rw [List.length_append, hj, Nat.succ_add]; rfl) (by rw [List.length_append]; exact hG)
      ((Nat.succ_add j R.length).trans hR) (Nat.le_of_succ_le_succ hf)).trans (List.append_assoc _ _ _)

/-- `merge_by(left, mid, right)` on an array given by its four segments: before `left`, the left run `T`, the right run
    `R`, after `right` -/
theorem mergeByA_append (P T R S : List α) (left mid right : Nat)
    (hl : left = P.length) (hm : mid + 1 = left + T.length) (hr : right + 1 = mid + 1 + R.length) (hT : T ≠ []) :
    mergeByA le (P ++ (T ++ (R ++ S))) left mid right = P ++ (merge le T R ++ S) := by
  have hpos := List.length_pos_iff.mpr hT
  have e : mid - left + 1 = T.length := by omega
  rw [mergeByA, e, List.drop_left' hl.symm, List.take_left]
  exact mergeA_spec le T S right T R [] P T _ 0 (mid + 1) left rfl rfl hl hm rfl hr.symm (by omega)

theorem drop_eq_take_append_drop (l : List α) {a n b : Nat} (h : a + n = b) :
    l.drop a = (l.drop a).take n ++ l.drop b := by
  rw [← h, ← List.drop_drop, List.take_append_drop]

theorem length_take_drop (l : List α) {a n : Nat} (h : a + n ≤ l.length) : ((l.drop a).take n).length = n :=
  List.length_take_of_le (by rw [List.length_drop]; omega)

theorem split_runs (arr : List α) (left mid right : Nat) (h1 : left ≤ mid) (h2 : mid ≤ right) :
    arr = arr.take left ++ ((arr.drop left).take (mid - left + 1) ++
      ((arr.drop (mid + 1)).take (right - mid) ++ arr.drop (right + 1))) := by
  rw [← drop_eq_take_append_drop arr (by omega), ← drop_eq_take_append_drop arr (by omega), List.take_append_drop]

theorem mergeByA_eq (arr : List α) (left mid right : Nat)
    (h1 : left ≤ mid) (h2 : mid ≤ right) (h3 : right < arr.length) :
    mergeByA le arr left mid right =
      arr.take left ++ merge le ((arr.drop left).take (mid - left + 1)) ((arr.drop (mid + 1)).take (right - mid))
        ++ arr.drop (right + 1) := by
  have hT := length_take_drop arr (a := left) (n := mid - left + 1) (by omega)
  have hR := length_take_drop arr (a := mid + 1) (n := right - mid) (by omega)
  have h := mergeByA_append le (arr.take left) ((arr.drop left).take (mid - left + 1))
    ((arr.drop (mid + 1)).take (right - mid)) (arr.drop (right + 1)) left mid right
    (List.length_take_of_le (by omega)).symm (by rw [hT]; omega) (by rw [hR]; omega)
    (List.ne_nil_of_length_pos (by rw [hT]; exact Nat.succ_pos _))
  rw [← split_runs arr left mid right h1 h2] at h
  rw [h, List.append_assoc]

theorem mergeByA_length (le : α → α → Bool) (arr : List α) (left mid right : Nat)
    (h1 : left ≤ mid) (h2 : mid < right) (h3 : right < arr.length) : (mergeByA le arr left mid right).length = arr.length := by
  rw [mergeByA_eq le arr left mid right h1 (Nat.le_of_lt h2) h3]
  conv => rhs; rw [split_runs arr left mid right h1 (Nat.le_of_lt h2)]
  simp only [List.length_append, merge_length, Nat.add_assoc]

theorem insRev_length (key : α) (rp : List α) : (insRev le key rp).length = rp.length + 1 :=
  (insRev_perm le key rp).length_eq

theorem insertShiftA_exit (key : α) (left fuel : Nat) (arr : List α) (jp : Nat) (h : ¬ jp > left) :
    insertShiftA le key left fuel arr jp = (arr, jp) := by
  cases fuel with
  | zero => rfl
  | succ f => rw [insertShiftA, if_neg h]

/-- the shifting loop: `Ar` is the sorted part read backwards from the hole `h` at `jp`; afterwards `key` is written
    into the hole that is left -/
theorem insertShiftA_spec (key : α) (P Ar Y : List α) (h : α) (fuel jp : Nat)
    (hjp : jp = P.length + Ar.length) (hf : Ar.length ≤ fuel) :
    ((insertShiftA le key P.length fuel (P ++ (Ar.reverse ++ h :: Y)) jp).1.set
        (insertShiftA le key P.length fuel (P ++ (Ar.reverse ++ h :: Y)) jp).2 key)
      = P ++ ((insRev le key Ar).reverse ++ Y) := by
  induction Ar generalizing Y h fuel jp with
  | nil =>
    rw [insertShiftA_exit _ _ _ _ _ _ (by simp [hjp])]
    exact set_at key hjp
  | cons x Ar ih =>
    obtain ⟨f, rfl⟩ := Nat.exists_eq_add_one.mpr (Nat.lt_of_lt_of_le (Nat.succ_pos _) hf)
    have e : P ++ ((x :: Ar).reverse ++ h :: Y) = (P ++ Ar.reverse) ++ x :: h :: Y := by simp
    have hjp' : jp - 1 = (P ++ Ar.reverse).length := by rw [hjp, List.length_append, List.length_reverse]; rfl
    have hjp'' : jp = (P ++ Ar.reverse ++ [x]).length := by
      rw [hjp, List.length_append, List.length_append, List.length_reverse]; rfl
    rw [e, insertShiftA, if_pos (hjp ▸ Nat.lt_add_of_pos_right (Nat.succ_pos _)), getElem?_at_length hjp', insRev_cons]
    by_cases hle : le x key = true
    · simp only [hle, Bool.not_true, Bool.false_eq_true, if_false, if_true]
      rw [List.append_cons _ x, set_at key hjp'']
      simp
    · simp only [hle, Bool.not_false, if_true]
      rw [List.append_cons _ x, set_at x hjp'', List.append_assoc, List.append_assoc]
      refine (ih (x :: Y) x f (jp - 1) (hjp'.trans (by rw [List.length_append, List.length_reverse]))
        (Nat.le_of_succ_le_succ hf)).trans ?_
      simp

/-- the outer loop: `Sr` is the part sorted so far, read backwards from `i`; `U` the rest of the segment -/
theorem insertionSortA_spec (P S U Sr : List α) (i : Nat) (hi : i = P.length + Sr.length) :
    insertionSortA le P.length U.length (P ++ (Sr.reverse ++ (U ++ S))) i
      = P ++ ((U.foldl (fun rp key => insRev le key rp) Sr).reverse ++ S) := by
  induction U generalizing Sr i with
  | nil => rfl
  | cons key U ih =>
    have hget : (P ++ (Sr.reverse ++ (key :: U ++ S)))[i]? = some key := by
      rw [← List.append_assoc]; exact getElem?_at_length (by simp [hi])
    have e : i - P.length = Sr.length := by omega
    rw [List.length_cons, insertionSortA, hget]
    show insertionSortA le P.length U.length
      ((insertShiftA le key P.length (i - P.length) (P ++ (Sr.reverse ++ key :: (U ++ S))) i).1.set
        (insertShiftA le key P.length (i - P.length) (P ++ (Sr.reverse ++ key :: (U ++ S))) i).2 key) (i + 1) = _
    rw [e, insertShiftA_spec le key P Sr (U ++ S) key Sr.length i hi (Nat.le_refl _)]
    exact ih (insRev le key Sr) (i + 1) (by rw [insRev_length]; omega)

theorem insertionSortByA_append (P X S : List α) (left right : Nat)
    (hl : left = P.length) (hr : right + 1 = left + X.length) (h : left ≤ right) :
    insertionSortByA le (P ++ (X ++ S)) left right = P ++ (insertRun le X ++ S) := by
  cases X with
  | nil => simp only [List.length_nil] at hr; omega
  | cons x U =>
    have e : right - left = U.length := by simp only [List.length_cons] at hr; omega
    rw [insertionSortByA, e, hl]
    exact insertionSortA_spec le P S U [x] (P.length + 1) rfl

theorem insertionSortByA_eq (arr : List α) (left right : Nat)
    (h1 : left ≤ right) (h2 : right < arr.length) :
    insertionSortByA le arr left right =
      arr.take left ++ insertRun le ((arr.drop left).take (right - left + 1)) ++ arr.drop (right + 1) := by
  have h := insertionSortByA_append le (arr.take left) ((arr.drop left).take (right - left + 1)) (arr.drop (right + 1))
    left right (List.length_take_of_le (by omega)).symm
    (by rw [length_take_drop arr (a := left) (n := right - left + 1) (by omega)]; omega) h1
  rw [← drop_eq_take_append_drop arr (by omega), List.take_append_drop] at h
  rw [h, List.append_assoc]

theorem insertionSortByA_length (le : α → α → Bool) (arr : List α) (left right : Nat)
    (h1 : left ≤ right) (h2 : right < arr.length) : (insertionSortByA le arr left right).length = arr.length := by
  rw [insertionSortByA_eq le arr left right h1 h2]
  conv => rhs; rw [← List.take_append_drop left arr, drop_eq_take_append_drop arr (show left + (right - left + 1) = right + 1 by omega)]
  simp only [List.length_append, insertRun_length, Nat.add_assoc]

/-- What the two block loops of `sort_by` share: `i = 0, s, 2s, …` while `i < n`, each round rewriting the block of width
    `s` at `i` by `g`; this computes the list function `F` that applies `g` block by block.  The loop index is at the end
    of the finished part `P`, or anywhere beyond it once nothing is left (the last block may be short, and `i` still
    advances by `s`). -/
theorem blockLoop_spec {loop : Nat → List α → Nat → List α} {step : List α → Nat → List α} {g F : List α → List α}
    {s n : Nat} (hs : 0 < s) (loop_zero : ∀ arr i, loop 0 arr i = arr)
    (loop_succ : ∀ f arr i, loop (f + 1) arr i = if i < n then loop f (step arr i) (i + s) else arr)
    (hstep : ∀ P L, L ≠ [] → n = P.length + L.length → step (P ++ L) P.length = P ++ (g L ++ L.drop s))
    (hg : ∀ L, (g L).length = (L.take s).length)
    (F_nil : F [] = []) (F_eq : ∀ L, L ≠ [] → F L = g L ++ F (L.drop s)) (L P : List α) (fuel i : Nat)
    (hn : n = P.length + L.length) (hf : L.length ≤ fuel) (hi : P.length ≤ i) (hL : L ≠ [] → i = P.length) :
    loop fuel (P ++ L) i = P ++ F L := by
  -- `runs.induct s`: from `L.drop s` to `L`
  induction L using runs.induct s generalizing P fuel i with
  | case1 L h =>
    cases h.resolve_right (Nat.ne_of_gt hs)
    rw [F_nil]
    cases fuel with
    | zero => exact loop_zero _ _
    | succ f => rw [loop_succ, if_neg (Nat.not_lt.mpr (hn ▸ hi))]
  | case2 L h ih =>
    have hne : L ≠ [] := fun e => h (Or.inl e)
    have hpos := List.length_pos_iff.mpr hne
    cases hL hne
    obtain ⟨f, rfl⟩ := Nat.exists_eq_add_one.mpr (Nat.lt_of_lt_of_le hpos hf)
    have hlen : (P ++ g L).length = P.length + (L.take s).length := by rw [List.length_append, hg]
    rw [loop_succ, if_pos (hn ▸ Nat.lt_add_of_pos_right hpos), hstep P L hne hn, F_eq L hne, ← List.append_assoc]
    refine (ih (P ++ g L) f (P.length + s) ?_ ?_ ?_ ?_).trans (List.append_assoc _ _ _)
    · rw [hlen, Nat.add_assoc, ← List.length_append, List.take_append_drop]; exact hn
    · rw [List.length_drop]; exact Nat.le_of_lt_succ (Nat.lt_of_lt_of_le (Nat.sub_lt hpos hs) hf)
    · rw [hlen]; exact Nat.add_le_add_left (List.length_take_le s L) _
    · intro hd
      rw [hlen, List.length_take_of_le (Nat.le_of_not_le fun hle => hd (List.drop_eq_nil_of_le hle))]

theorem runsA_spec (run : Nat) (hr : 0 < run) (arr : List α) :
    runsA le run arr.length arr.length arr 0 = runs le run arr := by
  refine blockLoop_spec (loop := runsA le run arr.length) (g := fun L => insertRun le (L.take run)) hr
    (fun _ _ => rfl) (fun _ _ _ => rfl) ?_ (fun L => insertRun_length le _)
    (runs_nil le run) (fun L => runs_eq le run L hr) arr [] arr.length 0 (Nat.zero_add _).symm (Nat.le_refl _)
    (Nat.le_refl _) (fun _ => rfl)
  intro P L hL hn
  have hpos := List.length_pos_iff.mpr hL
  have hE := clamp_succ (a := P.length + run) (b := arr.length) (Nat.add_pos_right _ hr)
    (by rw [hn]; exact Nat.add_pos_right _ hpos)
  generalize (if P.length + run - 1 < arr.length - 1 then P.length + run - 1 else arr.length - 1) = E at hE
  rw [hn, Nat.add_min_add_left, ← List.length_take] at hE
  conv => lhs; rw [← List.take_append_drop run L]
  exact insertionSortByA_append le P _ _ P.length E rfl hE (by rw [List.length_take] at hE; omega)

theorem sweepA_spec (w : Nat) (hw : 0 < w) (arr : List α) :
    sweepA le w arr.length arr.length arr 0 = mergePass le w arr := by
  have hw2 : 0 < 2 * w := Nat.mul_pos (by decide) hw
  refine blockLoop_spec (loop := sweepA le w arr.length) (s := 2 * w)
    (g := fun L => if w < L.length then merge le (L.take w) ((L.drop w).take w) else L.take w) hw2
    (fun _ _ => rfl) (fun _ _ _ => rfl) ?_ (fun L => (mergePass_head_perm le w L).length_eq)
    (mergePass_nil le w) (fun L => mergePass_eq le w L hw) arr [] arr.length 0 (Nat.zero_add _).symm (Nat.le_refl _)
    (Nat.le_refl _) (fun _ => rfl)
  intro P L hL hn
  have hE := clamp_succ (a := P.length + 2 * w) (b := arr.length) (Nat.add_pos_right _ hw2)
    (by rw [hn]; exact Nat.add_pos_right _ (List.length_pos_iff.mpr hL))
  generalize (if P.length + 2 * w - 1 < arr.length - 1 then P.length + 2 * w - 1 else arr.length - 1) = E at hE
  rw [hn, Nat.add_min_add_left] at hE
  generalize hmid : P.length + w - 1 = mid
  have hm : mid + 1 = P.length + w := hmid ▸ Nat.sub_add_cancel (Nat.add_pos_right _ hw)
  show (if mid < E then mergeByA le (P ++ L) P.length mid E else P ++ L) = _
  -- merged if there is a second run (`mid < right`), else left as it is
  by_cases hc : w < L.length
  · have h1 : (L.take w).length = w := List.length_take_of_le (Nat.le_of_lt hc)
    have h2 := congrArg List.length (take_take_drop w L)
    rw [List.length_append, h1, List.length_take (i := 2 * w)] at h2
    have hR : 0 < ((L.drop w).take w).length := by
      rw [List.length_take, List.length_drop]; exact Nat.lt_min.mpr ⟨hw, Nat.sub_pos_of_lt hc⟩
    rw [← h2] at hE
    have := mergeByA_append le P (L.take w) ((L.drop w).take w) (L.drop (2 * w)) P.length mid E rfl
      (h1.symm ▸ hm) (by rw [hm, Nat.add_assoc]; exact hE) (List.ne_nil_of_length_pos (h1.symm ▸ hw))
    rw [← List.append_assoc (L.take w), take_take_drop, List.take_append_drop] at this
    rw [if_pos (by omega), if_pos hc, this]
  · have h2 : L.length ≤ 2 * w := Nat.le_trans (Nat.le_of_not_lt hc) (Nat.le_mul_of_pos_left w (by decide))
    rw [Nat.min_eq_right h2] at hE
    rw [if_neg (by omega), if_neg hc, List.take_of_length_le (Nat.le_of_not_lt hc), List.drop_of_length_le h2,
      List.append_nil]

theorem sizesA_spec (n w : Nat) (l : List α) (fuel : Nat) (hw : 0 < w) (hl : l.length = n)
    (hf : n ≤ w + fuel) : sizesA le n fuel l w = mergeLoop le n w l := by
  fun_induction mergeLoop le n w l generalizing fuel with
  | case1 w l h ih =>
    obtain ⟨f, rfl⟩ := Nat.exists_eq_add_one.mpr (Nat.lt_of_add_lt_add_left (Nat.lt_of_lt_of_le h.1 hf))
    subst hl
    rw [sizesA, if_pos h.1, sweepA_spec le w hw l, Nat.mul_comm]
    exact ih f (Nat.mul_pos (by decide) hw) (mergePass_length le w l) (by omega)
  | case2 w l h =>
    cases fuel with
    | zero => rfl
    | succ f => rw [sizesA, if_neg fun hlt => h ⟨hlt, hw⟩]

theorem sortByA_eq (arr : List α) : sortByA le arr = sortBy le arr := by
  have hlen : (runs le 32 arr).length = arr.length := (runs_perm le 32 arr).length_eq
  rw [sortByA, sortBy, runsA_spec le 32 (by decide) arr]
  exact sizesA_spec le arr.length 32 _ arr.length (by decide) hlen (Nat.le_add_left _ _)

end Abra.Lib
