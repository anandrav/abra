/-! Two facts about `l[i]?` that core leaves to `getElem?_eq_some_iff` and `getElem?_append_right`, stated in the
form the array-loop and table proofs use them: an index is tied to a segment length by a hypothesis, never computed. -/
namespace Abra

theorem getElem?_lt {α : Type} {l : List α} {i : Nat} {x : α} (h : l[i]? = some x) : i < l.length :=
  (List.getElem?_eq_some_iff.mp h).1

theorem getElem?_at_length {α : Type} {X Y : List α} {b : α} {k : Nat} (h : k = X.length) :
    (X ++ b :: Y)[k]? = some b := by
  subst h
  rw [List.getElem?_append_right (Nat.le_refl _), Nat.sub_self]
  rfl

end Abra
