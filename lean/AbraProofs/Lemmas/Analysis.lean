import AbraModel.Analysis
/-! Lemmas about the analysis tables: what `usesE` collects (against an independent inductive reading of
"occurs free"), that every key the translator looks up is collected, that the two loop contexts agree, and that the
checker's captured-assignment rule leaves a function assigning only its own variables. -/
namespace Abra.Analysis

/- `id` is read in the body, possibly only inside nested lambdas/tasks, and is not bound on the way
   (by a parameter or a local of a nested function).  This is the specification side: it does not mention
   `usesE`. -/
mutual
inductive FreeE : Nat → RExpr → Prop where
  | var (id : Nat) : FreeE id (.var id)
  | op {id es} : FreeEs id es → FreeE id (.op es)
  | ite_c {id c t f} : FreeE id c → FreeE id (.ite c t f)
  | ite_t {id c t f} : FreeE id t → FreeE id (.ite c t f)
  | ite_f {id c t f} : FreeE id f → FreeE id (.ite c t f)
  | block {id ss} : FreeSs id ss → FreeE id (.block ss)
  | match_s {id s arms} : FreeE id s → FreeE id (.matchE s arms)
  | match_a {id s arms} : FreeArms id arms → FreeE id (.matchE s arms)
  | lam {id ps body} : FreeE id body → ¬ id ∈ ps → ¬ id ∈ localsE body → FreeE id (.lam ps body)
  | task {id body} : FreeE id body → ¬ id ∈ localsE body → FreeE id (.task body)
inductive FreeS : Nat → RStmt → Prop where
  | let_ {id bs e} : FreeE id e → FreeS id (.let_ bs e)
  | assignVar {id x e} : FreeE id e → FreeS id (.assignVar x e)
  | assignPlace_t {id ts t e} : FreeE id t → FreeS id (.assignPlace ts t e)
  | assignPlace_e {id ts t e} : FreeE id e → FreeS id (.assignPlace ts t e)
  | expr {id e} : FreeE id e → FreeS id (.expr e)
  | while_c {id c body} : FreeE id c → FreeS id (.while_ c body)
  | while_b {id c body} : FreeSs id body → FreeS id (.while_ c body)
  | for_it {id bs it body} : FreeE id it → FreeS id (.for_ bs it body)
  | for_b {id bs it body} : FreeSs id body → FreeS id (.for_ bs it body)
  | ret {id e} : FreeE id e → FreeS id (.ret e)
inductive FreeSs : Nat → RStmts → Prop where
  | head {id s r} : FreeS id s → FreeSs id (.cons s r)
  | tail {id s r} : FreeSs id r → FreeSs id (.cons s r)
inductive FreeEs : Nat → RExprs → Prop where
  | head {id e r} : FreeE id e → FreeEs id (.cons e r)
  | tail {id e r} : FreeEs id r → FreeEs id (.cons e r)
inductive FreeArms : Nat → RArms → Prop where
  | head {id bs body r} : FreeE id body → FreeArms id (.cons bs body r)
  | tail {id bs body r} : FreeArms id r → FreeArms id (.cons bs body r)
end

/- membership in the two filters of the model: `capturesOf ps body` = `usesE (.lam ps body)` removes locals and
   parameters, `usesE (.task body)` removes locals -/
theorem mem_filter_not {l a b : List Nat} {i : Nat} :
    i ∈ l.filter (fun i => !a.contains i && !b.contains i) ↔ i ∈ l ∧ ¬ i ∈ a ∧ ¬ i ∈ b := by
  simp [List.mem_filter]

theorem mem_filter_not1 {l a : List Nat} {i : Nat} :
    i ∈ l.filter (fun i => !a.contains i) ↔ i ∈ l ∧ ¬ i ∈ a := by
  simp [List.mem_filter]

/-! The analyses compute on constructors: `lookupsE (.ite c t f)` *is* `lookupsE c ++ lookupsE t ++ lookupsE f`, and so
on for each of them.  A case of the inductions below is therefore the matching fact about lists or booleans, applied to
the children; the cases written out are those where something happens (binders, assignments, loops, function
boundaries). -/

theorem mem_append_iff {i : Nat} {l₁ l₂ : List Nat} {p q : Prop} (h₁ : i ∈ l₁ ↔ p) (h₂ : i ∈ l₂ ↔ q) :
    i ∈ l₁ ++ l₂ ↔ p ∨ q :=
  List.mem_append.trans (or_congr h₁ h₂)

/- `usesE` is an append where `FreeE` has one constructor per child; a function boundary filters where `FreeE.lam`
   and `FreeE.task` have side conditions -/
mutual
theorem usesE_iff : ∀ (e : RExpr) (id : Nat), id ∈ usesE e ↔ FreeE id e
  | .lit, _ => ⟨nofun, fun h => by cases h⟩
  | .var _, _ => ⟨fun h => List.mem_singleton.1 h ▸ .var _, fun h => by cases h; exact List.mem_singleton.2 rfl⟩
  | .op es, id => (usesEs_iff es id).trans ⟨.op, fun h => by cases h; assumption⟩
  | .ite c t f, id =>
    (mem_append_iff (mem_append_iff (usesE_iff c id) (usesE_iff t id)) (usesE_iff f id)).trans
      ⟨(·.elim (·.elim .ite_c .ite_t) .ite_f), fun h => by
        cases h with
        | ite_c h => exact .inl (.inl h)
        | ite_t h => exact .inl (.inr h)
        | ite_f h => exact .inr h⟩
  | .block ss, id => (usesSs_iff ss id).trans ⟨.block, fun h => by cases h; assumption⟩
  | .matchE s arms, id =>
    (mem_append_iff (usesE_iff s id) (usesArms_iff arms id)).trans
      ⟨(·.elim .match_s .match_a), fun h => by cases h with | match_s h => exact .inl h | match_a h => exact .inr h⟩
  | .lam _ body, id =>
    (mem_filter_not.trans (and_congr_left' (usesE_iff body id))).trans
      ⟨fun ⟨h, hl, hp⟩ => .lam h hp hl, fun h => by cases h with | lam h hp hl => exact ⟨h, hl, hp⟩⟩
  | .task body, id =>
    (mem_filter_not1.trans (and_congr_left' (usesE_iff body id))).trans
      ⟨fun ⟨h, hl⟩ => .task h hl, fun h => by cases h with | task h hl => exact ⟨h, hl⟩⟩

theorem usesS_iff : ∀ (s : RStmt) (id : Nat), id ∈ usesS s ↔ FreeS id s
  | .let_ _ e, id => (usesE_iff e id).trans ⟨.let_, fun h => by cases h; assumption⟩
  | .assignVar _ e, id => (usesE_iff e id).trans ⟨.assignVar, fun h => by cases h; assumption⟩
  | .assignPlace _ t e, id =>
    (mem_append_iff (usesE_iff t id) (usesE_iff e id)).trans
      ⟨(·.elim .assignPlace_t .assignPlace_e), fun h => by
        cases h with | assignPlace_t h => exact .inl h | assignPlace_e h => exact .inr h⟩
  | .expr e, id => (usesE_iff e id).trans ⟨.expr, fun h => by cases h; assumption⟩
  | .while_ c body, id =>
    (mem_append_iff (usesE_iff c id) (usesSs_iff body id)).trans
      ⟨(·.elim .while_c .while_b), fun h => by cases h with | while_c h => exact .inl h | while_b h => exact .inr h⟩
  | .for_ _ it body, id =>
    (mem_append_iff (usesE_iff it id) (usesSs_iff body id)).trans
      ⟨(·.elim .for_it .for_b), fun h => by cases h with | for_it h => exact .inl h | for_b h => exact .inr h⟩
  | .break_, _ => ⟨nofun, fun h => by cases h⟩
  | .continue_, _ => ⟨nofun, fun h => by cases h⟩
  | .ret e, id => (usesE_iff e id).trans ⟨.ret, fun h => by cases h; assumption⟩

theorem usesSs_iff : ∀ (ss : RStmts) (id : Nat), id ∈ usesSs ss ↔ FreeSs id ss
  | .nil, _ => ⟨nofun, fun h => by cases h⟩
  | .cons s r, id =>
    (mem_append_iff (usesS_iff s id) (usesSs_iff r id)).trans
      ⟨(·.elim .head .tail), fun h => by cases h with | head h => exact .inl h | tail h => exact .inr h⟩

theorem usesEs_iff : ∀ (es : RExprs) (id : Nat), id ∈ usesEs es ↔ FreeEs id es
  | .nil, _ => ⟨nofun, fun h => by cases h⟩
  | .cons e r, id =>
    (mem_append_iff (usesE_iff e id) (usesEs_iff r id)).trans
      ⟨(·.elim .head .tail), fun h => by cases h with | head h => exact .inl h | tail h => exact .inr h⟩

theorem usesArms_iff : ∀ (arms : RArms) (id : Nat), id ∈ usesArms arms ↔ FreeArms id arms
  | .nil, _ => ⟨nofun, fun h => by cases h⟩
  | .cons _ body r, id =>
    (mem_append_iff (usesE_iff body id) (usesArms_iff r id)).trans
      ⟨(·.elim .head .tail), fun h => by cases h with | head h => exact .inl h | tail h => exact .inr h⟩
end

theorem keys_append {l₁ l₂ u₁ u₂ c₁ c₂ a₁ a₂ : List Nat}
    (h₁ : ∀ k, k ∈ l₁ → k ∈ u₁ ∨ k ∈ c₁ ∨ k ∈ a₁) (h₂ : ∀ k, k ∈ l₂ → k ∈ u₂ ∨ k ∈ c₂ ∨ k ∈ a₂) (k : Nat)
    (h : k ∈ l₁ ++ l₂) : k ∈ u₁ ++ u₂ ∨ k ∈ c₁ ++ c₂ ∨ k ∈ a₁ ++ a₂ :=
  (List.mem_append.1 h).elim
    (fun h => (h₁ k h).imp (List.mem_append_left _) (.imp (List.mem_append_left _) (List.mem_append_left _)))
    (fun h => (h₂ k h).imp (List.mem_append_right _) (.imp (List.mem_append_right _) (List.mem_append_right _)))

/-- pattern binders and hidden temporaries, as a child of their own in the shape `keys_append` composes: looked up,
    locals, and nothing (`[]`) among the uses and the assigned variables -/
theorem keys_binders (bs : List Nat) (k : Nat) (h : k ∈ bs) : k ∈ ([] : List Nat) ∨ k ∈ bs ∨ k ∈ ([] : List Nat) :=
  .inr (.inl h)

/-- the translator looks the binders up after the bound expression, `collect_locals` lists them first -/
theorem keys_swap {l₁ l₂ : List Nat} {p : Nat → Prop} (h : ∀ k, k ∈ l₂ ++ l₁ → p k) (k : Nat) (hk : k ∈ l₁ ++ l₂) : p k :=
  h k (List.mem_append.2 (List.mem_append.1 hk).symm)

mutual
theorem lookupsE_sub : ∀ (e : RExpr) (k : Nat), k ∈ lookupsE e → k ∈ usesE e ∨ k ∈ localsE e ∨ k ∈ assignedE e
  | .lit, _ => nofun
  | .var _, _ => .inl
  | .op es, k => lookupsEs_sub es k
  | .ite c t f, k => keys_append (keys_append (lookupsE_sub c) (lookupsE_sub t)) (lookupsE_sub f) k
  | .block ss, k => lookupsSs_sub ss k
  | .matchE s arms, k => keys_append (lookupsE_sub s) (lookupsArms_sub arms) k
  -- the captures loaded when a nested function is created are what `usesE` collects for it (for a task, a subset)
  | .lam _ _, _ => .inl
  | .task _, _ => fun h => .inl (mem_filter_not1.2 ⟨(mem_filter_not.1 h).1, (mem_filter_not.1 h).2.1⟩)

theorem lookupsS_sub : ∀ (s : RStmt) (k : Nat), k ∈ lookupsS s → k ∈ usesS s ∨ k ∈ localsS s ∨ k ∈ assignedS s
  | .let_ bs e, k => keys_swap (keys_append (keys_binders bs) (lookupsE_sub e)) k
  | .assignVar x e, k => keys_append (l₁ := [x]) (u₁ := []) (c₁ := []) (fun _ h => .inr (.inr h)) (lookupsE_sub e) k
  | .assignPlace ts t e, k => fun h =>
    -- the same keys, the right-hand side looked up before the target
    have all := keys_append (keys_append (keys_binders ts) (lookupsE_sub t)) (lookupsE_sub e) k
    (List.mem_append.1 h).elim
      (fun h => (List.mem_append.1 h).elim (fun h => all (List.mem_append_left _ (List.mem_append_left _ h)))
        (fun h => all (List.mem_append_right _ h)))
      (fun h => all (List.mem_append_left _ (List.mem_append_right _ h)))
  | .expr e, k | .ret e, k => lookupsE_sub e k
  | .while_ c body, k => keys_append (lookupsE_sub c) (lookupsSs_sub body) k
  | .for_ bs it body, k =>
    keys_append (keys_swap (keys_append (keys_binders bs) (lookupsE_sub it))) (lookupsSs_sub body) k
  | .break_, _ | .continue_, _ => nofun

theorem lookupsSs_sub : ∀ (ss : RStmts) (k : Nat), k ∈ lookupsSs ss → k ∈ usesSs ss ∨ k ∈ localsSs ss ∨ k ∈ assignedSs ss
  | .nil, _ => nofun
  | .cons s r, k => keys_append (lookupsS_sub s) (lookupsSs_sub r) k

theorem lookupsEs_sub : ∀ (es : RExprs) (k : Nat), k ∈ lookupsEs es → k ∈ usesEs es ∨ k ∈ localsEs es ∨ k ∈ assignedEs es
  | .nil, _ => nofun
  | .cons e r, k => keys_append (lookupsE_sub e) (lookupsEs_sub r) k

theorem lookupsArms_sub : ∀ (arms : RArms) (k : Nat),
    k ∈ lookupsArms arms → k ∈ usesArms arms ∨ k ∈ localsArms arms ∨ k ∈ assignedArms arms
  | .nil, _ => nofun
  | .cons bs body r, k => keys_append (keys_append (keys_binders bs) (lookupsE_sub body)) (lookupsArms_sub r) k
end

theorem and_imp_and {a b a' b' : Bool} (h₁ : a = true → a' = true) (h₂ : b = true → b' = true)
    (h : (a && b) = true) : (a' && b') = true :=
  Bool.and_eq_true_iff.2 ⟨h₁ (Bool.and_eq_true_iff.1 h).1, h₂ (Bool.and_eq_true_iff.1 h).2⟩

mutual
theorem loops_agreeE : ∀ (e : RExpr) (b : Bool) (d : Nat), (b = true → 0 < d) → checkerLoopsE b e = true →
    codegenLoopsE d e = true
  | .lit, _, _, _ | .var _, _, _, _ => id
  | .op es, b, d, hb => loops_agreeEs es b d hb
  | .ite c t f, b, d, hb =>
    and_imp_and (and_imp_and (loops_agreeE c b d hb) (loops_agreeE t b d hb)) (loops_agreeE f b d hb)
  | .block ss, b, d, hb => loops_agreeSs ss b d hb
  | .matchE s arms, b, d, hb => and_imp_and (loops_agreeE s b d hb) (loops_agreeArms arms b d hb)
  -- a function boundary: `None` on the checker's stack, an empty stack in the code generator
  | .lam _ body, _, _, _ | .task body, _, _, _ => loops_agreeE body false 0 nofun

theorem loops_agreeS : ∀ (s : RStmt) (b : Bool) (d : Nat), (b = true → 0 < d) → checkerLoopsS b s = true →
    codegenLoopsS d s = true
  | .let_ _ e, b, d, hb | .assignVar _ e, b, d, hb | .expr e, b, d, hb | .ret e, b, d, hb => loops_agreeE e b d hb
  | .assignPlace _ t e, b, d, hb => and_imp_and (loops_agreeE t b d hb) (loops_agreeE e b d hb)
  | .while_ c body, b, d, hb | .for_ _ c body, b, d, hb =>
    and_imp_and (loops_agreeE c b d hb) (loops_agreeSs body true (d + 1) fun _ => d.succ_pos)
  | .break_, _, _, hb | .continue_, _, _, hb => fun h => decide_eq_true (hb h)

theorem loops_agreeSs : ∀ (ss : RStmts) (b : Bool) (d : Nat), (b = true → 0 < d) → checkerLoopsSs b ss = true →
    codegenLoopsSs d ss = true
  | .nil, _, _, _ => id
  | .cons s r, b, d, hb => and_imp_and (loops_agreeS s b d hb) (loops_agreeSs r b d hb)

theorem loops_agreeEs : ∀ (es : RExprs) (b : Bool) (d : Nat), (b = true → 0 < d) → checkerLoopsEs b es = true →
    codegenLoopsEs d es = true
  | .nil, _, _, _ => id
  | .cons e r, b, d, hb => and_imp_and (loops_agreeE e b d hb) (loops_agreeEs r b d hb)

theorem loops_agreeArms : ∀ (arms : RArms) (b : Bool) (d : Nat), (b = true → 0 < d) → checkerLoopsArms b arms = true →
    codegenLoopsArms d arms = true
  | .nil, _, _, _ => id
  | .cons _ body r, b, d, hb => and_imp_and (loops_agreeE body b d hb) (loops_agreeArms r b d hb)
end

theorem map_fst_zipIdx_map {α β : Type} (l : List α) (f : Nat → β) (k : Nat) :
    ((l.zipIdx k).map fun (p : α × Nat) => (p.1, f p.2)).map Prod.fst = l := by
  induction l generalizing k with
  | nil => rfl
  | cons a r ih => simp [List.zipIdx_cons, ih]

theorem tableKeys_eq (ps : List Nat) (body : RExpr) :
    tableKeys ps body = ps.reverse ++ capturesOf ps body ++ localsE body := by
  unfold tableKeys offsetTable
  simp only [List.map_append]
  have h1 := map_fst_zipIdx_map ps.reverse (fun i => -(i : Int) - 1) 0
  have h2 := map_fst_zipIdx_map (capturesOf ps body) (fun i => (i : Int)) 0
  have h3 := map_fst_zipIdx_map (localsE body) (fun i => ((i + (capturesOf ps body).length : Nat) : Int)) 0
  rw [h1, h2, h3]

theorem own_append {o l₁ l₂ : List Nat} {b₁ b₂ : Bool} (h₁ : b₁ = true → ∀ x ∈ l₁, x ∈ o)
    (h₂ : b₂ = true → ∀ x ∈ l₂, x ∈ o) (h : (b₁ && b₂) = true) : ∀ x ∈ l₁ ++ l₂, x ∈ o :=
  fun x hx => (List.mem_append.1 hx).elim (h₁ (Bool.and_eq_true_iff.1 h).1 x) (h₂ (Bool.and_eq_true_iff.1 h).2 x)

/-- the cases without an assignment, in the shape of a case (`check = true → …`): the check plays no part -/
theorem own_nil {o : List Nat} {b : Bool} (_ : b = true) : ∀ x ∈ ([] : List Nat), x ∈ o :=
  nofun

mutual
theorem assignedE_own : ∀ (e : RExpr) (o : List Nat), checkerAssignE (some o) e = true → ∀ x ∈ assignedE e, x ∈ o
  -- a nested function's assignments are checked against its own binders and are none of this function's
  | .lit, _ | .var _, _ | .lam _ _, _ | .task _, _ => own_nil
  | .op es, o => assignedEs_own es o
  | .ite c t f, o => own_append (own_append (assignedE_own c o) (assignedE_own t o)) (assignedE_own f o)
  | .block ss, o => assignedSs_own ss o
  | .matchE s arms, o => own_append (assignedE_own s o) (assignedArms_own arms o)

theorem assignedS_own : ∀ (s : RStmt) (o : List Nat), checkerAssignS (some o) s = true → ∀ x ∈ assignedS s, x ∈ o
  | .let_ _ e, o | .expr e, o | .ret e, o => assignedE_own e o
  -- the rule itself: `o.contains id`
  | .assignVar id e, o => own_append (l₁ := [id]) (fun h _ hx => List.mem_singleton.1 hx ▸ List.contains_iff_mem.1 h)
      (assignedE_own e o)
  | .assignPlace _ t e, o => own_append (assignedE_own t o) (assignedE_own e o)
  | .while_ c body, o | .for_ _ c body, o => own_append (assignedE_own c o) (assignedSs_own body o)
  | .break_, _ | .continue_, _ => own_nil

theorem assignedSs_own : ∀ (ss : RStmts) (o : List Nat), checkerAssignSs (some o) ss = true → ∀ x ∈ assignedSs ss, x ∈ o
  | .nil, _ => own_nil
  | .cons s r, o => own_append (assignedS_own s o) (assignedSs_own r o)

theorem assignedEs_own : ∀ (es : RExprs) (o : List Nat), checkerAssignEs (some o) es = true → ∀ x ∈ assignedEs es, x ∈ o
  | .nil, _ => own_nil
  | .cons e r, o => own_append (assignedE_own e o) (assignedEs_own r o)

theorem assignedArms_own : ∀ (arms : RArms) (o : List Nat), checkerAssignArms (some o) arms = true →
    ∀ x ∈ assignedArms arms, x ∈ o
  | .nil, _ => own_nil
  | .cons _ body r, o => own_append (assignedE_own body o) (assignedArms_own r o)
end

end Abra.Analysis
