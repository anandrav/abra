import AbraModel.Marshal
/-!
Helper lemmas for C36: the encoding function `enc` (what one host value looks like as one VM value),
`toVm` pushes exactly `enc`, `fromVm` reads `enc` back.
-/
namespace Abra.Marshal

/-- `g` on every element, failing as soon as one fails: what `enc` does with the elements of an array -/
def mapOpt {β γ : Type} (g : β → Option γ) : List β → Option (List γ)
  | [] => some []
  | v :: vs =>
    match g v, mapOpt g vs with
    | some x, some xs => some (x :: xs)
    | _, _ => none

mutual
/-- the VM value a host value of a given type is marshalled to -/
def enc : Ty → HV → Option VV
  | .int, .int n => some (.int n)
  | .float, .float b => some (.float b)
  | .bool, .bool b => some (.bool b)
  | .str, .str x => some (.str x)
  | .unit, .unit => some (.int 0)
  | .opt t, .some v => (enc t v).map (VV.variant 0)
  | .opt _, .none => some (.variant 1 (.int 0))
  | .res t _, .ok v => (enc t v).map (VV.variant 0)
  | .res _ e, .err v => (enc e v).map (VV.variant 1)
  | .arr t, .arr vs => (mapOpt (enc t) vs).map VV.arr
  | .tup ts, .tup vs => (encElems ts vs).map VV.strct
  | .strct ts, .tup vs => (encFields ts vs).map VV.strct
  | .enm vars, .variant tag p => encVariant vars tag tag p
  | _, _ => none
def encElems : TyList → List HV → Option (List VV)
  | .nil, [] => some []
  | .cons t ts, v :: vs =>
    match enc t v, encElems ts vs with
    | some x, some xs => some (x :: xs)
    | _, _ => none
  | _, _ => none
def encFields : TyList → List HV → Option (List VV)
  | .nil, [] => some []
  | .cons .unit ts, .unit :: vs => encFields ts vs
  | .cons t ts, v :: vs =>
    match enc t v, encFields ts vs with
    | some x, some xs => some (x :: xs)
    | _, _ => none
  | _, _ => none
def encVariant : VarList → Nat → Nat → Option HV → Option VV
  | .bare _, 0, tag, .none => some (.variant tag (.int 0))
  | .payload t _, 0, tag, .some v => (enc t v).map (VV.variant tag)
  | .bare rest, k + 1, tag, p => encVariant rest k tag p
  | .payload _ rest, k + 1, tag, p => encVariant rest k tag p
  | _, _, _, _ => none
end

def consOpt {γ : Type} (a : Option γ) (b : Option (List γ)) : Option (List γ) :=
  a.bind fun x => b.map (x :: ·)

theorem consOpt_eq_some {γ : Type} {a : Option γ} {b : Option (List γ)} {ys : List γ}
    (h : consOpt a b = some ys) : ∃ x xs, a = some x ∧ b = some xs ∧ ys = x :: xs := by
  match a, b, h with
  | some x, some xs, rfl => exact ⟨x, xs, rfl, rfl, rfl⟩

theorem consOpt_isSome {γ : Type} (a : Option γ) (b : Option (List γ)) :
    (consOpt a b).isSome = (a.isSome && b.isSome) := by
  cases a <;> cases b <;> rfl

/- The marshalling functions continue through `match r with | some .. => k .. | none => none`.
   The next lemmas push a known `r` through such a step.  They are applied with `exact`, which finds
   the step of the function at hand by unfolding its definition; for that the match of the lemma must
   not carry the hypothesis about `r` along (hypothesis right of the colon, or `generalizing := false`). -/

theorem read_some {γ : Type} {o : Option (HV × Stack)} {v : HV} {s : Stack}
    {k : HV → Stack → Option γ} : o = some (v, s) →
    (match o with
      | some (v, s') => k v s'
      | none => none) = k v s := by
  rintro rfl; rfl

theorem read_someList {γ : Type} {o : Option (List HV × Stack)} {vs : List HV} {s : Stack}
    {k : List HV → Stack → Option γ} : o = some (vs, s) →
    (match o with
      | some (vs, s') => k vs s'
      | none => none) = k vs s := by
  rintro rfl; rfl

theorem push_cons {o : Option Stack} {F : Stack → Option Stack} {a : Option VV} {b : Option (List VV)}
    {s : Stack} (h1 : o = a.map (· :: s)) (h2 : ∀ s', F s' = b.map (fun xs => xs.reverse ++ s')) :
    (match (generalizing := false) o with
      | some s' => F s'
      | none => none) = (consOpt a b).map (fun xs => xs.reverse ++ s) := by
  subst h1
  cases a <;> cases b <;> simp [consOpt, h2]

theorem push_variant {o : Option Stack} {a : Option VV} {s : Stack} (h : o = a.map (· :: s))
    (tag : Nat) :
    (match (generalizing := false) o with
      | some s' => constructVariant tag s'
      | none => none) = (a.map (VV.variant tag)).map (· :: s) := by
  subst h
  cases a <;> rfl

theorem popN_append (xs : List VV) (s : Stack) : popN xs.length (xs.reverse ++ s) = some (xs, s) := by
  have h : xs.length = xs.reverse.length := List.length_reverse.symm
  rw [popN, h, if_pos (by simp), List.take_left, List.drop_left, List.reverse_reverse]

/-- the inner match is `constructStruct n` (`c = .strct`) or `constructArray n` (`c = .arr`) -/
theorem push_construct {c : List VV → VV} {o : Option Stack} {b : Option (List VV)} {s : Stack}
    {n : Nat} (h : o = b.map (fun xs => xs.reverse ++ s)) (hn : ∀ xs, b = some xs → xs.length = n) :
    (match (generalizing := false) o with
      | some s' =>
        match popN n s' with
        | some (fs, r) => some (c fs :: r)
        | none => none
      | none => none) = (b.map c).map (· :: s) := by
  subst h
  cases b with
  | none => rfl
  | some xs =>
    obtain rfl := hn xs rfl
    simp only [Option.map_some, popN_append]

theorem mapOpt_cons {β γ : Type} (g : β → Option γ) (v : β) (vs : List β) :
    mapOpt g (v :: vs) = consOpt (g v) (mapOpt g vs) := by
  rw [mapOpt]
  cases g v <;> cases mapOpt g vs <;> rfl

theorem mapOpt_some_cons {β γ : Type} {g : β → Option γ} {v : β} {vs : List β} {ys : List γ}
    (h : mapOpt g (v :: vs) = some ys) : ∃ x xs, g v = some x ∧ mapOpt g vs = some xs ∧ ys = x :: xs :=
  consOpt_eq_some (mapOpt_cons g v vs ▸ h)

theorem mapOpt_length {β γ : Type} (g : β → Option γ) : ∀ (vs : List β) (xs : List γ),
    mapOpt g vs = some xs → xs.length = vs.length
  | [], _, h => by cases h; rfl
  | _ :: vs, _, h => by
    obtain ⟨x, xs, -, h2, rfl⟩ := mapOpt_some_cons h
    exact congrArg (· + 1) (mapOpt_length g vs xs h2)

theorem pushAll_enc {f : HV → Stack → Option Stack} {g : HV → Option VV}
    (hf : ∀ v s, f v s = (g v).map (· :: s)) :
    ∀ (vs : List HV) (s : Stack), pushAll f vs s = (mapOpt g vs).map (fun xs => xs.reverse ++ s)
  | [], _ => rfl
  | v :: vs, s => mapOpt_cons g v vs ▸ push_cons (hf v s) (pushAll_enc hf vs)

theorem readN_enc {f : Stack → Option (HV × Stack)} {g : HV → Option VV}
    (hf : ∀ v x s, g v = some x → f (x :: s) = some (v, s)) :
    ∀ (vs : List HV) (xs : List VV) (s : Stack), mapOpt g vs = some xs →
      readN f xs.length (xs ++ s) = some (vs, s)
  | [], _, _, h => by cases h; rfl
  | v :: vs, _, s, h => by
    obtain ⟨x, xs, h1, h2, rfl⟩ := mapOpt_some_cons h
    exact (read_some (hf v x _ h1)).trans (read_someList (readN_enc hf vs xs s h2))

/-! Tuple elements and `#host` struct fields: a void field takes no slot, any other is handled like a
    tuple element. -/

theorem encElems_cons (t : Ty) (ts : TyList) (v : HV) (vs : List HV) :
    encElems (.cons t ts) (v :: vs) = consOpt (enc t v) (encElems ts vs) := by
  rw [encElems]
  cases enc t v <;> cases encElems ts vs <;> rfl

theorem encFields_cons {t : Ty} (ht : t ≠ .unit) (ts : TyList) (v : HV) (vs : List HV) :
    encFields (.cons t ts) (v :: vs) = consOpt (enc t v) (encFields ts vs) := by
  simp only [encFields, ht, false_imp_iff]
  cases enc t v <;> cases encFields ts vs <;> rfl

theorem encElems_length : ∀ (ts : TyList) (vs : List HV) (xs : List VV),
    encElems ts vs = some xs → xs.length = ts.length
  | .nil, [], _, h => by cases h; rfl
  | .nil, _ :: _, _, h | .cons _ _, [], _, h => by contradiction
  | .cons t ts, v :: vs, _, h => by
    obtain ⟨x, xs, -, h2, rfl⟩ := consOpt_eq_some (encElems_cons t ts v vs ▸ h)
    exact congrArg (· + 1) (encElems_length ts vs xs h2)

theorem encFields_length : ∀ (ts : TyList) (vs : List HV) (xs : List VV),
    encFields ts vs = some xs → xs.length = ts.slots
  | .nil, [], _, h => by cases h; rfl
  | .nil, _ :: _, _, h => by contradiction
  | .cons t _, [], _, h => by cases t <;> contradiction
  | .cons t ts, v :: vs, xs, h => by
    by_cases ht : t = .unit
    · subst ht
      cases v with
      | unit => exact encFields_length ts vs xs h
      | _ => contradiction
    · obtain ⟨x, xs, -, h2, rfl⟩ := consOpt_eq_some (encFields_cons ht ts v vs ▸ h)
      simp only [TyList.slots]
      exact congrArg (· + 1) (encFields_length ts vs xs h2)

mutual
theorem toVm_enc : ∀ (t : Ty) (v : HV) (s : Stack), toVm t v s = (enc t v).map (· :: s)
  | .int, v, _ | .float, v, _ | .bool, v, _ | .str, v, _ | .unit, v, _ => by cases v <;> rfl
  | .opt t, v, s => by
    cases v with
    | some v => exact push_variant (toVm_enc t v s) 0
    | _ => rfl
  | .res t e, v, s => by
    cases v with
    | ok v => exact push_variant (toVm_enc t v s) 0
    | err v => exact push_variant (toVm_enc e v s) 1
    | _ => rfl
  | .arr t, v, s => by
    cases v with
    | arr vs =>
      exact push_construct (pushAll_enc (toVm_enc t) vs s) (mapOpt_length _ vs)
    | _ => rfl
  | .tup ts, v, s => by
    cases v with
    | tup vs =>
      exact push_construct (toVmElems_enc ts vs s) (encElems_length ts vs)
    | _ => rfl
  | .strct ts, v, s => by
    cases v with
    | tup vs =>
      exact push_construct (toVmFields_enc ts vs s) (encFields_length ts vs)
    | _ => rfl
  | .enm vars, v, s => by
    cases v with
    | variant tag p => exact toVmVariant_enc vars tag tag p s
    | _ => rfl

theorem toVmElems_enc : ∀ (ts : TyList) (vs : List HV) (s : Stack),
    toVmElems ts vs s = (encElems ts vs).map (fun xs => xs.reverse ++ s)
  | .nil, [], _ | .nil, _ :: _, _ | .cons _ _, [], _ => rfl
  | .cons t ts, v :: vs, s =>
    encElems_cons t ts v vs ▸ push_cons (toVm_enc t v s) (toVmElems_enc ts vs)

theorem toVmFields_enc : ∀ (ts : TyList) (vs : List HV) (s : Stack),
    toVmFields ts vs s = (encFields ts vs).map (fun xs => xs.reverse ++ s)
  | .nil, [], _ | .nil, _ :: _, _ => rfl
  | .cons t _, [], _ => by cases t <;> rfl
  | .cons t ts, v :: vs, s => by
    by_cases ht : t = .unit
    · subst ht
      cases v with
      | unit => exact toVmFields_enc ts vs s
      | _ => rfl
    · rw [encFields_cons ht]
      simp only [toVmFields, ht, false_imp_iff]
      exact push_cons (toVm_enc t v s) (toVmFields_enc ts vs)

theorem toVmVariant_enc : ∀ (vars : VarList) (k tag : Nat) (p : Option HV) (s : Stack),
    toVmVariant vars k tag p s = (encVariant vars k tag p).map (· :: s)
  | .nil, _, _, _, _ | .bare _, 0, _, none, _ | .bare _, 0, _, some _, _
  | .payload _ _, 0, _, none, _ => rfl
  | .payload t _, 0, tag, some v, s => push_variant (toVm_enc t v s) tag
  | .bare rest, k + 1, tag, p, s | .payload _ rest, k + 1, tag, p, s =>
    toVmVariant_enc rest k tag p s
end

/-- a tag that `to_vm` wrote is never negative -/
theorem fromVm_enm (vars : VarList) (tag : Nat) (y : VV) (s : Stack) :
    fromVm (.enm vars) (.variant tag y :: s) = fromVmVariant vars tag tag (y :: s) :=
  if_neg (t := none) (Int.not_lt.2 (Int.natCast_nonneg tag))

mutual
theorem fromVm_enc : ∀ (t : Ty) (v : HV) (x : VV) (s : Stack),
    enc t v = some x → fromVm t (x :: s) = some (v, s)
  | .int, v, _, _, h | .float, v, _, _, h | .bool, v, _, _, h | .str, v, _, _, h
  | .unit, v, _, _, h => by
    cases v <;> try contradiction
    cases h; rfl
  | .opt t, v, _, s, h => by
    cases v with
    | some v =>
      obtain ⟨y, hy, rfl⟩ := Option.map_eq_some_iff.1 h
      exact read_some (fromVm_enc t v y s hy)
    | none => cases h; rfl
    | _ => contradiction
  | .res t e, v, _, s, h => by
    cases v with
    | ok v =>
      obtain ⟨y, hy, rfl⟩ := Option.map_eq_some_iff.1 h
      exact read_some (fromVm_enc t v y s hy)
    | err v =>
      obtain ⟨y, hy, rfl⟩ := Option.map_eq_some_iff.1 h
      exact read_some (fromVm_enc e v y s hy)
    | _ => contradiction
  | .arr t, v, _, s, h => by
    cases v with
    | arr vs =>
      obtain ⟨xs, hxs, rfl⟩ := Option.map_eq_some_iff.1 h
      exact read_someList (readN_enc (fromVm_enc t) vs xs s hxs)
    | _ => contradiction
  | .tup ts, v, _, s, h => by
    cases v with
    | tup vs =>
      obtain ⟨xs, hxs, rfl⟩ := Option.map_eq_some_iff.1 h
      exact read_someList (fromVmElems_enc ts vs xs s hxs)
    | _ => contradiction
  | .strct ts, v, _, s, h => by
    cases v with
    | tup vs =>
      obtain ⟨xs, hxs, rfl⟩ := Option.map_eq_some_iff.1 h
      exact read_someList (fromVmFields_enc ts vs xs s hxs)
    | _ => contradiction
  | .enm vars, v, x, s, h => by
    cases v with
    | variant tag p =>
      obtain ⟨y, rfl, hy⟩ := fromVmVariant_enc vars tag tag p x s h
      exact fromVm_enm vars tag y s ▸ hy
    | _ => contradiction

theorem fromVmElems_enc : ∀ (ts : TyList) (vs : List HV) (xs : List VV) (s : Stack),
    encElems ts vs = some xs → fromVmElems ts (xs ++ s) = some (vs, s)
  | .nil, [], _, _, h => by cases h; rfl
  | .nil, _ :: _, _, _, h | .cons _ _, [], _, _, h => by contradiction
  | .cons t ts, v :: vs, _, s, h => by
    obtain ⟨x, xs, h1, h2, rfl⟩ := consOpt_eq_some (encElems_cons t ts v vs ▸ h)
    exact (read_some (fromVm_enc t v x _ h1)).trans (read_someList (fromVmElems_enc ts vs xs s h2))

theorem fromVmFields_enc : ∀ (ts : TyList) (vs : List HV) (xs : List VV) (s : Stack),
    encFields ts vs = some xs → fromVmFields ts (xs ++ s) = some (vs, s)
  | .nil, [], _, _, h => by cases h; rfl
  | .nil, _ :: _, _, _, h => by contradiction
  | .cons t _, [], _, _, h => by cases t <;> contradiction
  | .cons t ts, v :: vs, xs, s, h => by
    by_cases ht : t = .unit
    · subst ht
      cases v with
      | unit => exact read_someList (fromVmFields_enc ts vs xs s h)
      | _ => contradiction
    · obtain ⟨x, xs, h1, h2, rfl⟩ := consOpt_eq_some (encFields_cons ht ts v vs ▸ h)
      simp only [fromVmFields]
      exact (read_some (fromVm_enc t v x _ h1)).trans (read_someList (fromVmFields_enc ts vs xs s h2))

theorem fromVmVariant_enc : ∀ (vars : VarList) (k tag : Nat) (p : Option HV) (x : VV) (s : Stack),
    encVariant vars k tag p = some x →
      ∃ y, x = .variant tag y ∧ fromVmVariant vars k tag (y :: s) = some (.variant tag p, s)
  | .nil, _, _, _, _, _, h | .bare _, 0, _, some _, _, _, h | .payload _ _, 0, _, none, _, _, h => by
    cases h
  | .bare _, 0, _, none, _, _, h => by cases h; exact ⟨_, rfl, rfl⟩
  | .payload t _, 0, tag, some v, _, s, h => by
    obtain ⟨y, hy, rfl⟩ := Option.map_eq_some_iff.1 h
    exact ⟨y, rfl, read_some (fromVm_enc t v y s hy)⟩
  | .bare rest, k + 1, tag, p, x, s, h | .payload _ rest, k + 1, tag, p, x, s, h =>
    fromVmVariant_enc rest k tag p x s h
end

end Abra.Marshal
