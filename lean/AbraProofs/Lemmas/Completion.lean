import AbraModel.Completion
/-! Lemmas for C34: the identifier slice of `completions_at` ends on char boundaries. -/
namespace Abra.Completion

theorem byteAt_lt {bs : ByteArray} {i : Nat} (h : i < bs.size) : byteAt bs i = some bs[i] := by
  simp [byteAt, h]

theorem byteAt_some {bs : ByteArray} {i : Nat} {b : UInt8} (h : byteAt bs i = some b) :
    ∃ hi : i < bs.size, bs[i] = b := by
  unfold byteAt at h
  split at h
  · rename_i hi
    exact ⟨hi, by simpa using h⟩
  · cases h

theorem scanBack_spec (bs : ByteArray) : ∀ i, i ≤ bs.size →
    ∃ a, scanBack bs i = some a ∧ a ≤ i ∧ ∀ j, a ≤ j → j < i → ∃ hj : j < bs.size, isIdentByte bs[j] = true
  | 0, _ => ⟨0, rfl, Nat.le_refl 0, fun j _ h => absurd h (Nat.not_lt_zero j)⟩
  | i + 1, h => by
    have hi : i < bs.size := h
    unfold scanBack
    rw [byteAt_lt hi]
    by_cases hb : isIdentByte bs[i] = true
    · simp only [hb, if_true]
      obtain ⟨a, ha, hle, hall⟩ := scanBack_spec bs i (Nat.le_of_lt hi)
      refine ⟨a, ha, Nat.le_succ_of_le hle, ?_⟩
      intro j h1 h2
      by_cases hji : j < i
      · exact hall j h1 hji
      · have : j = i := by omega
        subst this
        exact ⟨hi, hb⟩
    · simp only [hb]
      exact ⟨i + 1, rfl, Nat.le_refl _, fun j h1 h2 => by omega⟩

theorem completionScan_slice {bs : ByteArray} {offset a b : Nat} (h : completionScan bs offset = .slice a b) :
    b = offset - 1 ∧ a < b ∧ ∃ hb : b < bs.size, bs[b] = 46 ∧
      ∀ j, a ≤ j → j < b → ∃ hj : j < bs.size, isIdentByte bs[j] = true := by
  unfold completionScan at h
  split at h
  · rename_i hc
    obtain ⟨hi, hdot⟩ := byteAt_some hc.2
    obtain ⟨a', ha, _, hall⟩ := scanBack_spec bs (offset - 1) (Nat.le_of_lt hi)
    rw [ha] at h
    dsimp only at h
    split at h
    · cases h
    · injection h with h1 h2
      subst h1 h2
      exact ⟨rfl, by omega, hi, hdot, hall⟩
  · cases h

/-- over `Fin 256`, so that the kernel can run through all bytes -/
theorem identByte_ascii (n : Fin 256) (h : isIdentByte (UInt8.ofNat n.val) = true) :
    (UInt8.ofNat n.val) &&& 0x80 = 0 := by
  revert h
  revert n
  decide +kernel

/-- an identifier byte is ASCII, hence the first (and only) byte of a character -/
theorem identByte_first (b : UInt8) (h : isIdentByte b = true) : b.IsUTF8FirstByte := by
  have hb : b = UInt8.ofNat (⟨b.toNat, b.toNat_lt⟩ : Fin 256).val := by simp
  rw [hb] at h ⊢
  exact Or.inl (identByte_ascii _ h)

theorem dot_first : (46 : UInt8).IsUTF8FirstByte := Or.inl (by decide)

end Abra.Completion
