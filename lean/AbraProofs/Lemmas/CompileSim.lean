import AbraModel.Compile
import AbraProofs.Lemmas.VMCore
/-!
Simulation between the reference interpreter `Abra.Sem` and the VM core running the output of `compE`/`compS`/`compSs`
(fragment F0): code layout (`resolveAt`, `closeBody`, `codeAt`), machine configurations and one-instruction
lemmas, the relations between the two sides, and `Out`, the shape of every simulation statement, with the
lemmas that compose it along a code fragment.
-/
namespace Abra.Compile
open Abra.Sem Abra.VM

/-! ### layout -/

theorem mapT_mapT {α β γ : Type} {f : β → γ} {g : α → β} {k : α → γ} (h : ∀ t, f (g t) = k t) (i : Instr α) :
    mapT f (mapT g i) = mapT k i := by
  cases i <;> first | rfl | exact congrArg _ (h _)

@[simp] theorem resolveAt_length (base : Nat) (lc : Nat × Nat) (c : Code) : (resolveAt base lc c).length = c.length := by
  induction c generalizing base with
  | nil => rfl
  | cons i r ih => simp [resolveAt, ih]

theorem resolveAt_append (base : Nat) (lc : Nat × Nat) (a b : Code) :
    resolveAt base lc (a ++ b) = resolveAt base lc a ++ resolveAt (base + a.length) lc b := by
  induction a generalizing base with
  | nil => simp [resolveAt]
  | cons i r ih =>
    simp only [List.cons_append, resolveAt, List.length_cons]
    rw [ih]
    have : base + 1 + r.length = base + (r.length + 1) := by omega
    rw [this]

theorem resolveAt_single (pos : Nat) (lc : Nat × Nat) (i : Instr Target) :
    resolveAt pos lc [i] = [mapT (resolveT pos lc) i] := rfl

theorem resolveT_rel (pos : Nat) (lc : Nat × Nat) (k : Nat) : resolveT pos lc (.rel (k : Int)) = pos + 1 + k :=
  congrArg Int.toNat (show (pos : Int) + 1 + k = ((pos + 1 + k : Nat) : Int) by omega)

theorem resolveT_rel_succ (pos : Nat) (lc : Nat × Nat) (k : Nat) :
    resolveT pos lc (.rel ((k : Int) + 1)) = pos + 1 + k + 1 :=
  congrArg Int.toNat (show (pos : Int) + 1 + ((k : Int) + 1) = ((pos + 1 + k + 1 : Nat) : Int) by omega)

@[simp] theorem closeBody_length (o len i : Nat) (c : Code) : (closeBody o len i c).length = c.length := by
  induction c generalizing i with
  | nil => rfl
  | cons _ r ih => simp [closeBody, ih]

/-- closing a loop body = resolving its placeholders against the loop's own start and end (`q` = position of the
    `i`-th instruction of the body, which starts `o` after the loop start `base`) -/
theorem resolveAt_closeBody (base o len : Nat) (lc : Nat × Nat) (c : Code) (q i : Nat) (hq : q = base + o + i)
    (h : i + c.length = len) :
    resolveAt q lc (closeBody o len i c) = resolveAt q (base, base + o + len + 1) c := by
  induction c generalizing q i with
  | nil => rfl
  | cons ins r ih =>
    rw [List.length_cons] at h
    rw [closeBody, resolveAt, resolveAt, ih (q + 1) (i + 1) (by omega) (by omega)]
    congr 1
    apply mapT_mapT
    intro t
    cases t with
    | rel k => rfl
    | brk => exact congrArg Int.toNat (show (q : Int) + 1 + ((len : Int) - i) = ((base + o + len + 1 : Nat) : Int) by omega)
    | cont => exact congrArg Int.toNat (show (q : Int) + 1 + -((o : Int) + i + 1) = (base : Nat) by omega)

/-- `c` sits in `P` at position `pos` -/
def codeAt (P : Program) (pos : Nat) (c : Program) : Prop :=
  ∃ pre post, P = pre ++ c ++ post ∧ pre.length = pos

theorem codeAt_append_left {P : Program} {pos : Nat} {a b : Program} (h : codeAt P pos (a ++ b)) : codeAt P pos a := by
  obtain ⟨pre, post, hp, hl⟩ := h
  exact ⟨pre, b ++ post, by simp [hp], hl⟩

theorem codeAt_append_right {P : Program} {pos : Nat} {a b : Program} (h : codeAt P pos (a ++ b)) :
    codeAt P (pos + a.length) b := by
  obtain ⟨pre, post, hp, hl⟩ := h
  exact ⟨pre ++ a, post, by simp [hp], by simp [hl]⟩

theorem codeAt_head {P : Program} {pos : Nat} {i : Instr Nat} {r : Program} (h : codeAt P pos (i :: r)) :
    P[pos]? = some i := by
  obtain ⟨pre, post, hp, hl⟩ := h
  subst hp hl
  simp

theorem codeAt_tail {P : Program} {pos : Nat} {i : Instr Nat} {r : Program} (h : codeAt P pos (i :: r)) :
    codeAt P (pos + 1) r := by
  have := codeAt_append_right (a := [i]) (b := r) (by simpa using h)
  simpa using this

theorem codeAt_resolve_append {P : Program} {pos : Nat} {lc : Nat × Nat} {a b : Code}
    (h : codeAt P pos (resolveAt pos lc (a ++ b))) :
    codeAt P pos (resolveAt pos lc a) ∧ codeAt P (pos + a.length) (resolveAt (pos + a.length) lc b) := by
  rw [resolveAt_append] at h
  have := codeAt_append_right h
  rw [resolveAt_length] at this
  exact ⟨codeAt_append_left h, this⟩

theorem codeAt_resolve_cons {P : Program} {pos : Nat} {lc : Nat × Nat} {i : Instr Target} {c : Code}
    (h : codeAt P pos (resolveAt pos lc (i :: c))) :
    P[pos]? = some (mapT (resolveT pos lc) i) ∧ codeAt P (pos + 1) (resolveAt (pos + 1) lc c) :=
  ⟨codeAt_head h, codeAt_tail h⟩

/-! ### machine configurations -/

/-- what stays fixed while a function body runs: the program, the stack below the frame, the
    call stack and the heap (F0 allocates nothing) -/
structure World where
  P : Program
  pre : List VM.Val
  frames : List Frame
  heap : List VM.Obj

/-- frame with locals `L`, operand temporaries `T` (bottom first) -/
def World.cfg (W : World) (pc : Nat) (L T : List VM.Val) (out : List String) : State :=
  { pc := pc, stack := W.pre ++ (L ++ T), base := W.pre.length, frames := W.frames, heap := W.heap, out := out }

theorem step_pushInt (W : World) {pc : Nat} {k : Int} (h : W.P[pc]? = some (.pushInt k)) (L T out) :
    VM.step W.P (W.cfg pc L T out) = .ok (W.cfg (pc + 1) L (T ++ [.int k]) out) := by
  simp only [VM.step, World.cfg, h, List.append_assoc]

theorem step_pushBool (W : World) {pc : Nat} {b : Bool} (h : W.P[pc]? = some (.pushBool b)) (L T out) :
    VM.step W.P (W.cfg pc L T out) = .ok (W.cfg (pc + 1) L (T ++ [.bool b]) out) := by
  simp only [VM.step, World.cfg, h, List.append_assoc]

theorem step_pop (W : World) {pc : Nat} (h : W.P[pc]? = some .pop) (L T v out) :
    VM.step W.P (W.cfg pc L (T ++ [v]) out) = .ok (W.cfg (pc + 1) L T out) := by
  simp only [VM.step, World.cfg, h, pop?_append_append_snoc]

theorem step_jump (W : World) {pc t : Nat} (h : W.P[pc]? = some (.jump t)) (L T out) :
    VM.step W.P (W.cfg pc L T out) = .ok (W.cfg t L T out) := by
  simp only [VM.step, World.cfg, h]

theorem step_jumpIf (W : World) {pc t : Nat} (h : W.P[pc]? = some (.jumpIf t)) (L T b out) :
    VM.step W.P (W.cfg pc L (T ++ [.bool b]) out) = .ok (W.cfg (if b then t else pc + 1) L T out) := by
  simp only [VM.step, World.cfg, h, pop?_append_append_snoc, getBool]

theorem step_jumpIfFalse (W : World) {pc t : Nat} (h : W.P[pc]? = some (.jumpIfFalse t)) (L T b out) :
    VM.step W.P (W.cfg pc L (T ++ [.bool b]) out) = .ok (W.cfg (if b then pc + 1 else t) L T out) := by
  simp only [VM.step, World.cfg, h, pop?_append_append_snoc, getBool]

theorem step_load (W : World) {pc s : Nat} (h : W.P[pc]? = some (.load s)) (L T out) {v : VM.Val}
    (hv : L[s]? = some v) :
    VM.step W.P (W.cfg pc L T out) = .ok (W.cfg (pc + 1) L (T ++ [v]) out) := by
  have hs : s < L.length := (List.getElem?_eq_some_iff.mp hv).1
  have hidx : (W.pre ++ (L ++ T))[W.pre.length + s]? = some v := by
    rw [List.getElem?_append_right (by omega)]
    simp only [Nat.add_sub_cancel_left]
    rw [List.getElem?_append_left hs]
    exact hv
  simp only [VM.step, World.cfg, h, slotIdx_nat, hidx, List.append_assoc]

theorem step_store (W : World) {pc s : Nat} (h : W.P[pc]? = some (.store s)) (L T v out) (hs : s < L.length) :
    VM.step W.P (W.cfg pc L (T ++ [v]) out) = .ok (W.cfg (pc + 1) (L.set s v) T out) := by
  have hlen : W.pre.length + s < (W.pre ++ (L ++ T)).length := by simp; omega
  have hset : (W.pre ++ (L ++ T)).set (W.pre.length + s) v = W.pre ++ (L.set s v ++ T) := by
    rw [List.set_append_right _ _ (by omega)]
    simp only [Nat.add_sub_cancel_left]
    rw [List.set_append_left _ _ hs]
  simp only [VM.step, World.cfg, h, pop?_append_append_snoc, slotIdx_nat, hlen, hset, if_true]

theorem step_print (W : World) {pc : Nat} {t : PTy} (h : W.P[pc]? = some (.print t)) (L T v out) {txt : String}
    (hr : renderVal t v = .ok txt) :
    VM.step W.P (W.cfg pc L (T ++ [v]) out) = .ok (W.cfg (pc + 1) L T ((txt ++ "\n") :: out)) := by
  simp only [VM.step, World.cfg, h, pop?_append_append_snoc, hr]

theorem step_not (W : World) {pc : Nat} (h : W.P[pc]? = some (.not .top .top)) (L T b out) :
    VM.step W.P (W.cfg pc L (T ++ [.bool b]) out) = .ok (W.cfg (pc + 1) L (T ++ [.bool (!b)]) out) := by
  simp only [VM.step, World.cfg, h, loadReg, pop?_append_append_snoc, storeReg, getBool]
  simp only [List.append_assoc]

theorem step_intCmp (W : World) {pc : Nat} {op : CmpOp} (h : W.P[pc]? = some (.intCmp op .top .top .top)) (L T a b out) :
    VM.step W.P (W.cfg pc L (T ++ [.int a] ++ [.int b]) out)
      = .ok (W.cfg (pc + 1) L (T ++ [.bool (op.eval a b)]) out) := by
  simp only [VM.step, World.cfg, h, loadReg, pop?_append_append_snoc, storeReg, getInt]
  simp only [List.append_assoc]

theorem step_eqBool (W : World) {pc : Nat} (h : W.P[pc]? = some (.eqBool .top .top .top)) (L T a b out) :
    VM.step W.P (W.cfg pc L (T ++ [.bool a] ++ [.bool b]) out)
      = .ok (W.cfg (pc + 1) L (T ++ [.bool (a == b)]) out) := by
  simp only [VM.step, World.cfg, h, loadReg, pop?_append_append_snoc, storeReg, getBool]
  simp only [List.append_assoc]

theorem step_intOp (W : World) {pc : Nat} {op : IntOp} (h : W.P[pc]? = some (.intOp op .top .top .top)) (L T a b out) :
    VM.step W.P (W.cfg pc L (T ++ [.int a] ++ [.int b]) out) =
      match I64.apply op.toI64 a b with
      | .val c => .ok (W.cfg (pc + 1) L (T ++ [.int c]) out)
      | .overflow => .error .overflow (W.cfg (pc + 1) L T out)
      | .divZero => .error .divZero (W.cfg (pc + 1) L T out) := by
  simp only [VM.step, World.cfg, h, loadReg, pop?_append_append_snoc, storeReg, getInt]
  cases I64.apply op.toI64 a b <;> simp only [List.append_assoc]

/-- the two-way branch `J :: c1 ++ jump :: c2`, `J` the conditional jump over `c1` and the `jump`, taken when the
    tested bool is `jt`: where the two arms sit, and the two jumps -/
theorem cond_layout (W : World) (lc : Nat × Nat) (jt : Bool) {p : Nat} {c1 c2 : Code} {k : Int}
    (hk : k = c2.length)
    (h : codeAt W.P p (resolveAt p lc ((if jt then Instr.jumpIf (.rel (c1.length + 1)) else .jumpIfFalse (.rel (c1.length + 1)))
      :: (c1 ++ .jump (.rel k) :: c2)))) :
    codeAt W.P (p + 1) (resolveAt (p + 1) lc c1) ∧
    codeAt W.P (p + 1 + c1.length + 1) (resolveAt (p + 1 + c1.length + 1) lc c2) ∧
    (∀ L T out, VM.step W.P (W.cfg p L (T ++ [.bool jt]) out) = .ok (W.cfg (p + 1 + c1.length + 1) L T out)) ∧
    (∀ L T out, VM.step W.P (W.cfg p L (T ++ [.bool !jt]) out) = .ok (W.cfg (p + 1) L T out)) ∧
    (∀ L T out, VM.step W.P (W.cfg (p + 1 + c1.length) L T out) = .ok (W.cfg (p + 1 + c1.length + 1 + c2.length) L T out)) ∧
    p + 1 + c1.length + 1 + c2.length
      = p + ((if jt then Instr.jumpIf (.rel (c1.length + 1)) else .jumpIfFalse (.rel (c1.length + 1)))
        :: (c1 ++ .jump (.rel k) :: c2)).length := by
  obtain ⟨hJ, hrest⟩ := codeAt_resolve_cons h
  subst hk
  obtain ⟨h1, hr⟩ := codeAt_resolve_append hrest
  obtain ⟨hj, h2⟩ := codeAt_resolve_cons hr
  refine ⟨h1, h2, fun L T out => ?_, fun L T out => ?_, fun L T out => ?_,
    by simp only [List.length_cons, List.length_append]; omega⟩
  · cases jt
    · rw [step_jumpIfFalse W hJ, resolveT_rel_succ]; rfl
    · rw [step_jumpIf W hJ, resolveT_rel_succ]; rfl
  · cases jt
    · rw [step_jumpIfFalse W hJ]; rfl
    · rw [step_jumpIf W hJ]; rfl
  · rw [step_jump W hj, resolveT_rel]

/-- the loop `cc ++ jumpIfFalse :: body ++ [jump back]` from its conditional jump on (`p` = loop start): the body
    sits behind the jump with its placeholders resolved to the loop's start and end, and the three jumps -/
theorem loop_layout (W : World) (lc : Nat × Nat) {p : Nat} {cc cb : Code}
    (h : codeAt W.P (p + cc.length) (resolveAt (p + cc.length) lc (.jumpIfFalse (.rel (cb.length + 1)) ::
      (closeBody (cc.length + 1) cb.length 0 cb ++ [.jump (.rel (-((cc.length : Int) + 1 + cb.length + 1)))])))) :
    codeAt W.P (p + cc.length + 1) (resolveAt (p + cc.length + 1) (p, p + cc.length + 1 + cb.length + 1) cb) ∧
    (∀ L T out, VM.step W.P (W.cfg (p + cc.length) L (T ++ [.bool true]) out) = .ok (W.cfg (p + cc.length + 1) L T out)) ∧
    (∀ L T out, VM.step W.P (W.cfg (p + cc.length) L (T ++ [.bool false]) out)
      = .ok (W.cfg (p + cc.length + 1 + cb.length + 1) L T out)) ∧
    (∀ L T out, VM.step W.P (W.cfg (p + cc.length + 1 + cb.length) L T out) = .ok (W.cfg p L T out)) := by
  obtain ⟨hJ, hr⟩ := codeAt_resolve_cons h
  obtain ⟨hbody, hback⟩ := codeAt_resolve_append hr
  rw [closeBody_length] at hback
  have hb := resolveAt_closeBody p (cc.length + 1) cb.length lc cb (p + cc.length + 1) 0 rfl (Nat.zero_add _)
  have hret : resolveT (p + cc.length + 1 + cb.length) lc (.rel (-((cc.length : Int) + 1 + cb.length + 1))) = p :=
    congrArg Int.toNat (show ((p + cc.length + 1 + cb.length : Nat) : Int) + 1 + -((cc.length : Int) + 1 + cb.length + 1)
      = (p : Nat) by omega)
  refine ⟨hb ▸ hbody, fun L T out => ?_, fun L T out => ?_, fun L T out => ?_⟩
  · rw [step_jumpIfFalse W hJ]; rfl
  · rw [step_jumpIfFalse W hJ, resolveT_rel_succ]; rfl
  · rw [step_jump W (codeAt_head hback), hret]

/-! ### values, environments, outcomes -/

inductive HasTy : Sem.Val → Ty → Prop where
  | int (n : Int) : HasTy (.int n) .int
  | bool (b : Bool) : HasTy (.bool b) .bool
  | unit : HasTy .unit .unit

def encV : Sem.Val → VM.Val
  | .int n => .int n
  | .bool b => .bool b
  | _ => .int 0

/-- what an expression of type `τ` leaves on the operand stack: nothing for void -/
def pushed (v : Sem.Val) : Ty → List VM.Val
  | .unit => []
  | _ => [encV v]

theorem pushed_unit (v : Sem.Val) : pushed v .unit = [] := rfl

theorem pushed_of_hasTy {v : Sem.Val} {t : Ty} (h : HasTy v t) (hne : t ≠ .unit) : pushed v t = [encV v] := by
  cases h <;> first | rfl | exact absurd rfl hne

def encErr : Sem.Err → VM.Err
  | .overflow => .overflow
  | .divZero => .divZero
  | .oob => .oob
  | .panic => .panic

/-- the locals `L` hold the values of the environment at the slots the compiler assigned -/
inductive EnvRel (L : List VM.Val) : TEnv → Env → Prop where
  | nil : EnvRel L [] []
  | cons {Γ : TEnv} {ρ : Env} {x : String} {s : Nat} {t : Ty} {v : Sem.Val} :
      EnvRel L Γ ρ → HasTy v t → t ≠ .unit → L[s]? = some (encV v) → EnvRel L ((x, s, t) :: Γ) ((x, v) :: ρ)

/-- slots strictly decrease along the environment and stay below `n` (every `let` takes a fresh,
    larger slot) -/
def WfΓ : TEnv → Nat → Prop
  | [], _ => True
  | (_, s, _) :: Γ, n => s < n ∧ WfΓ Γ s

theorem WfΓ.mono {Γ : TEnv} {n m : Nat} (h : WfΓ Γ n) (hm : n ≤ m) : WfΓ Γ m := by
  cases Γ with
  | nil => trivial
  | cons e r => obtain ⟨x, s, t⟩ := e; exact ⟨Nat.lt_of_lt_of_le h.1 hm, h.2⟩

theorem find_cons {y : String} {s' : Nat} {t' : Ty} {Γ : TEnv} {x : String} {s : Nat} {t : Ty}
    (h : TEnv.find ((y, s', t') :: Γ) x = some (s, t)) : x = y ∧ s' = s ∧ t' = t ∨ x ≠ y ∧ Γ.find x = some (s, t) := by
  unfold TEnv.find at h
  split at h
  · cases h; exact .inl ⟨‹_›, rfl, rfl⟩
  · exact .inr ⟨‹_›, h⟩

theorem find_slot_lt {Γ : TEnv} {n : Nat} (hw : WfΓ Γ n) {x : String} {s : Nat} {t : Ty}
    (hf : Γ.find x = some (s, t)) : s < n := by
  induction Γ generalizing n with
  | nil => cases hf
  | cons e r ih =>
    obtain ⟨y, s', t'⟩ := e
    rcases find_cons hf with ⟨-, rfl, -⟩ | ⟨-, hf'⟩
    · exact hw.1
    · exact Nat.lt_trans (ih hw.2 hf') hw.1

theorem EnvRel.length_eq {L : List VM.Val} {Γ : TEnv} {ρ : Env} (h : EnvRel L Γ ρ) : Γ.length = ρ.length := by
  induction h with
  | nil => rfl
  | cons _ _ _ _ ih => simp [ih]

theorem EnvRel.lookup {L : List VM.Val} {Γ : TEnv} {ρ : Env} (h : EnvRel L Γ ρ) {x : String} {s : Nat} {t : Ty}
    (hf : Γ.find x = some (s, t)) :
    ∃ v, Sem.lookup ρ x = some v ∧ HasTy v t ∧ t ≠ .unit ∧ L[s]? = some (encV v) := by
  induction h with
  | nil => cases hf
  | @cons Γ ρ y s' t' v hr hty hne hl ih =>
    rcases find_cons hf with ⟨rfl, rfl, rfl⟩ | ⟨hxy, hf'⟩
    · exact ⟨v, if_pos rfl, hty, hne, hl⟩
    · obtain ⟨w, hw, r⟩ := ih hf'
      exact ⟨w, (if_neg hxy).trans hw, r⟩

/-- writing a slot that no binding uses keeps the relation -/
theorem EnvRel.set_fresh {L : List VM.Val} {Γ : TEnv} {ρ : Env} (h : EnvRel L Γ ρ) {k : Nat} (w : VM.Val)
    (hw : WfΓ Γ k) : EnvRel (L.set k w) Γ ρ := by
  induction h generalizing k with
  | nil => exact .nil
  | @cons Γ ρ y s' t' v hr hty hne hl ih =>
    refine .cons (ih (WfΓ.mono hw.2 (Nat.le_of_lt hw.1))) hty hne ?_
    rw [List.getElem?_set_ne (Nat.ne_of_gt hw.1)]
    exact hl

/-- assignment: the innermost binding of `x` and its slot change together -/
theorem EnvRel.update {L : List VM.Val} {Γ : TEnv} {ρ : Env} (h : EnvRel L Γ ρ) {n : Nat} (hw : WfΓ Γ n)
    {x : String} {s : Nat} {t : Ty} (hf : Γ.find x = some (s, t)) {v : Sem.Val} (hv : HasTy v t) (hs : s < L.length) :
    ∃ ρ', Sem.update ρ x v = some ρ' ∧ EnvRel (L.set s (encV v)) Γ ρ' := by
  induction h generalizing n with
  | nil => cases hf
  | @cons Γ ρ y s' t' v' hr hty hne hl ih =>
    rcases find_cons hf with ⟨rfl, rfl, rfl⟩ | ⟨hxy, hf'⟩
    · exact ⟨(x, v) :: ρ, if_pos rfl, .cons (hr.set_fresh _ hw.2) hv hne (List.getElem?_set_self hs)⟩
    · obtain ⟨ρ', hu, hr'⟩ := ih hw.2 hf'
      refine ⟨(y, v') :: ρ', by unfold Sem.update; rw [if_neg hxy, hu], .cons hr' hty hne ?_⟩
      rw [List.getElem?_set_ne (Nat.ne_of_lt (find_slot_lt hw.2 hf'))]
      exact hl

def popEnv (ρ : Env) (len : Nat) : Env := ρ.drop (ρ.length - len)

theorem popEnv_self (ρ : Env) : popEnv ρ ρ.length = ρ := by rw [popEnv, Nat.sub_self]; rfl

theorem popEnv_cons (e : String × Sem.Val) (ρ : Env) (len : Nat) (h : len ≤ ρ.length) :
    popEnv (e :: ρ) len = popEnv ρ len := by
  unfold popEnv
  have : (e :: ρ).length - len = (ρ.length - len) + 1 := by rw [List.length_cons]; omega
  rw [this]; rfl

theorem popEnv_length (ρ : Env) (len : Nat) (h : len ≤ ρ.length) : (popEnv ρ len).length = len := by
  rw [popEnv, List.length_drop]; omega

theorem popEnv_popEnv (ρ : Env) (a b : Nat) (hab : a ≤ b) (hb : b ≤ ρ.length) :
    popEnv (popEnv ρ b) a = popEnv ρ a := by
  unfold popEnv
  rw [List.drop_drop, List.length_drop]
  congr 1
  omega

theorem St.popTo_out (s : St) (len : Nat) : (s.popTo len).out = s.out := rfl

/-- the operand temporaries `T` without the `d` operands pushed since the body of the enclosing loop began:
    what `break`/`continue` leave on the stack (fix 0c43abd: they emit that many `Pop`s before the jump) -/
def dropPending (T : List VM.Val) (d : Nat) : List VM.Val := T.take (T.length - d)

@[simp] theorem dropPending_zero (T : List VM.Val) : dropPending T 0 = T := by simp [dropPending]

theorem dropPending_snoc (T : List VM.Val) (x : VM.Val) (d : Nat) : dropPending (T ++ [x]) (d + 1) = dropPending T d := by
  unfold dropPending
  have : (T ++ [x]).length - (d + 1) = T.length - d := by simp
  rw [this, List.take_append_of_le_length (by omega)]

theorem steps_pops (W : World) (lc : Nat × Nat) : ∀ (d pos : Nat) (L T : List VM.Val) (out : List String),
    d ≤ T.length → codeAt W.P pos (resolveAt pos lc (List.replicate d .pop)) →
    Steps W.P (W.cfg pos L T out) (W.cfg (pos + d) L (dropPending T d) out) := by
  intro d
  induction d with
  | zero => intro pos L T out _ _; simp only [dropPending_zero, Nat.add_zero]; exact .refl _
  | succ d ih =>
    intro pos L T out hd hcode
    rcases List.eq_nil_or_concat T with rfl | ⟨T', v, rfl⟩
    · simp at hd
    · simp only [List.concat_eq_append] at hd ⊢
      simp only [List.replicate_succ, resolveAt] at hcode
      have hd' : d ≤ T'.length := by simp at hd; omega
      have := ih (pos + 1) L T' out hd' (codeAt_tail hcode)
      rw [show pos + 1 + d = pos + (d + 1) by omega] at this
      rw [dropPending_snoc]
      exact .cons (step_pop W (codeAt_head hcode) L T' v out) this

/-- the shape shared by the three simulation statements; `d` = operands pending since the body of the enclosing
    loop began: a `break`/`continue` reaches the loop's exit/entry with exactly those dropped -/
def Out (W : World) (lc : Nat × Nat) (d : Nat) (pos endpc : Nat) (L T : List VM.Val) (out0 : List String)
    (res : Sem.Val → List VM.Val) (envOk envSig : List VM.Val → Env → Prop) (valOk : Sem.Val → Prop) :
    Res Sem.Val → Prop
  | .ok v st' => ∃ L', Steps W.P (W.cfg pos L T out0) (W.cfg endpc L' (T ++ res v) st'.out)
        ∧ envOk L' st'.env ∧ L'.length = L.length ∧ valOk v
  | .sig .brk st' => ∃ L', Steps W.P (W.cfg pos L T out0) (W.cfg lc.2 L' (dropPending T d) st'.out)
        ∧ envSig L' st'.env ∧ L'.length = L.length
  | .sig .cont st' => ∃ L', Steps W.P (W.cfg pos L T out0) (W.cfg lc.1 L' (dropPending T d) st'.out)
        ∧ envSig L' st'.env ∧ L'.length = L.length
  | .sig (.err k) st' => ∃ s1 s2, Steps W.P (W.cfg pos L T out0) s1 ∧ VM.step W.P s1 = .error (encErr k) s2
        ∧ s1.out = st'.out
  | .sig (.ret _) _ => False    -- F0 has no `return`: never produced
  | .timeout => True
  | .stuck _ => True

theorem Out.of_timeout {W lc d pos endpc L T out0 res envOk envSig valOk} :
    Out W lc d pos endpc L T out0 res envOk envSig valOk .timeout := trivial

section
variable {W : World} {lc : Nat × Nat} {d d' pos0 pos mid e : Nat} {L0 L T0 T : List VM.Val}
  {out0 out : List String} {res1 res2 : Sem.Val → List VM.Val} {ok1 ok2 sg1 sg2 : List VM.Val → Env → Prop}
  {v1 v2 : Sem.Val → Prop} {r : Res Sem.Val}

/-- One stage of a fragment.  The fragment starts at `pos0` with `d` operands pending; after `hst` the stage runs
    from `pos` to `mid` with `d'` pending, where `hT` says that a `break`/`continue` of the stage leaves what one
    of the whole fragment leaves (the operands the fragment pushed in between are counted in `d'`).  A signal of
    the stage is a signal of the fragment; on a value the continuation `hk` goes on from `mid`. -/
theorem Out.bind {f : Sem.Val → St → Res Sem.Val}
    (hst : Steps W.P (W.cfg pos0 L0 T0 out0) (W.cfg pos L T out)) (hl : L.length = L0.length)
    (hT : dropPending T d' = dropPending T0 d)
    (h : Out W lc d' pos mid L T out res1 ok1 sg1 v1 r) (hsg : ∀ L' ρ, sg1 L' ρ → sg2 L' ρ)
    (hk : ∀ v s1 L1, Steps W.P (W.cfg pos0 L0 T0 out0) (W.cfg mid L1 (T ++ res1 v) s1.out) → ok1 L1 s1.env →
      L1.length = L0.length → v1 v → Out W lc d pos0 e L0 T0 out0 res2 ok2 sg2 v2 (f v s1)) :
    Out W lc d pos0 e L0 T0 out0 res2 ok2 sg2 v2 (r.bind f) := by
  cases r with
  | ok v s => obtain ⟨L', h1, h2, h3, h4⟩ := h; exact hk v s L' (hst.trans h1) h2 (h3.trans hl) h4
  | sig g s =>
    cases g with
    | err k => obtain ⟨s1, s2, h1, h2, h3⟩ := h; exact ⟨s1, s2, hst.trans h1, h2, h3⟩
    | brk | cont => obtain ⟨L', h1, he, hl'⟩ := h; exact ⟨L', hst.trans (hT ▸ h1), hsg _ _ he, hl'.trans hl⟩
    | ret v => exact h
  | timeout => trivial
  | stuck w => trivial

/-- `Out.bind` for the first stage of a fragment -/
theorem Out.seq {f : Sem.Val → St → Res Sem.Val}
    (h : Out W lc d pos mid L T out res1 ok1 sg1 v1 r)
    (hk : ∀ v s1 L1, Steps W.P (W.cfg pos L T out) (W.cfg mid L1 (T ++ res1 v) s1.out) → ok1 L1 s1.env →
      L1.length = L.length → v1 v → Out W lc d pos e L T out res2 ok2 sg1 v2 (f v s1)) :
    Out W lc d pos e L T out res2 ok2 sg1 v2 (r.bind f) :=
  Out.bind (.refl _) rfl rfl h (fun _ _ h => h) hk

/-- `Out.bind` for a stage whose result is the fragment's result -/
theorem Out.wrap
    (hst : Steps W.P (W.cfg pos0 L0 T0 out0) (W.cfg pos L T out)) (hl : L.length = L0.length)
    (hT : dropPending T d' = dropPending T0 d)
    (h : Out W lc d' pos mid L T out res1 ok1 sg1 v1 r) (hsg : ∀ L' ρ, sg1 L' ρ → sg2 L' ρ)
    (hk : ∀ v s1 L1, Steps W.P (W.cfg pos0 L0 T0 out0) (W.cfg mid L1 (T ++ res1 v) s1.out) → ok1 L1 s1.env →
      L1.length = L0.length → v1 v → Out W lc d pos0 e L0 T0 out0 res2 ok2 sg2 v2 (.ok v s1)) :
    Out W lc d pos0 e L0 T0 out0 res2 ok2 sg2 v2 r := by
  have := Out.bind (f := .ok) hst hl hT h hsg hk
  cases r <;> exact this

theorem Out.popTo {len : Nat}
    (h : Out W lc d pos e L T out res1 (fun L' ρ => ok1 L' (popEnv ρ len)) (fun L' ρ => sg1 L' (popEnv ρ len)) v1 r) :
    Out W lc d pos e L T out res1 ok1 sg1 v1 (r.popTo len) := by
  cases r with
  | ok v s => exact h
  | sig g s => cases g <;> exact h
  | timeout => trivial
  | stuck w => trivial

end

end Abra.Compile
