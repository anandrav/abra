import AbraModel.PreludeCmp
import AbraProofs.Lemmas.F64
import AbraProofs.Lemmas.StrOps
import AbraProofs.Lemmas.ListIndex
/-!
Laws of the built-in comparisons (C24): what "lawful" means, a criterion for the scalar instances
(comparisons that read off a strict total order on a key), what the string instructions compute, and
that the tuple/array constructions of the prelude preserve lawfulness.
-/
namespace Abra.PreludeCmp

/-- `==` is an equivalence relation -/
structure LawfulEq {α : Type} (e : Eq' α) : Prop where
  refl : ∀ a, e a a = true
  symm : ∀ a b, e a b = true → e b a = true
  trans : ∀ a b c, e a b = true → e b c = true → e a c = true

/-- `<`, `<=`, `>`, `>=` are the four relations of ONE strict total order whose equivalence is `==` -/
structure LawfulOrd {α : Type} (o : Ord' α) (e : Eq' α) : Prop extends LawfulEq e where
  /-- exactly one of `a < b`, `a == b`, `b < a` -/
  tri : ∀ a b, (o.lt a b = true ∧ e a b = false ∧ o.lt b a = false) ∨
               (o.lt a b = false ∧ e a b = true ∧ o.lt b a = false) ∨
               (o.lt a b = false ∧ e a b = false ∧ o.lt b a = true)
  lt_trans : ∀ a b c, o.lt a b = true → o.lt b c = true → o.lt a c = true
  gt_def : ∀ a b, o.gt a b = o.lt b a
  le_def : ∀ a b, o.le a b = !o.lt b a
  ge_def : ∀ a b, o.ge a b = !o.lt a b

/-- equal values hash equally -/
def HashCongr {α : Type} (e : Eq' α) (h : Hash' α) : Prop := ∀ a b, e a b = true → h a = h b

namespace LawfulOrd
variable {α : Type} {o : Ord' α} {e : Eq' α} (L : LawfulOrd o e)
include L

theorem not_lt_of_eq {a b : α} (h : e a b = true) : o.lt a b = false := by
  rcases L.tri a b with t | t | t
  · rw [t.2.1] at h; cases h
  · exact t.1
  · exact t.1

theorem lt_of_lt_of_eq {a b c : α} (h1 : o.lt a b = true) (h2 : e b c = true) : o.lt a c = true := by
  rcases L.tri a c with h | h | h
  · exact h.1
  · -- a == c and b == c give a == b, contradicting a < b
    rw [L.not_lt_of_eq (L.trans a c b h.2.1 (L.symm b c h2))] at h1; cases h1
  · -- c < a < b, but c == b
    have := L.lt_trans c a b h.2.2 h1
    rw [L.not_lt_of_eq (L.symm b c h2)] at this; cases this

theorem lt_of_eq_of_lt {a b c : α} (h1 : e a b = true) (h2 : o.lt b c = true) : o.lt a c = true := by
  rcases L.tri a c with h | h | h
  · exact h.1
  · rw [L.not_lt_of_eq (L.trans b a c (L.symm a b h1) h.2.1)] at h2; cases h2
  · have := L.lt_trans b c a h2 h.2.2
    rw [L.not_lt_of_eq (L.symm a b h1)] at this; cases this

end LawfulOrd

/-! ### scalars: int, float and string compare a key -/

/-- comparisons that read off a strict total order `r` on a key are lawful -/
theorem lawful_of_key {α κ : Type} {lt le gt ge e : α → α → Bool} (k : α → κ) (r : κ → κ → Prop)
    (tri : ∀ x y, (r x y ∧ x ≠ y ∧ ¬ r y x) ∨ (¬ r x y ∧ x = y ∧ ¬ r y x) ∨ (¬ r x y ∧ x ≠ y ∧ r y x))
    (rtrans : ∀ x y z, r x y → r y z → r x z)
    (hlt : ∀ a b, lt a b = true ↔ r (k a) (k b)) (hle : ∀ a b, le a b = true ↔ ¬ r (k b) (k a))
    (hgt : ∀ a b, gt a b = true ↔ r (k b) (k a)) (hge : ∀ a b, ge a b = true ↔ ¬ r (k a) (k b))
    (heq : ∀ a b, e a b = true ↔ k a = k b) : LawfulOrd ⟨lt, le, gt, ge⟩ e where
  refl a := (heq a a).2 rfl
  symm a b h := (heq b a).2 ((heq a b).1 h).symm
  trans a b c h1 h2 := (heq a c).2 (((heq a b).1 h1).trans ((heq b c).1 h2))
  tri a b := by simp only [← Bool.not_eq_true, hlt, heq]; exact tri (k a) (k b)
  lt_trans a b c h1 h2 := (hlt a c).2 (rtrans _ _ _ ((hlt a b).1 h1) ((hlt b c).1 h2))
  gt_def a b := Bool.eq_iff_iff.2 ((hgt a b).trans (hlt b a).symm)
  le_def a b := by rw [Bool.eq_iff_iff, hle, Bool.not_eq_true', ← Bool.not_eq_true, hlt]
  ge_def a b := by rw [Bool.eq_iff_iff, hge, Bool.not_eq_true', ← Bool.not_eq_true, hlt]

/-! ### strings: the VM instructions compute the lexicographic order on bytes (C17's lemmas) -/

open StrOps in
theorem strRun_eq (a b : Bytes) : strEqual a b = decide (a = b) := by
  unfold strEqual strRun
  rw [eq_start a b rfl (Nat.le_refl _)]

open StrOps in
theorem strRun_cmp (c : Cmp) (a b : Bytes) : strRun (cmpStep c) a b = c.spec a b := by
  unfold strRun
  rw [cmp_start c a b rfl (Nat.le_refl _)]

open StrOps in
theorem lexLt_tri (a b : Bytes) :
    (lexLt a b = true ∧ a ≠ b ∧ ¬ lexLt b a = true) ∨ (¬ lexLt a b = true ∧ a = b ∧ ¬ lexLt b a = true) ∨
    (¬ lexLt a b = true ∧ a ≠ b ∧ lexLt b a = true) := by
  rw [lexLt_iff, lexLt_iff]
  by_cases h1 : a < b
  · exact .inl ⟨h1, fun e => List.lt_irrefl b (e ▸ h1), List.lt_asymm h1⟩
  · by_cases h2 : b < a
    · exact .inr (.inr ⟨h1, fun e => List.lt_irrefl b (e ▸ h2), h2⟩)
    · exact .inr (.inl ⟨h1, List.le_antisymm h2 h1, h2⟩)

open StrOps in
theorem lexLt_trans (a b c : Bytes) (h1 : lexLt a b = true) (h2 : lexLt b c = true) : lexLt a c = true := by
  rw [lexLt_iff] at *
  exact List.lt_trans h1 h2

open StrOps in
/-- the four instructions, run to completion, are the four relations of `lexLt` -/
theorem strOrd_eq :
    strOrd = ⟨lexLt, fun a b => !lexLt b a, fun a b => lexLt b a, fun a b => !lexLt a b⟩ := by
  unfold strOrd
  congr 1 <;> funext a b <;> exact strRun_cmp _ a b

/-! ### pairs -/

section pair
variable {α β : Type} {o1 : Ord' α} {e1 : Eq' α} {o2 : Ord' β} {e2 : Eq' β}

theorem tuple2Ord_lt (a1 b1 : α) (a2 b2 : β) : (tuple2Ord o1 o2).lt (a1, a2) (b1, b2) =
    if o1.lt a1 b1 then true else if o1.gt a1 b1 then false else o2.lt a2 b2 := rfl
theorem tuple2Ord_le (a1 b1 : α) (a2 b2 : β) : (tuple2Ord o1 o2).le (a1, a2) (b1, b2) =
    if o1.lt a1 b1 then true else if o1.gt a1 b1 then false else o2.le a2 b2 := rfl
theorem tuple2Ord_gt (a1 b1 : α) (a2 b2 : β) : (tuple2Ord o1 o2).gt (a1, a2) (b1, b2) =
    if o1.gt a1 b1 then true else if o1.lt a1 b1 then false else o2.gt a2 b2 := rfl
theorem tuple2Ord_ge (a1 b1 : α) (a2 b2 : β) : (tuple2Ord o1 o2).ge (a1, a2) (b1, b2) =
    if o1.gt a1 b1 then true else if o1.lt a1 b1 then false else o2.ge a2 b2 := rfl

theorem tuple2Equal_lawful (L1 : LawfulEq e1) (L2 : LawfulEq e2) : LawfulEq (tuple2Equal e1 e2) where
  refl := by
    intro ⟨a1, a2⟩
    simp [tuple2Equal, L1.refl, L2.refl]
  symm := by
    intro ⟨a1, a2⟩ ⟨b1, b2⟩
    simp only [tuple2Equal, Bool.and_eq_true]
    exact fun h => ⟨L1.symm _ _ h.1, L2.symm _ _ h.2⟩
  trans := by
    intro ⟨a1, a2⟩ ⟨b1, b2⟩ ⟨c1, c2⟩
    simp only [tuple2Equal, Bool.and_eq_true]
    exact fun h g => ⟨L1.trans _ _ _ h.1 g.1, L2.trans _ _ _ h.2 g.2⟩

/-- the pair `<` of the prelude is the lexicographic order of the component orders -/
theorem tuple2_lt_iff (L1 : LawfulOrd o1 e1) (a b : α × β) :
    (tuple2Ord o1 o2).lt a b = true ↔
      o1.lt a.1 b.1 = true ∨ (e1 a.1 b.1 = true ∧ o2.lt a.2 b.2 = true) := by
  obtain ⟨a1, a2⟩ := a
  obtain ⟨b1, b2⟩ := b
  simp only [tuple2Ord_lt, L1.gt_def]
  rcases L1.tri a1 b1 with h | h | h <;> simp [h.1, h.2.1, h.2.2]

theorem tuple2_lawful (L1 : LawfulOrd o1 e1) (L2 : LawfulOrd o2 e2) :
    LawfulOrd (tuple2Ord o1 o2) (tuple2Equal e1 e2) where
  toLawfulEq := tuple2Equal_lawful L1.toLawfulEq L2.toLawfulEq
  tri := by
    intro ⟨a1, a2⟩ ⟨b1, b2⟩
    simp only [tuple2Ord_lt, tuple2Equal, L1.gt_def]
    -- the second components matter only when the first are equal
    rcases L1.tri a1 b1 with h | h | h
    · simp [h.1, h.2.1, h.2.2]
    · rcases L2.tri a2 b2 with g | g | g <;> simp [h.1, h.2.1, h.2.2, g.1, g.2.1, g.2.2]
    · simp [h.1, h.2.1, h.2.2]
  lt_trans := by
    intro a b c h1 h2
    rw [tuple2_lt_iff L1] at *
    rcases h1 with h1 | ⟨h1, h1'⟩ <;> rcases h2 with h2 | ⟨h2, h2'⟩
    · exact Or.inl (L1.lt_trans _ _ _ h1 h2)
    · exact Or.inl (L1.lt_of_lt_of_eq h1 h2)
    · exact Or.inl (L1.lt_of_eq_of_lt h1 h2)
    · exact Or.inr ⟨L1.trans _ _ _ h1 h2, L2.lt_trans _ _ _ h1' h2'⟩
  gt_def := by
    intro ⟨a1, a2⟩ ⟨b1, b2⟩
    simp only [tuple2Ord_lt, tuple2Ord_gt, L1.gt_def, L2.gt_def]
  le_def := by
    intro ⟨a1, a2⟩ ⟨b1, b2⟩
    simp only [tuple2Ord_lt, tuple2Ord_le, L1.gt_def, L2.le_def]
    rcases L1.tri a1 b1 with h | h | h <;> simp [h.1, h.2.2]
  ge_def := by
    intro ⟨a1, a2⟩ ⟨b1, b2⟩
    simp only [tuple2Ord_lt, tuple2Ord_ge, L1.gt_def, L2.ge_def]
    rcases L1.tri a1 b1 with h | h | h <;> simp [h.1, h.2.2]

end pair

/-! ### triples and quadruples: the prelude's straight-line code is the nested pair construction -/

theorem tuple3Ord_eq {α β γ : Type} (o1 : Ord' α) (o2 : Ord' β) (o3 : Ord' γ) :
    tuple3Ord o1 o2 o3 = tuple2Ord o1 (tuple2Ord o2 o3) := rfl

theorem tuple4Ord_eq {α β γ δ : Type} (o1 : Ord' α) (o2 : Ord' β) (o3 : Ord' γ) (o4 : Ord' δ) :
    tuple4Ord o1 o2 o3 o4 = tuple2Ord o1 (tuple2Ord o2 (tuple2Ord o3 o4)) := rfl

theorem tuple3Equal_eq {α β γ : Type} (e1 : Eq' α) (e2 : Eq' β) (e3 : Eq' γ) :
    tuple3Equal e1 e2 e3 = tuple2Equal e1 (tuple2Equal e2 e3) := by
  funext ⟨a1, a2, a3⟩ ⟨b1, b2, b3⟩
  simp [tuple3Equal, tuple2Equal, Bool.and_assoc]

theorem tuple4Equal_eq {α β γ δ : Type} (e1 : Eq' α) (e2 : Eq' β) (e3 : Eq' γ) (e4 : Eq' δ) :
    tuple4Equal e1 e2 e3 e4 = tuple2Equal e1 (tuple2Equal e2 (tuple2Equal e3 e4)) := by
  funext ⟨a1, a2, a3, a4⟩ ⟨b1, b2, b3, b4⟩
  simp [tuple4Equal, tuple2Equal, Bool.and_assoc]

/-! ### arrays -/

/-- specification side: element-wise comparison of two lists, by structural recursion -/
def listAll2 {α : Type} (e : Eq' α) : List α → List α → Bool
  | [], [] => true
  | x :: xs, y :: ys => e x y && listAll2 e xs ys
  | _, _ => false

theorem listAll2_cons_iff {α : Type} (e : Eq' α) (x y : α) (xs ys : List α) :
    listAll2 e (x :: xs) (y :: ys) = true ↔ e x y = true ∧ listAll2 e xs ys = true :=
  Bool.and_eq_true_iff

theorem listAll2_induct {α : Type} {e : Eq' α} {motive : List α → List α → Prop} (nil : motive [] [])
    (cons : ∀ x xs y ys, e x y = true → listAll2 e xs ys = true → motive xs ys → motive (x :: xs) (y :: ys)) :
    ∀ (a b : List α), listAll2 e a b = true → motive a b
  | [], [], _ => nil
  | [], _ :: _, h => absurd h Bool.false_ne_true
  | _ :: _, [], h => absurd h Bool.false_ne_true
  | x :: xs, y :: ys, h =>
    have h' := (listAll2_cons_iff e x y xs ys).1 h
    cons x xs y ys h'.1 h'.2 (listAll2_induct nil cons xs ys h'.2)

theorem listAll2_length {α : Type} (e : Eq' α) (a b : List α) (h : listAll2 e a b = true) :
    a.length = b.length :=
  listAll2_induct (motive := fun a b => a.length = b.length) rfl
    (fun _ _ _ _ _ _ ih => congrArg (· + 1) ih) a b h

/-- the index loop, started at `i = |p| = |q|` with `fuel = |a'| = |b'|`, compares the suffixes -/
theorem arrayEqualLoop_spec {α : Type} (e : Eq' α) (a' : List α) :
    ∀ (b' p q : List α), p.length = q.length → a'.length = b'.length →
      arrayEqualLoop e (p ++ a') (q ++ b') a'.length p.length = some (listAll2 e a' b') := by
  induction a' with
  | nil =>
    intro b' p q _ hl
    cases b' with
    | nil => rfl
    | cons y ys => cases hl
  | cons x xs ih =>
    intro b' p q hpq hl
    cases b' with
    | nil => cases hl
    | cons y ys =>
      have h1 : (p ++ x :: xs)[p.length]? = some x := getElem?_at_length rfl
      have h2 : (q ++ y :: ys)[p.length]? = some y := getElem?_at_length hpq
      have step : arrayEqualLoop e (p ++ x :: xs) (q ++ y :: ys) xs.length (p.length + 1) =
          some (listAll2 e xs ys) := by
        have := ih ys (p ++ [x]) (q ++ [y]) (by rw [List.length_append, List.length_append, hpq]; rfl)
          (Nat.succ.inj hl)
        rwa [List.append_assoc, List.append_assoc, List.length_append] at this
      rw [List.length_cons, arrayEqualLoop, h1, h2]
      show (if ne e x y then some false
        else arrayEqualLoop e (p ++ x :: xs) (q ++ y :: ys) xs.length (p.length + 1)) = _
      rw [step, ne, listAll2]
      cases e x y <;> rfl

/-- array `==` never runs out of bounds and is: equal length and element-wise equal -/
theorem arrayEqual_spec {α : Type} (e : Eq' α) (a b : List α) :
    arrayEqual? e a b = some (listAll2 e a b) ∧ arrayEqual e a b = listAll2 e a b := by
  have key : arrayEqual? e a b = some (listAll2 e a b) := by
    unfold arrayEqual?
    by_cases hl : a.length = b.length
    · have := arrayEqualLoop_spec e a b [] [] rfl hl
      simpa [hl] using this
    · have : listAll2 e a b = false := Bool.eq_false_iff.2 fun h => hl (listAll2_length e a b h)
      simp [hl, this]
  exact ⟨key, by simp [arrayEqual, key]⟩

theorem listAll2_lawful {α : Type} {e : Eq' α} (L : LawfulEq e) : LawfulEq (listAll2 e) where
  refl a := by
    induction a with
    | nil => rfl
    | cons x xs ih => exact (listAll2_cons_iff e x x xs xs).2 ⟨L.refl x, ih⟩
  symm := listAll2_induct (motive := fun a b => listAll2 e b a = true) rfl
    (fun x xs y ys h _ ih => (listAll2_cons_iff e y x ys xs).2 ⟨L.symm x y h, ih⟩)
  trans a b c h := by
    revert c
    refine listAll2_induct (motive := fun a b => ∀ c, listAll2 e b c = true → listAll2 e a c = true)
      (fun _ g => g) (fun x xs y ys hxy _ ih c g => ?_) a b h
    cases c with
    | nil => exact absurd g Bool.false_ne_true
    | cons z zs =>
      have g' := (listAll2_cons_iff e y z ys zs).1 g
      exact (listAll2_cons_iff e x z xs zs).2 ⟨L.trans x y z hxy g'.1, ih zs g'.2⟩

/-! ### hashes -/

theorem arrayHash_congr {α : Type} {e : Eq' α} {h : Hash' α} (H : HashCongr e h) :
    HashCongr (arrayEqual e) (arrayHash h) := by
  intro a b hab
  rw [(arrayEqual_spec e a b).2] at hab
  refine listAll2_induct (motive := fun a b => ∀ seed, a.foldl (hashCombine h) seed = b.foldl (hashCombine h) seed)
    (fun _ => rfl) (fun x xs y ys hxy _ ih seed => ?_) a b hab 17
  rw [List.foldl_cons, List.foldl_cons, hashCombine, hashCombine, H x y hxy]
  exact ih _

theorem hashCombine_congr {α : Type} {e : Eq' α} {h : Hash' α} (H : HashCongr e h) {s t : UInt64}
    (hs : s = t) {a b : α} (hab : e a b = true) : hashCombine h s a = hashCombine h t b := by
  rw [hashCombine, hashCombine, hs, H a b hab]

theorem tuple2Hash_congr {α β : Type} {e1 : Eq' α} {e2 : Eq' β} {h1 : Hash' α} {h2 : Hash' β}
    (H1 : HashCongr e1 h1) (H2 : HashCongr e2 h2) :
    HashCongr (tuple2Equal e1 e2) (tuple2Hash h1 h2) := by
  intro ⟨a1, a2⟩ ⟨b1, b2⟩ h
  simp only [tuple2Equal, Bool.and_eq_true] at h
  exact hashCombine_congr H2 (hashCombine_congr H1 rfl h.1) h.2

theorem bitsOfInt_natCast (n : Nat) (h : n < 2 ^ 64) : bitsOfInt (n : Int) = UInt64.ofNat n := by
  have h' : (n : Int) < 2 ^ 64 := by exact_mod_cast h
  rw [bitsOfInt, Int.emod_eq_of_lt (Int.natCast_nonneg n) h', Int.toNat_natCast]

/-- the prelude's index loop over `string_nth_byte` never runs out of range and is the byte fold -/
theorem strHashLoop_spec (s' : StrOps.Bytes) :
    ∀ (p : StrOps.Bytes) (h : UInt64),
      strHashLoop (p ++ s') s'.length p.length h =
        some (s'.foldl (fun h b => (h ^^^ UInt64.ofNat b.toNat) * 1099511628211) h) := by
  induction s' with
  | nil => intro p h; simp [strHashLoop]
  | cons x xs ih =>
    intro p h
    have hn : StrOps.nthByte (p ++ x :: xs) (p.length : Int) = .val x.toNat := by
      simp [StrOps.nthByte]
    have hb := bitsOfInt_natCast x.toNat (Nat.lt_trans x.toNat_lt (by decide))
    simp only [List.length_cons, strHashLoop, hn, hb, List.foldl_cons]
    have := ih (p ++ [x]) ((h ^^^ UInt64.ofNat x.toNat) * 1099511628211)
    simpa using this

end Abra.PreludeCmp
