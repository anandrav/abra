import AbraModel.Lib.HashMap
import AbraProofs.Lemmas.ListIndex
/-! For C27: bounded accesses, `Put` (an entry written in place or appended), chains through `entry_nexts`, the chain walks, and bucket arrays heading
    chains that partition the live slots (`Buckets`): linking a slot at the head of its bucket and
    unlinking it again are the only two ways the operations of the table change the chains. -/
namespace Abra.Lib.HashMap

variable {K V : Type}

theorem getI_ok {α : Type} {l : List α} {i : Int} {x : α} (h0 : 0 ≤ i) (h : l[i.toNat]? = some x) :
    getI l i = .ok x := by
  unfold getI
  rw [if_neg (Int.not_lt.mpr h0), h]

theorem getI_nat {α : Type} {l : List α} {i : Nat} {x : α} (h : l[i]? = some x) : getI l (i : Int) = .ok x :=
  getI_ok (Int.natCast_nonneg i) h

theorem setI_ok {α : Type} (l : List α) {i : Int} (x : α) (h0 : 0 ≤ i) (h : i.toNat < l.length) :
    setI l i x = .ok (l.set i.toNat x) := by
  unfold setI
  rw [if_neg (Int.not_lt.mpr h0), if_pos h]

theorem setI_nat {α : Type} (l : List α) {i : Nat} (x : α) (h : i < l.length) :
    setI l (i : Int) x = .ok (l.set i x) :=
  setI_ok l x (Int.natCast_nonneg i) h

theorem getElem?_of_lt {α : Type} {l : List α} {i : Nat} (h : i < l.length) : ∃ x, l[i]? = some x :=
  ⟨l[i], List.getElem?_eq_getElem h⟩

theorem getElem?_set' {α : Type} (l : List α) (i j : Nat) (x : α) (hi : i < l.length) :
    (l.set i x)[j]? = if j = i then some x else l[j]? := by
  by_cases h : j = i
  · rw [if_pos h, h, List.getElem?_set_self hi]
  · rw [if_neg h, List.getElem?_set_ne (Ne.symm h)]

/-- `l'` is `l` with entry `i` written: in place, or appended when `i` is the next fresh index -/
def Put {α : Type} (l : List α) (i : Nat) (x : α) (l' : List α) : Prop :=
  l'.length = max l.length (i + 1) ∧ ∀ j, l'[j]? = if j = i then some x else l[j]?

theorem Put.set {α : Type} {l : List α} {i : Nat} (x : α) (h : i < l.length) : Put l i x (l.set i x) :=
  ⟨List.length_set.trans (Nat.max_eq_left h).symm, fun j => getElem?_set' l i j x h⟩

theorem Put.concat {α : Type} (l : List α) (x : α) : Put l l.length x (l ++ [x]) := by
  refine ⟨List.length_append.trans (Nat.max_eq_right (Nat.le_succ _)).symm, fun j => ?_⟩
  by_cases h : j = l.length
  · rw [if_pos h, h, List.getElem?_concat_length]
  · rw [if_neg h]
    rcases Nat.lt_or_ge j l.length with h1 | h1
    · exact List.getElem?_append_left h1
    · rw [List.getElem?_eq_none (by rw [List.length_append]; exact Nat.lt_of_le_of_ne h1 (Ne.symm h)),
        List.getElem?_eq_none h1]

theorem toNat_emod (h : Int) {len : Nat} (hl : len ≠ 0) : ((h % (len : Int)).toNat : Int) = h % len :=
  Int.toNat_of_nonneg (Int.emod_nonneg h (Int.natCast_ne_zero.mpr hl))

theorem toNat_emod_lt (h : Int) {len : Nat} (hl : len ≠ 0) : (h % (len : Int)).toNat < len :=
  (Int.toNat_lt (Int.emod_nonneg h (Int.natCast_ne_zero.mpr hl))).mpr
    (Int.emod_lt_of_pos h (Int.natCast_pos.mpr (Nat.pos_of_ne_zero hl)))

theorem bucketIdx_range (h : Int) (len : Nat) (hl : len ≠ 0) :
    ∃ b : Nat, bucketIdx h len = .ok (b : Int) ∧ b < len ∧ (b : Int) = h % (len : Int) :=
  ⟨(h % len).toNat, by rw [toNat_emod h hl]; exact if_neg hl, toNat_emod_lt h hl, toNat_emod h hl⟩

/-- `Chain nexts s c`: following `nexts` from `s` visits exactly the slots `c` and then reaches `-1` -/
inductive Chain (nexts : List Int) : Int → List Nat → Prop where
  | nil : Chain nexts (-1) []
  | cons {i nx : Int} {c : List Nat} : 0 ≤ i → nexts[i.toNat]? = some nx → Chain nexts nx c →
      Chain nexts i (i.toNat :: c)

theorem natCast_ne_neg_one (i : Nat) : (i : Int) ≠ -1 :=
  fun h => absurd (h ▸ Int.natCast_nonneg i) (by decide)

theorem Chain.cons' {nexts : List Int} {i : Nat} {nx : Int} {c : List Nat} (hn : nexts[i]? = some nx)
    (hc : Chain nexts nx c) : Chain nexts (i : Int) (i :: c) :=
  Chain.cons (i := (i : Int)) (Int.natCast_nonneg i) hn hc

/-- induction along a chain with the slot of the `cons` case as a natural number -/
theorem Chain.ind {nexts : List Int} {motive : (s : Int) → (c : List Nat) → Chain nexts s c → Prop}
    (nil : motive (-1) [] Chain.nil)
    (cons : ∀ (i : Nat) (nx : Int) (c : List Nat) (hn : nexts[i]? = some nx) (hc : Chain nexts nx c),
      motive nx c hc → motive (i : Int) (i :: c) (Chain.cons' hn hc))
    {s : Int} {c : List Nat} (h : Chain nexts s c) : motive s c h := by
  induction h with
  | nil => exact nil
  | cons h0 hn hc ih =>
    obtain ⟨i, rfl⟩ := Int.eq_ofNat_of_zero_le h0
    exact cons i _ _ hn hc ih

theorem Chain.uncons {nexts : List Int} {s : Int} {c : List Nat} (h : Chain nexts s c) (hs : s ≠ -1) :
    ∃ (i : Nat) (nx : Int) (c' : List Nat), s = i ∧ c = i :: c' ∧ nexts[i]? = some nx ∧ Chain nexts nx c' := by
  induction h using Chain.ind with
  | nil => exact absurd rfl hs
  | cons i nx c hn hc _ => exact ⟨i, nx, c, rfl, rfl, hn, hc⟩

theorem Chain.start {nexts : List Int} {s : Int} {c : List Nat} (h : Chain nexts s c) : s = -1 ∨ 0 ≤ s := by
  cases h with
  | nil => exact Or.inl rfl
  | cons h0 _ _ => exact Or.inr h0

theorem Chain.nil_iff {nexts : List Int} {s : Int} {c : List Nat} (h : Chain nexts s c) : c = [] ↔ s = -1 := by
  induction h using Chain.ind with
  | nil => exact ⟨fun _ => rfl, fun _ => rfl⟩
  | cons i _ _ _ _ _ => exact ⟨nofun, fun e => absurd e (natCast_ne_neg_one i)⟩

theorem Chain.lt {nexts : List Int} {s : Int} {c : List Nat} (h : Chain nexts s c) : ∀ i ∈ c, i < nexts.length := by
  induction h using Chain.ind with
  | nil => nofun
  | cons i nx c hn _ ih =>
    intro j hj
    cases List.mem_cons.mp hj with
    | inl e => exact e ▸ getElem?_lt hn
    | inr hj => exact ih j hj

theorem Chain.length_le {nexts : List Int} {s : Int} {c : List Nat} (h : Chain nexts s c) (hnd : c.Nodup) :
    c.length ≤ nexts.length := by
  have := hnd.length_le_of_subset (l₂ := List.range nexts.length) (fun i hi => List.mem_range.mpr (h.lt i hi))
  rwa [List.length_range] at this

theorem Chain.congr {nexts nexts' : List Int} {s : Int} {c : List Nat} (h : Chain nexts s c)
    (hag : ∀ i ∈ c, nexts'[i]? = nexts[i]?) : Chain nexts' s c := by
  induction h using Chain.ind with
  | nil => exact Chain.nil
  | cons i nx c hn _ ih =>
    exact Chain.cons' ((hag i List.mem_cons_self).trans hn) (ih (fun j hj => hag j (List.mem_cons_of_mem _ hj)))

theorem Chain.unique {nexts : List Int} {s : Int} {c c' : List Nat} (h : Chain nexts s c) (h' : Chain nexts s c') :
    c = c' := by
  induction h using Chain.ind generalizing c' with
  | nil => exact (h'.nil_iff.mpr rfl).symm
  | cons i nx c hn _ ih =>
    obtain ⟨j, nx', c'', e, rfl, hn', hc'⟩ := h'.uncons (natCast_ne_neg_one i)
    cases Int.ofNat_inj.mp e
    cases Option.some.inj (hn.symm.trans hn')
    rw [ih hc']

/-- unlinking slot `i`, whose `next` is `nc`, from a chain in which it follows slot `q` -/
theorem Chain.unlink {nexts : List Int} {s : Int} {c : List Nat} (h : Chain nexts s c) (hnd : c.Nodup)
    {q i : Nat} {nc : Int} (hq : q ∈ c) (hqi : nexts[q]? = some (i : Int)) (hnc : nexts[i]? = some nc) :
    i ∈ c ∧ Chain (nexts.set q nc) s (c.erase i) := by
  induction h using Chain.ind with
  | nil => cases hq
  | cons a n1 c hn hc ih =>
    obtain ⟨hac, hndc⟩ := List.nodup_cons.mp hnd
    rcases List.mem_cons.mp hq with rfl | hqc
    · -- `q` is the first slot: the rest of the chain starts at `i`
      cases Option.some.inj (hn.symm.trans hqi)
      obtain ⟨j, nc', c', e, rfl, hn', hc'⟩ := hc.uncons (natCast_ne_neg_one i)
      cases Int.ofNat_inj.mp e
      cases Option.some.inj (hnc.symm.trans hn')
      have hqi : q ≠ i := fun e => hac (e ▸ List.mem_cons_self)
      refine ⟨List.mem_cons_of_mem _ List.mem_cons_self, ?_⟩
      rw [List.erase_cons_tail (by simpa using hqi), List.erase_cons_head]
      refine Chain.cons' (List.getElem?_set_self (getElem?_lt hn)) (hc'.congr fun j hj => List.getElem?_set_ne ?_)
      exact fun e => hac (e ▸ List.mem_cons_of_mem _ hj)
    · obtain ⟨hic, hc'⟩ := ih hndc hqc
      have hai : a ≠ i := fun e => hac (e ▸ hic)
      have haq : q ≠ a := fun e => hac (e ▸ hqc)
      refine ⟨List.mem_cons_of_mem _ hic, ?_⟩
      rw [List.erase_cons_tail (by simpa using hai)]
      exact Chain.cons' ((List.getElem?_set_ne haq).trans hn) hc'

section walks
variable (eq : K → K → Bool) (t : Table K V) (hc : Int) (key : K)

/-- the per-slot test of the walks, as a predicate on slot numbers -/
def matchP (i : Nat) : Bool :=
  match t.hashes[i]?, t.keys[i]? with
  | some h, some k => decide (h = hc) && eq k key
  | _, _ => false

theorem slotMatches_eq (i : Nat) (hh : i < t.hashes.length) (hk : i < t.keys.length) :
    slotMatches eq t hc key (i : Int) = .ok (matchP eq t hc key i) := by
  have e1 : t.hashes[i]? = some (t.hashes[i]) := List.getElem?_eq_getElem hh
  have e2 : t.keys[i]? = some (t.keys[i]) := List.getElem?_eq_getElem hk
  simp only [slotMatches, getI_nat e1, getI_nat e2, matchP, e1, e2]
  by_cases h : t.hashes[i] = hc <;> simp [h]

theorem findLoop_eq_removeLoop (fuel : Nat) (prev s : Int) :
    findLoop eq t hc key fuel s = (removeLoop eq t hc key fuel prev s).map (Option.map Prod.snd) := by
  induction fuel generalizing prev s with
  | zero => rfl
  | succ fuel ih =>
    simp only [findLoop, removeLoop]
    split
    · rfl
    · cases slotMatches eq t hc key s with
      | error e => rfl
      | ok m =>
        cases m with
        | true => rfl
        | false =>
          cases getI t.nexts s with
          | error e => rfl
          | ok nx => exact ih s nx

/-- The two outcomes for a matching slot `i` are the two ways `remove` unlinks it: the chain starts at `i`
    (the trailing pointer is still `prev0`), or `i` follows a slot `q` of the chain. -/
theorem removeLoop_chain (hlenH : t.hashes.length = t.keys.length) (hlenN : t.nexts.length = t.keys.length)
    {s : Int} {c : List Nat} (hch : Chain t.nexts s c) :
    ∀ (prev0 : Int) (fuel : Nat), c.length < fuel →
      (c.find? (matchP eq t hc key) = none → removeLoop eq t hc key fuel prev0 s = .ok none) ∧
      ∀ i, c.find? (matchP eq t hc key) = some i →
        (s = i ∧ removeLoop eq t hc key fuel prev0 s = .ok (some (prev0, (i : Int)))) ∨
        ∃ q ∈ c, t.nexts[q]? = some (i : Int) ∧ removeLoop eq t hc key fuel prev0 s = .ok (some ((q : Int), (i : Int))) := by
  induction hch using Chain.ind with
  | nil =>
    intro prev0 fuel hf
    cases fuel with
    | zero => cases hf
    | succ fuel => exact ⟨fun _ => rfl, nofun⟩
  | cons a nx c hn _ ih =>
    intro prev0 fuel hf
    cases fuel with
    | zero => cases hf
    | succ fuel =>
      have hlt : a < t.nexts.length := getElem?_lt hn
      obtain ⟨ih0, ih1⟩ := ih (a : Int) fuel (Nat.lt_of_succ_lt_succ hf)
      have step : removeLoop eq t hc key (fuel + 1) prev0 a =
          if matchP eq t hc key a = true then .ok (some (prev0, (a : Int))) else removeLoop eq t hc key fuel a nx := by
        simp only [removeLoop]
        rw [if_neg (natCast_ne_neg_one a), slotMatches_eq eq t hc key a (hlenH.symm ▸ hlenN ▸ hlt) (hlenN ▸ hlt),
          getI_nat hn]
        cases matchP eq t hc key a <;> rfl
      rw [step]
      by_cases hm : matchP eq t hc key a = true
      · rw [List.find?_cons_of_pos hm, if_pos hm]
        exact ⟨nofun, fun i hi => by cases hi; exact Or.inl ⟨rfl, rfl⟩⟩
      · rw [List.find?_cons_of_neg hm, if_neg hm]
        refine ⟨ih0, fun i hi => Or.inr ?_⟩
        rcases ih1 i hi with ⟨e, r⟩ | ⟨q, hq, hqn, r⟩
        · exact ⟨a, List.mem_cons_self, e ▸ hn, r⟩
        · exact ⟨q, List.mem_cons_of_mem _ hq, hqn, r⟩

theorem findLoop_chain (hlenH : t.hashes.length = t.keys.length) (hlenN : t.nexts.length = t.keys.length)
    {s : Int} {c : List Nat} (hch : Chain t.nexts s c) (fuel : Nat) (hf : c.length < fuel) :
    findLoop eq t hc key fuel s = .ok ((c.find? (matchP eq t hc key)).map Int.ofNat) := by
  obtain ⟨h0, h1⟩ := removeLoop_chain eq t hc key hlenH hlenN hch (-1) fuel hf
  rw [findLoop_eq_removeLoop eq t hc key fuel (-1) s]
  cases hfind : c.find? (matchP eq t hc key) with
  | none => rw [h0 hfind]; rfl
  | some i => rcases h1 i hfind with ⟨_, r⟩ | ⟨q, _, _, r⟩ <;> rw [r] <;> rfl

end walks

/-- Bucket `b` of `bk` heads, through `nx`, the chain `c`, which lists without repetition exactly the slots
    whose `home` is `b` (`home i = none`: slot `i` is in no chain). -/
structure Bucket (bk nx : List Int) (home : Nat → Option Nat) (b : Nat) (c : List Nat) : Prop where
  head : ∃ s, bk[b]? = some s ∧ Chain nx s c
  nodup : c.Nodup
  mem : ∀ i, i ∈ c ↔ home i = some b

def Buckets (bk nx : List Int) (home : Nat → Option Nat) (ch : Nat → List Nat) : Prop :=
  ∀ b, b < bk.length → Bucket bk nx home b (ch b)

section
variable {bk nx bk' nx' : List Int} {home home' : Nat → Option Nat} {ch : Nat → List Nat}

theorem Bucket.frame {b : Nat} {c : List Nat} (h : Bucket bk nx home b c) (hbk : bk'[b]? = bk[b]?)
    (hnx : ∀ i, home i = some b → nx'[i]? = nx[i]?) (hhome : ∀ i, home' i = some b ↔ home i = some b) :
    Bucket bk' nx' home' b c := by
  obtain ⟨⟨s, hs, hc⟩, hnd, hmem⟩ := h
  exact ⟨⟨s, hbk.trans hs, hc.congr fun i hi => hnx i ((hmem i).mp hi)⟩, hnd, fun i => (hmem i).trans (hhome i).symm⟩

theorem Buckets.empty (m : Nat) (nx : List Int) : Buckets (List.replicate m (-1)) nx (fun _ => none) (fun _ => []) :=
  fun _ hb => ⟨⟨-1, List.getElem?_replicate_of_lt (List.length_replicate (n := m) ▸ hb), Chain.nil⟩, List.nodup_nil,
    fun _ => ⟨nofun, nofun⟩⟩

theorem Buckets.congr (B : Buckets bk nx home ch) (h : ∀ i, home i ≠ none → nx'[i]? = nx[i]?) :
    Buckets bk nx' home ch :=
  fun b hb => (B b hb).frame rfl (fun i hi => h i (hi ▸ nofun)) fun _ => Iff.rfl

/-- slot `j`, so far in no chain, is linked at the head of bucket `b` -/
theorem Buckets.link (B : Buckets bk nx home ch) {b j : Nat} {s : Int} (hs : bk[b]? = some s) (hj : home j = none)
    (hnj : nx'[j]? = some s) (hne : ∀ i, i ≠ j → nx'[i]? = nx[i]?)
    (hhome : ∀ i, home' i = if i = j then some b else home i) :
    Buckets (bk.set b (j : Int)) nx' home' (fun b' => if b' = b then j :: ch b else ch b') := by
  intro b' hb'
  rw [List.length_set] at hb'
  have hnx : ∀ i, home i = some b' → nx'[i]? = nx[i]? := fun i hi => hne i fun e => nomatch hj ▸ e ▸ hi
  by_cases hbb : b' = b
  · subst hbb
    obtain ⟨⟨s0, hs0, hc0⟩, hnd, hmem⟩ := B b' hb'
    cases Option.some.inj (hs.symm.trans hs0)
    have hnot : j ∉ ch b' := fun hm => nomatch hj ▸ (hmem j).mp hm
    refine ⟨⟨j, List.getElem?_set_self hb', ?_⟩, ?_, fun i => ?_⟩
    · simpa using Chain.cons' hnj (hc0.congr fun i hi => hnx i ((hmem i).mp hi))
    · simpa using ⟨hnot, hnd⟩
    · simp only [if_true, List.mem_cons, hhome i, hmem i]
      by_cases e : i = j <;> simp [e, hj]
  · simp only [hbb, if_false]
    refine (B b' hb').frame (List.getElem?_set_ne (Ne.symm hbb)) hnx fun i => ?_
    rw [hhome i]
    by_cases e : i = j
    · simp [e, hj, Ne.symm hbb]
    · simp [e]

/-- slot `i` of bucket `b`, whose `next` is `nc`, is unlinked: the bucket head is redirected when the chain
    starts at `i`, the `next` of its predecessor `q` otherwise -/
theorem Buckets.unlink {bs ns : List Int} (B : Buckets bk nx home ch) {b i : Nat} (hb : b < bk.length)
    (hib : home i = some b) {nc : Int} (hnc : nx[i]? = some nc)
    (hcase : (bk[b]? = some (i : Int) ∧ bs = bk.set b nc ∧ ns = nx) ∨
             (∃ q ∈ ch b, nx[q]? = some (i : Int) ∧ bs = bk ∧ ns = nx.set q nc))
    (hhome : ∀ j, home' j = if j = i then none else home j) :
    bs.length = bk.length ∧ ns.length = nx.length ∧ (∀ j, home j ≠ some b → ns[j]? = nx[j]?) ∧
      Buckets bs ns home' (fun b' => if b' = b then (ch b).erase i else ch b') := by
  obtain ⟨⟨s, hs, hc⟩, hnd, hmem⟩ := B b hb
  -- what both cases have in common
  have key : bs.length = bk.length ∧ ns.length = nx.length ∧ (∀ b', b' ≠ b → bs[b']? = bk[b']?) ∧
      (∀ j, home j ≠ some b → ns[j]? = nx[j]?) ∧ ∃ s', bs[b]? = some s' ∧ Chain ns s' ((ch b).erase i) := by
    rcases hcase with ⟨hsi, rfl, rfl⟩ | ⟨q, hq, hqi, rfl, rfl⟩
    · cases Option.some.inj (hs.symm.trans hsi)
      obtain ⟨j, nc', c', e, hcb, hn', hc'⟩ := hc.uncons (natCast_ne_neg_one i)
      cases Int.ofNat_inj.mp e
      cases Option.some.inj (hnc.symm.trans hn')
      refine ⟨List.length_set, rfl, fun b' hb' => List.getElem?_set_ne (Ne.symm hb'), fun _ _ => rfl, nc,
        List.getElem?_set_self hb, ?_⟩
      rw [hcb, List.erase_cons_head]
      exact hc'
    · refine ⟨rfl, List.length_set, fun _ _ => rfl, fun j hj => List.getElem?_set_ne fun e => hj ?_, s, hs,
        (hc.unlink hnd hq hqi hnc).2⟩
      exact e ▸ (hmem q).mp hq
  obtain ⟨hlen, hlenN, hbs, hns, s', hs', hc'⟩ := key
  refine ⟨hlen, hlenN, hns, fun b' hb' => ?_⟩
  rw [hlen] at hb'
  by_cases hbb : b' = b
  · subst hbb
    refine ⟨⟨s', hs', by simpa using hc'⟩, by simpa using hnd.erase i, fun j => ?_⟩
    simp only [if_true, hnd.mem_erase_iff, hhome j, hmem j]
    by_cases e : j = i <;> simp [e]
  · simp only [hbb, if_false]
    refine (B b' hb').frame (hbs b' hbb) (fun j hj => hns j (hj ▸ fun e => hbb (Option.some.inj e))) fun j => ?_
    rw [hhome j]
    by_cases e : j = i
    · simp [e, hib, Ne.symm hbb]
    · simp [e]

end

end Abra.Lib.HashMap
