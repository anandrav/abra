import AbraProofs.Lemmas.HashMapInsert
/-! For C27: `remove` unlinks the slot from its bucket chain and pushes it on the free list. -/
namespace Abra.Lib.HashMap

variable {K V : Type} {hash : K → Int} {eq : K → K → Bool}

theorem WF.disjoint {t : Table K V} {ch : Nat → List Nat} {fr : List Nat} (wf : WF hash eq t ch fr)
    {b b' i : Nat} (hb : b < t.buckets.length) (hb' : b' < t.buckets.length) (hi : i ∈ ch b) (hi' : i ∈ ch b') : b = b' :=
  Option.some.inj ((((wf.buckets b hb).mem i).mp hi).symm.trans (((wf.buckets b' hb').mem i).mp hi'))

/-- the slot `i` holding the key is unlinked from the chain of its bucket `b` — `bs`, `ns` are the buckets and
    `nexts` with the bucket head or the `next` of the predecessor `q` redirected — and pushed on the free list -/
theorem unlink_slot_spec {t : Table K V} {ch : Nat → List Nat} {fr : List Nat} (law : Lawful hash eq)
    (wf : WF hash eq t ch fr) (d : K → Option V)
    (hd : ∀ k v, d k = some v ↔ ∃ i, Holds eq t k i ∧ t.values[i]? = some v)
    (k : K) (i : Nat) (hi : Holds eq t k i) (b : Nat) (hb : b < t.buckets.length) (hich : i ∈ ch b)
    (nc : Int) (hnc : t.nexts[i]? = some nc) (bs ns : List Int)
    (hcase : (t.buckets[b]? = some (i : Int) ∧ bs = t.buckets.set b nc ∧ ns = t.nexts) ∨
             (∃ q ∈ ch b, t.nexts[q]? = some (i : Int) ∧ bs = t.buckets ∧ ns = t.nexts.set q nc)) :
    Models hash eq { t with buckets := bs, nexts := ns.set i t.freeList, occupied := t.occupied.set i false,
                            count := t.count - 1, freeList := (i : Int) }
      (fun k' => if eq k k' = true then none else d k') := by
  have hin : i < t.keys.length := hi.lt
  have hO : ∀ j, (t.occupied.set i false)[j]? = if j = i then some false else t.occupied[j]? :=
    fun j => getElem?_set' _ _ _ _ (wf.lenO.symm ▸ hin)
  obtain ⟨oi, h, hh, _⟩ := wf.inBucket b hb i hich
  obtain ⟨hlenB, hlenN, hns, B⟩ := wf.buckets.unlink hb (((wf.buckets b hb).mem i).mp hich) hnc hcase
    (home' := slotHome t.buckets.length t.hashes (t.occupied.set i false))
    (fun j => by rw [slotHome_write hO (fun _ _ => rfl) hh j]; rfl)
  have hi_fr : i ∉ fr := fun hmem => by rw [(wf.freeIff i).mp hmem] at oi; cases oi
  have hilt : i < ns.length := by rw [hlenN, wf.lenN]; exact hin
  -- pushing `i` on the free list writes the `next` of `i`, which is in no chain of the new buckets
  have B' : Buckets bs (ns.set i t.freeList) (slotHome bs.length t.hashes (t.occupied.set i false)) _ :=
    hlenB ▸ B.congr fun j hj => List.getElem?_set_ne fun e => hj (slotHome_of_not_occ (by rw [← e, hO, if_pos rfl]; nofun))
  have hpos : bs.length ≠ 0 := hlenB ▸ Nat.ne_of_gt (Nat.zero_lt_of_lt hb)
  -- the occupied slots are those that were, without `i`
  have hocc : ∀ {j}, (t.occupied.set i false)[j]? = some true → j ≠ i ∧ t.occupied[j]? = some true := by
    intro j hj
    rw [hO] at hj
    by_cases e : j = i
    · rw [if_pos e] at hj; cases hj
    · exact ⟨e, by rwa [if_neg e] at hj⟩
  refine ⟨⟨_, i :: fr, {
    lenV := wf.lenV
    lenH := wf.lenH
    lenN := List.length_set.trans (hlenN.trans wf.lenN)
    lenO := List.length_set.trans wf.lenO
    noBuckets := fun h0 => absurd h0 hpos
    chain := fun b hb => (B' b hb).head
    nodup := fun b hb => (B' b hb).nodup
    inBucket := B'.inBucket
    complete := B'.complete hpos
    hashOk := ?_
    distinct := ?_
    freeChain := ?_
    freeNodup := ?_
    freeIff := ?_
    countOk := ?_ }⟩, ?_⟩
  · exact fun j k' hoj hkj => wf.hashOk j k' (hocc hoj).2 hkj
  · exact fun j1 j2 k1 k2 ho1 ho2 hk1 hk2 he => wf.distinct j1 j2 k1 k2 (hocc ho1).2 (hocc ho2).2 hk1 hk2 he
  · -- the free chain: `i`, then the old one, whose slots are unoccupied and so in no bucket chain
    refine Chain.cons' (List.getElem?_set_self hilt) (wf.freeChain.congr fun j hj => ?_)
    have hji : i ≠ j := fun e => hi_fr (e ▸ hj)
    rw [List.getElem?_set_ne hji]
    refine hns j ?_
    rw [slotHome_of_not_occ (by rw [(wf.freeIff j).mp hj]; nofun)]
    nofun
  · exact List.nodup_cons.mpr ⟨hi_fr, wf.freeNodup⟩
  · intro j
    rw [List.mem_cons, hO j]
    by_cases hji : j = i
    · simp [hji]
    · simp only [hji, false_or, if_false]; exact wf.freeIff j
  · have h : t.occupied.count true = (t.occupied.set i false).count true + 1 :=
      (count_true_set t.occupied i true false oi).symm
    show t.count - 1 = _
    rw [wf.countOk, h, Int.natCast_add]
    exact Int.add_sub_cancel _ _
  · -- a slot of the new table holds a key iff it is not `i` and held it before
    intro k' v'
    by_cases hk : eq k k' = true
    · simp only [hk, if_true]
      refine ⟨nofun, fun ⟨j, hj, _⟩ => ?_⟩
      obtain ⟨hne, ho⟩ := hocc hj.1
      exact absurd (Holds.unique law wf ⟨ho, hj.2⟩ ((hi.congr law).mpr hk)) hne
    · simp only [hk, Bool.false_eq_true, if_false]
      rw [hd k' v']
      constructor
      · rintro ⟨j, hj, hv⟩
        have hne : j ≠ i := fun e => hk ((hi.congr law).mp (e ▸ hj))
        exact ⟨j, ⟨by rw [hO, if_neg hne]; exact hj.1, hj.2⟩, hv⟩
      · rintro ⟨j, hj, hv⟩
        exact ⟨j, ⟨(hocc hj.1).2, hj.2⟩, hv⟩

theorem remove_spec (law : Lawful hash eq) (t : Table K V) (d : K → Option V) (hm : Models hash eq t d) (k : K) :
    ∃ t', remove hash eq t k = .ok (t', (d k).isSome) ∧
      Models hash eq t' (fun k' => if eq k k' = true then none else d k') ∧
      t'.count = t.count - (if (d k).isSome then 1 else 0) := by
  obtain ⟨⟨ch, fr, wf⟩, hd⟩ := hm
  -- when no slot holds `k`, nothing changes
  have absent : (∀ j, ¬ Holds eq t k j) → d k = none ∧ Models hash eq t (fun k' => if eq k k' = true then none else d k') := by
    intro hnone
    have hdk : ∀ k', eq k k' = true → d k' = none := fun k' hk =>
      absent_none hd fun j hj => hnone j ((hj.congr law).mpr (law.symm _ _ hk))
    refine ⟨hdk k (law.refl k), models_congr ⟨⟨ch, fr, wf⟩, hd⟩ fun k' => ?_⟩
    by_cases hk : eq k k' = true
    · rw [if_pos hk, hdk k' hk]
    · rw [if_neg hk]
  unfold remove
  by_cases hm0 : t.buckets.length = 0
  · obtain ⟨hdk, hmod⟩ := absent fun j hj => wf.noBuckets hm0 j hj.1
    exact ⟨t, by simp [hm0, hdk], hmod, by simp [hdk]⟩
  · obtain ⟨b, s, hbi, _, hs, hch, hlen, hsome, hnone⟩ := wf.walk law hm0 k
    have hb := getElem?_lt hs
    obtain ⟨r0, r1⟩ := removeLoop_chain eq t (hash k) k wf.lenH wf.lenN hch (-1) _ hlen
    simp only [if_neg hm0, hbi, getI_nat hs]
    cases hf : (ch b).find? (matchP eq t (hash k) k) with
    | none =>
      obtain ⟨hdk, hmod⟩ := absent (hnone hf)
      exact ⟨t, by simp [r0 hf, hdk], hmod, by simp [hdk]⟩
    | some i =>
      obtain ⟨hich, hi⟩ := hsome i hf
      have hin : i < t.keys.length := hi.lt
      obtain ⟨nc, hnc⟩ := getElem?_of_lt (wf.lenN.symm ▸ hin)
      obtain ⟨vi, hvi⟩ := getElem?_of_lt (wf.lenV.symm ▸ hin)
      have hdk : (d k).isSome = true := by rw [(hd k vi).mpr ⟨i, hi, hvi⟩]; rfl
      have hio : i < t.occupied.length := wf.lenO.symm ▸ hin
      rw [hdk]
      rcases r1 i hf with ⟨hsi, r⟩ | ⟨q, hq, hqi, r⟩
      · -- the chain starts at `i`: the bucket head is redirected
        simp only [r, getI_nat hnc, if_true, setI_nat t.buckets nc hb, setI_nat t.nexts t.freeList (wf.lenN.symm ▸ hin),
          setI_nat t.occupied false hio]
        exact ⟨_, rfl, unlink_slot_spec law wf d hd k i hi b hb hich nc hnc _ _ (Or.inl ⟨hsi ▸ hs, rfl, rfl⟩), by simp⟩
      · -- `i` follows `q` in the chain: the `next` of `q` is redirected
        have hql : q < t.nexts.length := getElem?_lt hqi
        simp only [r, getI_nat hnc, if_neg (natCast_ne_neg_one q), setI_nat t.nexts nc hql,
          setI_nat (t.nexts.set q nc) t.freeList (by rw [List.length_set, wf.lenN]; exact hin), setI_nat t.occupied false hio]
        exact ⟨_, rfl, unlink_slot_spec law wf d hd k i hi b hb hich nc hnc _ _ (Or.inr ⟨q, hq, hqi, rfl, rfl⟩), by simp⟩

end Abra.Lib.HashMap
