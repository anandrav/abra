import AbraModel.Mono
/-! Helper lemmas for C22: substitution instances, consistency of the monomorphisation environment. -/
namespace Abra.Mono

mutual
/-- applying a total substitution `σ` to a type: the specification of "instance" -/
def applySubst (σ : Nat → Ty) : Ty → Ty
  | .func args out => .func (applySubstList σ args) (applySubst σ out)
  | .nominal n ps => .nominal n (applySubstList σ ps)
  | .poly p => σ p
  | .tuple es => .tuple (applySubstList σ es)
  | t => t

def applySubstList (σ : Nat → Ty) : List Ty → List Ty
  | [] => []
  | t :: ts => applySubst σ t :: applySubstList σ ts
end

mutual
/-- the type variables occurring in a type -/
def polys : Ty → List Nat
  | .func args out => polysList args ++ polys out
  | .nominal _ ps => polysList ps
  | .poly p => [p]
  | .tuple es => polysList es
  | _ => []

def polysList : List Ty → List Nat
  | [] => []
  | t :: ts => polys t ++ polysList ts
end

def Consistent (env : Env) (σ : Nat → Ty) : Prop := ∀ p t, env.lookup p = some t → t = σ p

theorem lookup_extend (env : Env) (p : Nat) (t : Ty) (q : Nat) :
    (env.extend p t).lookup q = if p = q then some t else env.lookup q := rfl

theorem consistent_extend (env : Env) (σ : Nat → Ty) (h : Consistent env σ) (p : Nat) :
    Consistent (env.extend p (σ p)) σ := by
  intro q t hq
  rw [lookup_extend] at hq
  split at hq
  · rename_i hpq; cases hq; rw [hpq]
  · exact h q t hq

/-- what `update` guarantees, given an environment that agrees with `σ`:
    it still agrees, keeps every old binding, and binds every variable of the signature -/
structure UpdOk (env env' : Env) (σ : Nat → Ty) (ps : List Nat) : Prop where
  cons : Consistent env' σ
  mono : ∀ p t, env.lookup p = some t → env'.lookup p = some t
  bound : ∀ p ∈ ps, env'.lookup p = some (σ p)

theorem UpdOk.refl (env : Env) (σ : Nat → Ty) (h : Consistent env σ) : UpdOk env env σ [] :=
  ⟨h, fun _ _ h => h, fun _ hp => by cases hp⟩

theorem UpdOk.trans {e1 e2 e3 : Env} {σ : Nat → Ty} {p1 p2 : List Nat}
    (a : UpdOk e1 e2 σ p1) (b : UpdOk e2 e3 σ p2) : UpdOk e1 e3 σ (p1 ++ p2) :=
  ⟨b.cons, fun p t h => b.mono p t (a.mono p t h), fun p hp => by
    rcases List.mem_append.1 hp with hp | hp
    · exact b.mono p _ (a.bound p hp)
    · exact b.bound p hp⟩

theorem UpdOk.extend (env : Env) (σ : Nat → Ty) (h : Consistent env σ) (p : Nat) :
    UpdOk env (env.extend p (σ p)) σ [p] :=
  ⟨consistent_extend env σ h p,
   fun q t hq => by
    rw [lookup_extend]
    split
    · rename_i hpq; rw [hpq, h q t hq]
    · exact hq,
   fun q hq => by
    cases List.mem_singleton.1 hq
    exact if_pos rfl⟩

mutual
theorem update_ok (σ : Nat → Ty) (env : Env) (h : Consistent env σ) :
    (s : Ty) → UpdOk env (update env s (applySubst σ s)) σ (polys s)
  | .func args out =>
    have a := updateList_ok σ env h args
    a.trans (update_ok σ _ a.cons out)
  | .nominal _ ps => updateList_ok σ env h ps
  | .poly p => UpdOk.extend env σ h p
  | .tuple es => updateList_ok σ env h es
  | .int => UpdOk.refl env σ h
  | .float => UpdOk.refl env σ h
  | .bool => UpdOk.refl env σ h
  | .string => UpdOk.refl env σ h
  | .void => UpdOk.refl env σ h

theorem updateList_ok (σ : Nat → Ty) (env : Env) (h : Consistent env σ) :
    (ss : List Ty) → UpdOk env (updateList env ss (applySubstList σ ss)) σ (polysList ss)
  | [] => UpdOk.refl env σ h
  | s :: ss =>
    have a := update_ok σ env h s
    a.trans (updateList_ok σ _ a.cons ss)
end

mutual
theorem subst_eq_applySubst (σ : Nat → Ty) (env : Env) :
    (s : Ty) → (∀ p ∈ polys s, env.lookup p = some (σ p)) → subst env s = applySubst σ s
  | .func args out, h => by
    show Ty.func (substList env args) (subst env out) = _
    rw [substList_eq_applySubstList σ env args fun p hp => h p (List.mem_append_left _ hp),
      subst_eq_applySubst σ env out fun p hp => h p (List.mem_append_right _ hp)]
    rfl
  | .nominal n ps, h => congrArg (Ty.nominal n) (substList_eq_applySubstList σ env ps h)
  | .poly p, h => by
    show (match env.lookup p with | some t => t | none => .poly p) = σ p
    rw [h p (List.mem_singleton.2 rfl)]
  | .tuple es, h => congrArg Ty.tuple (substList_eq_applySubstList σ env es h)
  | .int, _ => rfl
  | .float, _ => rfl
  | .bool, _ => rfl
  | .string, _ => rfl
  | .void, _ => rfl

theorem substList_eq_applySubstList (σ : Nat → Ty) (env : Env) :
    (ss : List Ty) → (∀ p ∈ polysList ss, env.lookup p = some (σ p)) →
      substList env ss = applySubstList σ ss
  | [], _ => rfl
  | s :: ss, h => by
    show subst env s :: substList env ss = _
    rw [subst_eq_applySubst σ env s fun p hp => h p (List.mem_append_left _ hp),
      substList_eq_applySubstList σ env ss fun p hp => h p (List.mem_append_right _ hp)]
    rfl
end

/-! ### the monotype rendering is a prefix code -/

/-- the tags 0 … 8 of the coding are the constructor numbers of `Ty` -/
theorem codeBy_eq_cons (short : Nat → Nat) (t : Ty) : ∃ l, Ty.codeBy short t = t.ctorIdx :: l := by
  cases t <;> exact ⟨_, rfl⟩

theorem ctorIdx_eq_of_codeBy {short : Nat → Nat} {t t' : Ty} {r r' : List Nat}
    (h : Ty.codeBy short t ++ r = Ty.codeBy short t' ++ r') : t.ctorIdx = t'.ctorIdx := by
  obtain ⟨l, hl⟩ := codeBy_eq_cons short t
  obtain ⟨l', hl'⟩ := codeBy_eq_cons short t'
  rw [hl, hl'] at h
  exact (List.cons.inj h).1

theorem codeBy_nominal (short : Nat → Nat) (n : Nat) (ps : List Ty) :
    Ty.codeBy short (.nominal n ps) = 6 :: short n :: ps.length :: Ty.codeListBy short ps := rfl
theorem codeBy_func (short : Nat → Nat) (args : List Ty) (out : Ty) :
    Ty.codeBy short (.func args out) = 7 :: args.length :: (Ty.codeListBy short args ++ Ty.codeBy short out) := rfl
theorem codeBy_tuple (short : Nat → Nat) (es : List Ty) :
    Ty.codeBy short (.tuple es) = 8 :: es.length :: Ty.codeListBy short es := rfl
theorem codeListBy_cons (short : Nat → Nat) (t : Ty) (ts : List Ty) :
    Ty.codeListBy short (t :: ts) = Ty.codeBy short t ++ Ty.codeListBy short ts := rfl

mutual
theorem codeBy_prefix (short : Nat → Nat) (hinj : ∀ a b, short a = short b → a = b) :
    (t t' : Ty) → (r r' : List Nat) → Ty.codeBy short t ++ r = Ty.codeBy short t' ++ r' → t = t' ∧ r = r'
  | t, t', r, r', h => by
    -- `t'` has the constructor of `t`, so the eliminator of that constructor applies to it
    have hc := (ctorIdx_eq_of_codeBy h).symm
    revert h
    cases t with
    | int => exact Ty.int.elim t' hc fun h => ⟨rfl, List.tail_eq_of_cons_eq h⟩
    | float => exact Ty.float.elim t' hc fun h => ⟨rfl, List.tail_eq_of_cons_eq h⟩
    | bool => exact Ty.bool.elim t' hc fun h => ⟨rfl, List.tail_eq_of_cons_eq h⟩
    | string => exact Ty.string.elim t' hc fun h => ⟨rfl, List.tail_eq_of_cons_eq h⟩
    | void => exact Ty.void.elim t' hc fun h => ⟨rfl, List.tail_eq_of_cons_eq h⟩
    | poly p =>
      refine Ty.poly.elim t' hc fun p' h => ?_
      obtain ⟨hp, hr⟩ := List.cons.inj (List.tail_eq_of_cons_eq h)
      exact ⟨congrArg Ty.poly hp, hr⟩
    | nominal n ps =>
      refine Ty.nominal.elim t' hc fun n' ps' h => ?_
      simp only [codeBy_nominal, List.cons_append, List.cons.injEq] at h
      obtain ⟨hp, hr⟩ := codeListBy_prefix short hinj ps ps' r r' h.2.2.1 h.2.2.2
      exact ⟨by rw [hinj _ _ h.2.1, hp], hr⟩
    | func args out =>
      refine Ty.func.elim t' hc fun args' out' h => ?_
      simp only [codeBy_func, List.cons_append, List.cons.injEq, List.append_assoc] at h
      obtain ⟨ha, h1⟩ := codeListBy_prefix short hinj args args' _ _ h.2.1 h.2.2
      obtain ⟨ho, hr⟩ := codeBy_prefix short hinj out out' r r' h1
      exact ⟨by rw [ha, ho], hr⟩
    | tuple es =>
      refine Ty.tuple.elim t' hc fun es' h => ?_
      simp only [codeBy_tuple, List.cons_append, List.cons.injEq] at h
      obtain ⟨he, hr⟩ := codeListBy_prefix short hinj es es' r r' h.2.1 h.2.2
      exact ⟨by rw [he], hr⟩

theorem codeListBy_prefix (short : Nat → Nat) (hinj : ∀ a b, short a = short b → a = b) :
    (ts ts' : List Ty) → (r r' : List Nat) → ts.length = ts'.length →
      Ty.codeListBy short ts ++ r = Ty.codeListBy short ts' ++ r' → ts = ts' ∧ r = r'
  | [], [], r, r', _, h => ⟨rfl, h⟩
  | [], _ :: _, _, _, hl, _ => nomatch hl
  | _ :: _, [], _, _, hl, _ => nomatch hl
  | t :: ts, t' :: ts', r, r', hl, h => by
    rw [codeListBy_cons, codeListBy_cons, List.append_assoc, List.append_assoc] at h
    obtain ⟨ht, h1⟩ := codeBy_prefix short hinj t t' _ _ h
    obtain ⟨hts, hr⟩ := codeListBy_prefix short hinj ts ts' r r' (Nat.succ.inj hl) h1
    exact ⟨by rw [ht, hts], hr⟩
end

theorem code_injective (t t' : Ty) (h : t.code = t'.code) : t = t' := by
  have := codeBy_prefix id (fun _ _ h => h) t t' [] [] (by simpa [Ty.code] using h)
  exact this.1

end Abra.Mono
