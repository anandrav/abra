import AbraModel.Arena
/-! Helper lemmas for C38: padding arithmetic and the allocation invariant. -/
namespace Abra.Arena

theorem padding_lt (x a : Nat) (h : 0 < a) : padding x a < a := Nat.mod_lt _ h

/-- the padded address is a multiple of the alignment, whatever the address was -/
theorem padding_aligned (x a : Nat) (h : 0 < a) : (x + padding x a) % a = 0 := by
  have hm := Nat.mod_lt x h
  rw [Nat.add_mod, padding, Nat.mod_mod]
  generalize x % a = m at hm
  rcases Nat.eq_zero_or_pos m with rfl | h0
  · rw [Nat.zero_add, Nat.sub_zero, Nat.mod_self, Nat.zero_mod]
  · rw [Nat.mod_eq_of_lt (Nat.sub_lt h h0), Nat.add_sub_cancel' (Nat.le_of_lt hm), Nat.mod_self]

/-- the padding is the *least* number of bytes that aligns the address (no byte is wasted) -/
theorem padding_least (x a k : Nat) (h : 0 < a) (hk : (x + k) % a = 0) : padding x a ≤ k := by
  -- `a` divides the difference of two aligned addresses; were it positive it would still be below `a`
  have hd : a ∣ padding x a - k := by
    rw [← Nat.add_sub_add_left x]
    exact Nat.dvd_sub (Nat.dvd_of_mod_eq_zero (padding_aligned x a h)) (Nat.dvd_of_mod_eq_zero hk)
  exact Nat.le_of_not_lt fun hlt => Nat.not_lt.2 (Nat.le_of_dvd (Nat.sub_pos_of_lt hlt) hd)
    (Nat.lt_of_le_of_lt (Nat.sub_le _ _) (padding_lt x a h))

/-- A recorded placement lies inside the buffer it names and its absolute address is aligned. -/
def Placement.ok (bs : List Buf) (p : Placement) : Prop :=
  ∃ b, bs[p.buf]? = some b ∧ p.start + p.size ≤ b.len ∧ (b.base + p.start) % p.align = 0

/-- Two placements do not share a byte: different buffers, or disjoint ranges of the same buffer. -/
def Placement.disj (p q : Placement) : Prop :=
  p.buf ≠ q.buf ∨ p.start + p.size ≤ q.start ∨ q.start + q.size ≤ p.start

/-- The allocation invariant: the offset is inside the current buffer, every placement made so far
    is in bounds and aligned, placements in the current buffer end at or before the offset,
    placements in retired buffers name retired buffers, and placements are pairwise disjoint. -/
structure Inv (s : State) (log : List Placement) : Prop where
  off_le : s.offset ≤ s.cur.len
  ok : ∀ p ∈ log, Placement.ok s.bufs p
  below : ∀ p ∈ log, p.buf ≤ s.old.length ∧ (p.buf = s.old.length → p.start + p.size ≤ s.offset)
  disj : log.Pairwise Placement.disj

theorem inv_init (base cap : Nat) : Inv (withCapacity base cap) [] :=
  ⟨Nat.zero_le _, nofun, nofun, List.Pairwise.nil⟩

theorem getElem?_of_prefix {α} {l₁ l₂ : List α} (h : l₁ <+: l₂) {i : Nat} {b : α}
    (hb : l₁[i]? = some b) : l₂[i]? = some b := by
  obtain ⟨t, rfl⟩ := h
  exact List.getElem?_append_left (List.getElem?_eq_some_iff.1 hb).1 ▸ hb

/-- The one way the invariant grows: a placement `p` is made in the current buffer of `s'`, below its
    offset, where `s'` keeps the buffers of `s` and either has a new current buffer or has the current
    buffer of `s` with `p` starting at or after the old offset. -/
theorem Inv.push {s s' : State} {log : List Placement} {p : Placement} (h : Inv s log)
    (hpre : s.bufs <+: s'.bufs) (hoff : s'.offset ≤ s'.cur.len)
    (hbuf : s'.old.length = p.buf) (hend : p.start + p.size ≤ s'.offset)
    (hal : (s'.cur.base + p.start) % p.align = 0)
    (hnew : s'.old.length = s.old.length + 1 ∨ s.old.length = s'.old.length ∧ s.offset ≤ p.start) :
    Inv s' (log ++ [p]) := by
  -- an earlier placement in what is now the current buffer ends before `p` starts
  have key : ∀ q ∈ log, q.buf = s'.old.length → q.start + q.size ≤ p.start := fun q hq e => by
    have ⟨hle, ho⟩ := h.below q hq
    rcases hnew with e' | ⟨e', hs⟩
    · omega
    · exact Nat.le_trans (ho (e.trans e'.symm)) hs
  have hlen : s.old.length ≤ s'.old.length :=
    hnew.elim (fun e => e ▸ Nat.le_succ _) (fun e => e.1 ▸ Nat.le_refl _)
  exact {
    off_le := hoff
    ok := List.forall_mem_append.2
      ⟨fun q hq => (h.ok q hq).imp fun _ hb => ⟨getElem?_of_prefix hpre hb.1, hb.2⟩,
       List.forall_mem_singleton.2
        ⟨s'.cur, hbuf ▸ List.getElem?_concat_length, Nat.le_trans hend hoff, hal⟩⟩
    below := List.forall_mem_append.2
      ⟨fun q hq => ⟨Nat.le_trans (h.below q hq).1 hlen, fun e =>
        Nat.le_trans (key q hq e) (Nat.le_trans (Nat.le_add_right _ _) hend)⟩,
       List.forall_mem_singleton.2 ⟨Nat.le_of_eq hbuf.symm, fun _ => hend⟩⟩
    disj := List.pairwise_append.2 ⟨h.disj, List.pairwise_singleton _ _, fun q hq p' hp' => by
      cases List.mem_singleton.1 hp'
      exact (Decidable.em (q.buf = p.buf)).elim (fun e => .inr (.inl (key q hq (e.trans hbuf.symm)))) .inl⟩ }

/-- `alloc` without the local definitions -/
theorem alloc_eq (s : State) (r : Req) : alloc s r =
    if s.offset + padding (s.cur.base + s.offset) r.align + r.size > s.cur.len then
      (⟨⟨r.fresh, newCap s.cur.len r.size r.align⟩, s.old ++ [s.cur], padding r.fresh r.align + r.size⟩,
       ⟨s.old.length + 1, padding r.fresh r.align, r.size, r.align⟩)
    else
      (⟨s.cur, s.old, s.offset + padding (s.cur.base + s.offset) r.align + r.size⟩,
       ⟨s.old.length, s.offset + padding (s.cur.base + s.offset) r.align, r.size, r.align⟩) := rfl

theorem bufs_alloc_prefix (s : State) (r : Req) : s.bufs <+: (alloc s r).1.bufs := by
  rw [alloc_eq]
  split
  · exact List.prefix_append _ _
  · exact List.prefix_refl _

/-- one allocation preserves the invariant (for any address the environment hands out) -/
theorem inv_alloc (s : State) (log : List Placement) (r : Req) (h : Inv s log) (ha : 0 < r.align) :
    Inv (alloc s r).1 (log ++ [(alloc s r).2]) := by
  rw [alloc_eq]
  split
  · -- new buffer: the worst-case padding `align - 1` was provided for in `newCap`
    have := padding_lt r.fresh r.align ha
    exact h.push (List.prefix_append _ _)
      (Nat.le_trans (show padding r.fresh r.align + r.size ≤ r.size + (r.align - 1) by omega)
        (Nat.le_max_right _ _))
      List.length_append (Nat.le_refl _) (padding_aligned r.fresh r.align ha)
      (.inl List.length_append)
  · exact h.push (List.prefix_refl _) (Nat.le_of_not_gt ‹_›) rfl (Nat.le_refl _)
      (Nat.add_assoc .. ▸ padding_aligned (s.cur.base + s.offset) r.align ha)
      (.inr ⟨rfl, Nat.le_add_right _ _⟩)

theorem run_cons (s : State) (r : Req) (rs : List Req) :
    run s (r :: rs) = ((run (alloc s r).1 rs).1, (alloc s r).2 :: (run (alloc s r).1 rs).2) := rfl

/-- the invariant holds along every history -/
theorem inv_run (rs : List Req) : ∀ (s : State) (log : List Placement), Inv s log →
    (∀ r ∈ rs, 0 < r.align) → Inv (run s rs).1 (log ++ (run s rs).2) := by
  induction rs with
  | nil => intro s log h _; exact (List.append_nil log).symm ▸ h
  | cons r rs ih =>
    intro s log h ha
    have := ih _ _ (inv_alloc s log r h (ha r List.mem_cons_self)) fun r' hr' =>
      ha r' (List.mem_cons_of_mem _ hr')
    rw [← List.append_cons] at this
    exact this

theorem bufs_run_prefix (rs : List Req) : ∀ s : State, s.bufs <+: (run s rs).1.bufs := by
  induction rs with
  | nil => intro s; exact List.prefix_refl _
  | cons r rs ih => intro s; exact (bufs_alloc_prefix s r).trans (ih _)

theorem run_append (rs₁ rs₂ : List Req) : ∀ s : State,
    run s (rs₁ ++ rs₂) =
      ((run (run s rs₁).1 rs₂).1, (run s rs₁).2 ++ (run (run s rs₁).1 rs₂).2) := by
  induction rs₁ with
  | nil => intro s; rfl
  | cons r rs ih => intro s; simp only [List.cons_append, run_cons, ih]

end Abra.Arena
