import AbraModel.Sched
/-! Lemmas about the scheduler model `Abra.Sched` (M4): closed forms of the end-of-turn bookkeeping, the
thread `loop` picks on a clean state, and the induction along the turns of a call (`loop_rule`).
A state is called clean when nothing waits to be enqueued (`newThreads = []`) and `NoDone` holds. -/
namespace Abra.Sched
variable {T V E : Type}

/-- a thread that cannot run and is not finished: waiting for the host, or stopped by an error -/
def Thread.stuck (t : Thread T E) : Bool := !t.canRun && !t.done

/-- no thread that is released at the end of its turn (finished; a task stopped by an error, fix 39422dd) is waiting
    in a queue (`finish_thread_turn` never enqueues one) -/
def NoDone (r : Runtime T V E) : Prop :=
  (∀ t ∈ r.runQueue, t.gone = false) ∧ (∀ t ∈ r.newThreads, t.gone = false)

/-- every queued thread is blocked (waits for the host, or is the main thread stopped by an error) and nothing
    waits to be enqueued -/
def Stuck (r : Runtime T V E) : Prop :=
  r.newThreads = [] ∧ ∀ t ∈ r.runQueue, t.canRun = false ∧ t.gone = false

theorem canRun_done {t : Thread T E} (h : t.canRun = true) : t.gone = false := by
  unfold Thread.canRun at h
  unfold Thread.gone
  cases hd : t.done <;> cases he : t.err <;> simp_all

theorem gone_done {t : Thread T E} (h : t.gone = false) : t.done = false := by
  unfold Thread.gone at h
  cases hd : t.done <;> simp_all

theorem ftt_eq (r : Runtime T V E) (th : Thread T E) :
    finishThreadTurn r th =
      if th.isMain && th.done then ({ r with finishedMain := some th }, true)
      else ({ r with runQueue := r.runQueue ++ if th.gone then [] else [th] }, false) := by
  unfold finishThreadTurn Thread.gone
  cases th.isMain <;> cases th.done <;> cases th.err <;> simp

theorem ftt_notDone (r : Runtime T V E) (th : Thread T E) (h : th.gone = false) :
    finishThreadTurn r th = ({ r with runQueue := r.runQueue ++ [th] }, false) := by
  rw [ftt_eq, h, gone_done h]; simp

theorem drainAux_eq (ts : List (Thread T E)) (r : Runtime T V E) (h : ∀ t ∈ ts, t.gone = false) :
    drainAux r ts = ({ r with runQueue := r.runQueue ++ ts, newThreads := [] }, false) := by
  induction ts generalizing r with
  | nil => simp [drainAux]
  | cons t ts ih =>
    simp only [drainAux, ftt_notDone r t (h t (by simp)), Bool.false_eq_true, if_false]
    rw [ih _ (fun u hu => h u (by simp [hu]))]
    simp

theorem drain_eq (r : Runtime T V E) (h : ∀ t ∈ r.newThreads, t.gone = false) :
    drainNewThreads r = ({ r with runQueue := r.runQueue ++ r.newThreads, newThreads := [] }, false) :=
  drainAux_eq _ r h

theorem drain_nil (r : Runtime T V E) (h : r.newThreads = []) : drainNewThreads r = (r, false) := by
  cases r; simp_all [drainNewThreads, drainAux]

/-- what follows a thread's turn in `run_threads_round_robin`: `finish_thread_turn`, then — unless that reported
    the main thread — `drain_new_threads`; the flag says whether the main thread was reported finished -/
def endTurn (r : Runtime T V E) (th : Thread T E) : Runtime T V E × Bool :=
  if (finishThreadTurn r th).2 then finishThreadTurn r th else drainNewThreads (finishThreadTurn r th).1

theorem endTurn_eq (r : Runtime T V E) (th : Thread T E) (h : ∀ t ∈ r.newThreads, t.gone = false) :
    endTurn r th =
      if th.isMain && th.done then ({ r with finishedMain := some th }, true)
      else ({ r with runQueue := r.runQueue ++ (if th.gone then [] else [th]) ++ r.newThreads,
                     newThreads := [] }, false) := by
  have hf := ftt_eq r th
  unfold endTurn
  by_cases hc : (th.isMain && th.done) = true
  · rw [if_pos hc] at hf ⊢; rw [hf]; rfl
  · rw [if_neg hc] at hf ⊢; rw [hf]; exact drain_eq _ h

/-- the two tests of the flag in `skipPhase` and `loop`, as one test on `endTurn` -/
theorem endTurn_ite {β : Type} (r : Runtime T V E) (th : Thread T E) (M R : Runtime T V E → β) :
    (if (finishThreadTurn r th).2 then M (finishThreadTurn r th).1
     else if (drainNewThreads (finishThreadTurn r th).1).2 then M (drainNewThreads (finishThreadTurn r th).1).1
     else R (drainNewThreads (finishThreadTurn r th).1).1) =
    if (endTurn r th).2 then M (endTurn r th).1 else R (endTurn r th).1 := by
  unfold endTurn
  by_cases hc : (finishThreadTurn r th).2 = true
  · rw [if_pos hc, if_pos hc, if_pos hc]
  · rw [if_neg hc, if_neg hc]

theorem skipPhase_step (f k : Nat) (r : Runtime T V E) :
    skipPhase (f + 1) k r =
      if r.runQueue.length ≤ k then .exit r else
      match r.runQueue with
      | [] => .exit r
      | th :: rest =>
        if th.canRun then .run th { r with runQueue := rest }
        else if (endTurn { r with runQueue := rest } th).2 then .mainDone (endTurn { r with runQueue := rest } th).1
        else skipPhase f (k + 1) (endTurn { r with runQueue := rest } th).1 := by
  rw [skipPhase]
  simp only [endTurn_ite]
  rfl

theorem exec_keeps (step : T → Action T V E) (r : Runtime T V E) (th : Thread T E) :
    (exec step r th).1.runQueue = r.runQueue ∧ (exec step r th).1.finishedMain = r.finishedMain ∧
    (exec step r th).2.isMain = th.isMain ∧ (exec step r th).2.id = th.id := by
  unfold exec
  cases step th.st with
  | read c k => dsimp only; cases getQ r.chans c <;> exact ⟨rfl, rfl, rfl, rfl⟩
  | _ => exact ⟨rfl, rfl, rfl, rfl⟩

theorem exec_newThreads (step : T → Action T V E) (r : Runtime T V E) (th : Thread T E) :
    (exec step r th).1.newThreads = r.newThreads ++
      match step th.st with
      | .spawn child _ => [{ id := r.nextId, isMain := false, st := child }]
      | _ => [] := by
  unfold exec
  cases step th.st with
  | read c k => dsimp only; cases getQ r.chans c <;> exact (List.append_nil _).symm
  | spawn c t => rfl
  | _ => exact (List.append_nil _).symm

theorem exec_trace (step : T → Action T V E) (r : Runtime T V E) (th : Thread T E) :
    ∃ k, (exec step r th).1.trace = r.trace ++ [⟨th.id, k⟩] ∧
      ((exec step r th).2.done = true → th.done = false → k = .stop) := by
  unfold exec
  cases step th.st with
  | read c k => dsimp only; cases getQ r.chans c <;> exact ⟨_, rfl, fun h h' => by simp [h'] at h⟩
  | stop t => exact ⟨_, rfl, fun _ _ => rfl⟩
  | _ => exact ⟨_, rfl, fun h h' => by simp [h'] at h⟩

theorem exec_newThreads_forall (step : T → Action T V E) (r : Runtime T V E) (th : Thread T E)
    (P : Thread T E → Prop) (hP : ∀ c, P { id := r.nextId, isMain := false, st := c })
    (h : ∀ t ∈ r.newThreads, P t) : ∀ t ∈ (exec step r th).1.newThreads, P t := by
  rw [exec_newThreads]
  intro t ht
  rcases List.mem_append.mp ht with ht | ht
  · exact h t ht
  · split at ht
    · cases List.mem_singleton.mp ht; exact hP _
    · cases ht

theorem exec_newThreads_notGone (step : T → Action T V E) (r : Runtime T V E) (th : Thread T E)
    (h : ∀ t ∈ r.newThreads, t.gone = false) : ∀ t ∈ (exec step r th).1.newThreads, t.gone = false :=
  exec_newThreads_forall step r th _ (fun _ => rfl) h

/-- **The scheduler's choice, stated on lists.**  With the queue `A ++ B`, nothing waiting to be enqueued, the
    last `k = |B|` threads already skipped and no `gone` thread in `A`, the skipping turns rotate the longest
    blocked prefix of `A` to the back and pick the first thread of `A` that can run; when there is none the loop
    ends with the queue `B ++ A`. -/
theorem skipPhase_spec (f k : Nat) (r : Runtime T V E) (A B : List (Thread T E))
    (hk : B.length = k) (hA : ∀ t ∈ A, t.gone = false) (hf : A.length < f) :
    skipPhase f k { r with runQueue := A ++ B, newThreads := [] } =
      match A.dropWhile (fun t => !t.canRun) with
      | [] => .exit { r with runQueue := B ++ A, newThreads := [] }
      | th :: A2 =>
        .run th { r with runQueue := A2 ++ B ++ A.takeWhile (fun t => !t.canRun), newThreads := [] } := by
  induction f generalizing k A B with
  | zero => exact absurd hf (Nat.not_lt_zero _)
  | succ f ih =>
    cases A with
    | nil => rw [skipPhase_step, if_pos (by simp [hk])]; simp
    | cons th A' =>
      have hth : th.gone = false := hA th List.mem_cons_self
      have hlen : ¬ (th :: A' ++ B).length ≤ k := by
        rw [← hk, List.length_append]
        exact Nat.not_le.mpr (Nat.lt_add_of_pos_left (Nat.succ_pos _))
      rw [skipPhase_step, if_neg hlen]
      dsimp only [List.cons_append]
      cases hc : th.canRun with
      | true => simp [hc]
      | false =>
        -- the blocked thread goes to the back: `B` grows by it
        rw [endTurn_eq _ th (fun _ ht => by cases ht)]
        simp only [gone_done hth, hth, Bool.and_false, Bool.false_eq_true, if_false, List.append_nil,
          List.append_assoc]
        rw [ih (k + 1) A' (B ++ [th]) (by rw [List.length_append, hk]; rfl) (fun t ht => hA t (List.mem_cons_of_mem _ ht))
          (Nat.lt_of_succ_lt_succ hf)]
        simp only [List.dropWhile_cons_of_pos, List.takeWhile_cons_of_pos, hc, Bool.not_false]
        split <;> simp

/-- at call entry / after an executed instruction (`skipped_threads = 0`) -/
theorem skipPhase_zero (r : Runtime T V E) (hn : r.newThreads = [])
    (hd : ∀ t ∈ r.runQueue, t.gone = false) :
    skipPhase (r.runQueue.length + r.newThreads.length + 1) 0 r =
      match r.runQueue.dropWhile (fun t => !t.canRun) with
      | [] => .exit r
      | th :: A2 => .run th { r with runQueue := A2 ++ r.runQueue.takeWhile (fun t => !t.canRun) } := by
  obtain ⟨q, nt, fm, ch, ni, tr⟩ := r
  cases hn
  have h := skipPhase_spec (q.length + 0 + 1) 0 ⟨q, [], fm, ch, ni, tr⟩ q [] rfl hd (Nat.lt_succ_self _)
  simp only [List.append_nil, List.nil_append] at h
  exact h

/-- an executed instruction with the bookkeeping that follows it in `loop`: the runtime in which the loop goes on,
    and whether the main thread was reported finished -/
def turn (step : T → Action T V E) (r0 : Runtime T V E) (th : Thread T E) : Runtime T V E × Bool :=
  endTurn (exec step r0 th).1 (exec step r0 th).2

theorem loop_turn (step : T → Action T V E) (rem s : Nat) (r : Runtime T V E) :
    loop step (rem + 1) s r =
      match skipPhase (r.runQueue.length + r.newThreads.length + 1) 0 r with
      | .exit r' => (r', false, s)
      | .mainDone r' => (r', true, s)
      | .run th r0 =>
        if (turn step r0 th).2 then ((turn step r0 th).1, true, s + 1)
        else loop step rem (s + 1) (turn step r0 th).1 := by
  rw [loop]
  simp only [turn, endTurn_ite _ _ (fun x => (x, true, s + 1))]
  rfl

theorem loop_succ (step : T → Action T V E) (rem s : Nat) (r : Runtime T V E)
    (hn : r.newThreads = []) (hd : NoDone r) :
    loop step (rem + 1) s r =
      match r.runQueue.dropWhile (fun t => !t.canRun) with
      | [] => (r, false, s)
      | th :: A2 =>
        let r0 : Runtime T V E := { r with runQueue := A2 ++ r.runQueue.takeWhile (fun t => !t.canRun) }
        let e := exec step r0 th
        let p := finishThreadTurn e.1 e.2
        if p.2 then (p.1, true, s + 1) else
        let q := drainNewThreads p.1
        if q.2 then (q.1, true, s + 1) else loop step rem (s + 1) q.1 := by
  rw [loop, skipPhase_zero r hn hd.1]
  cases hdw : r.runQueue.dropWhile (fun t => !t.canRun) <;> rfl

/-- `loop_succ` with the bookkeeping folded into `turn` -/
theorem loop_pick (step : T → Action T V E) (rem s : Nat) (r : Runtime T V E)
    (hn : r.newThreads = []) (hd : NoDone r) :
    loop step (rem + 1) s r =
      match r.runQueue.dropWhile (fun t => !t.canRun) with
      | [] => (r, false, s)
      | th :: A2 =>
        let t := turn step { r with runQueue := A2 ++ r.runQueue.takeWhile (fun t => !t.canRun) } th
        if t.2 then (t.1, true, s + 1) else loop step rem (s + 1) t.1 := by
  rw [loop_turn, skipPhase_zero r hn hd.1]
  cases hdw : r.runQueue.dropWhile (fun t => !t.canRun) <;> rfl

theorem mem_rotate {α} (p : α → Bool) (q : List α) (x : α) (xs : List α) (h : q.dropWhile p = x :: xs) (y : α) :
    y ∈ q ↔ y = x ∨ y ∈ xs ++ q.takeWhile p := by
  have hq : q = q.takeWhile p ++ x :: xs := by rw [← h, List.takeWhile_append_dropWhile]
  conv => lhs; rw [hq]
  simp only [List.mem_append, List.mem_cons, or_comm, or_assoc]

theorem noDone_r0 (r : Runtime T V E) (hd : NoDone r) (th : Thread T E) (A2 : List (Thread T E))
    (hdw : r.runQueue.dropWhile (fun t => !t.canRun) = th :: A2) :
    NoDone ({ r with runQueue := A2 ++ r.runQueue.takeWhile (fun t => !t.canRun) } : Runtime T V E) :=
  ⟨fun t ht => hd.1 t ((mem_rotate _ _ _ _ hdw t).mpr (.inr ht)), hd.2⟩

theorem turn_eq (step : T → Action T V E) (r0 : Runtime T V E) (th : Thread T E)
    (h : ∀ t ∈ r0.newThreads, t.gone = false) :
    turn step r0 th =
      if (exec step r0 th).2.isMain && (exec step r0 th).2.done then
        ({ (exec step r0 th).1 with finishedMain := some (exec step r0 th).2 }, true)
      else
        ({ (exec step r0 th).1 with
            runQueue := r0.runQueue ++ (if (exec step r0 th).2.gone then [] else [(exec step r0 th).2]) ++
              (exec step r0 th).1.newThreads,
            newThreads := [] }, false) := by
  rw [turn, endTurn_eq _ _ (exec_newThreads_notGone step r0 th h)]
  simp only [(exec_keeps step r0 th).1]

theorem turn_noDone (step : T → Action T V E) (r0 : Runtime T V E) (th : Thread T E) (h : NoDone r0) :
    NoDone (turn step r0 th).1 ∧ ((turn step r0 th).2 = false → (turn step r0 th).1.newThreads = []) := by
  have hn := exec_newThreads_notGone step r0 th h.2
  rw [turn_eq step r0 th h.2]
  by_cases hc : ((exec step r0 th).2.isMain && (exec step r0 th).2.done) = true
  · rw [if_pos hc]
    exact ⟨⟨by rw [(exec_keeps step r0 th).1]; exact h.1, hn⟩, fun hf => by cases hf⟩
  · rw [if_neg hc]
    refine ⟨⟨fun t ht => ?_, fun _ ht => by cases ht⟩, fun _ => rfl⟩
    rcases List.mem_append.mp ht with ht | ht
    · rcases List.mem_append.mp ht with ht | ht
      · exact h.1 t ht
      · by_cases hg : (exec step r0 th).2.gone = true
        · rw [if_pos hg] at ht; cases ht
        · rw [if_neg hg] at ht; cases List.mem_singleton.mp ht; exact Bool.eq_false_iff.mpr hg
    · exact hn t ht

/-- every turn from a clean state on which `I` holds keeps `I`, unless it reports the main thread: then it
    establishes `F`.  The turn is named by an equation, so that a proof can rewrite it to its closed form
    (`turn_eq`) before substituting. -/
def TurnInv (step : T → Action T V E) (I F : Runtime T V E → Prop) : Prop :=
  ∀ (r : Runtime T V E) th A2, r.newThreads = [] → NoDone r → I r →
    r.runQueue.dropWhile (fun t => !t.canRun) = th :: A2 →
    ∀ t, t = turn step { r with runQueue := A2 ++ r.runQueue.takeWhile (fun t => !t.canRun) } th →
      if t.2 then F t.1 else I t.1

theorem turnInv_true (step : T → Action T V E) : TurnInv step (fun _ => True) (fun _ => True) :=
  fun _ _ _ _ _ _ _ t _ => by split <;> trivial

/-- **Induction along the turns of a call.**  From a clean state `loop` stays on clean states; an invariant `I`
    that every turn but the reporting one keeps holds when the call returns without the main thread, and what the
    reporting turn establishes (`F`) holds when it returns with it — which needs at least one instruction. -/
theorem loop_rule (step : T → Action T V E) (I F : Runtime T V E → Prop)
    (hturn : TurnInv step I F)
    (rem s : Nat) (r : Runtime T V E) (hn : r.newThreads = []) (hd : NoDone r) (hI : I r) :
    NoDone (loop step rem s r).1 ∧
    ((loop step rem s r).2.1 = true → F (loop step rem s r).1 ∧ s + 1 ≤ (loop step rem s r).2.2) ∧
    ((loop step rem s r).2.1 = false → I (loop step rem s r).1 ∧ (loop step rem s r).1.newThreads = []) := by
  induction rem generalizing s r with
  | zero => exact ⟨hd, fun h => Bool.noConfusion h, fun _ => ⟨hI, hn⟩⟩
  | succ rem ih =>
    rw [loop_pick step rem s r hn hd]
    cases hdw : r.runQueue.dropWhile (fun t => !t.canRun) with
    | nil => exact ⟨hd, by simp, fun _ => ⟨hI, hn⟩⟩
    | cons th A2 =>
      have ht := hturn r th A2 hn hd hI hdw _ rfl
      have hc := turn_noDone step _ th (noDone_r0 r hd th A2 hdw)
      dsimp only
      generalize turn step _ th = t at ht hc ⊢
      obtain ⟨r', fl⟩ := t
      cases fl
      · have := ih (s + 1) r' (hc.2 rfl) hc.1 ht
        exact ⟨this.1, fun h => ⟨(this.2.1 h).1, Nat.le_of_succ_le (this.2.1 h).2⟩, this.2.2⟩
      · exact ⟨hc.1, fun _ => ⟨ht, Nat.le_refl _⟩, fun h => by cases h⟩

theorem loop_blocked (step : T → Action T V E) (b s : Nat) (r : Runtime T V E) (hn : r.newThreads = [])
    (hd : NoDone r) (h : r.runQueue.dropWhile (fun t => !t.canRun) = []) : loop step b s r = (r, false, s) := by
  cases b with
  | zero => rfl
  | succ b => rw [loop_pick step b s r hn hd, h]

/-- **Budgets add up.**  On a clean state, a budget `a + b` behaves like budget `a` followed — unless the
    main thread finished — by budget `b` on the resulting state, with the step counter carried over. -/
theorem loop_add (step : T → Action T V E) (a b s : Nat) (r : Runtime T V E)
    (hn : r.newThreads = []) (hd : NoDone r) :
    loop step (a + b) s r =
      (if (loop step a s r).2.1 then loop step a s r
       else loop step b (loop step a s r).2.2 (loop step a s r).1) := by
  induction a generalizing s r with
  | zero => rw [Nat.zero_add]; rfl
  | succ a ih =>
    rw [Nat.add_right_comm a 1 b, loop_pick step (a + b) s r hn hd, loop_pick step a s r hn hd]
    cases hdw : r.runQueue.dropWhile (fun t => !t.canRun) with
    | nil => exact (loop_blocked step b s r hn hd hdw).symm
    | cons th A2 =>
      have hc := turn_noDone step _ th (noDone_r0 r hd th A2 hdw)
      cases hf : (turn step { r with runQueue := A2 ++ r.runQueue.takeWhile (fun t => !t.canRun) } th).2
      · simp only [hf, Bool.false_eq_true, if_false]
        exact ih (s + 1) _ (hc.2 hf) hc.1
      · simp only [hf, if_true]

/-- the step counter is an accumulator -/
theorem loop_steps_shift (step : T → Action T V E) (rem s : Nat) (r : Runtime T V E) :
    loop step rem s r = ((loop step rem 0 r).1, (loop step rem 0 r).2.1, s + (loop step rem 0 r).2.2) := by
  induction rem generalizing s r with
  | zero => rfl
  | succ rem ih =>
    rw [loop_turn, loop_turn]
    cases skipPhase (r.runQueue.length + r.newThreads.length + 1) 0 r with
    | run th r0 =>
      dsimp only
      by_cases hf : (turn step r0 th).2 = true
      · rw [if_pos hf, if_pos hf]
      · rw [if_neg hf, if_neg hf, ih (s + 1), ih (0 + 1), Nat.zero_add, Nat.add_assoc]
    | _ => simp

theorem runN_eq (step : T → Action T V E) (b : Nat) (r : Runtime T V E) :
    runN step b r =
      ⟨(roundRobin step b r).1, if (roundRobin step b r).2.1 then .done else updateStatus (roundRobin step b r).1,
       (roundRobin step b r).2.2, (roundRobin step b r).2.1⟩ := by
  unfold runN
  by_cases hc : (roundRobin step b r).2.1 = true
  · rw [if_pos hc, if_pos hc, hc]
  · rw [if_neg hc, if_neg hc, Bool.eq_false_iff.mpr hc]

theorem roundRobin_eq (step : T → Action T V E) (b : Nat) (r : Runtime T V E) (hd : NoDone r) :
    roundRobin step b r = loop step b 0 { r with runQueue := r.runQueue ++ r.newThreads, newThreads := [] } ∧
    NoDone ({ r with runQueue := r.runQueue ++ r.newThreads, newThreads := [] } : Runtime T V E) :=
  ⟨by simp [roundRobin, drain_eq r hd.2],
   fun t ht => (List.mem_append.mp ht).elim (hd.1 t) (hd.2 t), by simp⟩

theorem runN_rule (step : T → Action T V E) (I F : Runtime T V E → Prop)
    (hturn : TurnInv step I F)
    (b : Nat) (r : Runtime T V E) (hd : NoDone r)
    (hI : I { r with runQueue := r.runQueue ++ r.newThreads, newThreads := [] }) :
    NoDone (runN step b r).rt ∧
    ((runN step b r).doneNow = true → F (runN step b r).rt ∧ 1 ≤ (runN step b r).steps) ∧
    ((runN step b r).doneNow = false → I (runN step b r).rt ∧ (runN step b r).rt.newThreads = []) := by
  rw [runN_eq, (roundRobin_eq step b r hd).1]
  exact loop_rule step I F hturn b 0 _ rfl (roundRobin_eq step b r hd).2 hI

theorem runN_noDone (step : T → Action T V E) (b : Nat) (r : Runtime T V E) (hd : NoDone r) :
    NoDone (runN step b r).rt :=
  (runN_rule step _ _ (turnInv_true step) b r hd trivial).1

/-- budgets add up (see `C10_runN_add`) -/
theorem runN_add (step : T → Action T V E) (a b : Nat) (r : Runtime T V E) (hd : NoDone r) :
    runN step (a + b) r =
      (if (runN step a r).doneNow then runN step a r
       else { runN step b (runN step a r).rt with
              steps := (runN step a r).steps + (runN step b (runN step a r).rt).steps }) := by
  have hc := (roundRobin_eq step a r hd).2
  simp only [runN_eq, (roundRobin_eq step _ r hd).1]
  rw [loop_add step a b 0 _ rfl hc]
  cases hf : (loop step a 0 { r with runQueue := r.runQueue ++ r.newThreads, newThreads := [] }).2.1
  · -- the first part left nothing waiting to be enqueued
    have hn := ((loop_rule step _ _ (turnInv_true step) a 0 _ rfl hc trivial).2.2 hf).2
    simp only [roundRobin, drain_nil _ hn, Bool.false_eq_true, if_false]
    rw [loop_steps_shift]
  · simp only [hf, if_true]

theorem runN_stuck (step : T → Action T V E) (b : Nat) (r : Runtime T V E) (h : Stuck r) :
    runN step b r = ⟨r, updateStatus r, 0, false⟩ := by
  have hd : NoDone r := ⟨fun t ht => (h.2 t ht).2, by simp [h.1]⟩
  have hb : r.runQueue.dropWhile (fun t => !t.canRun) = [] := by
    simpa using List.dropWhile_append_of_pos (l₂ := []) fun t ht => by simp [(h.2 t ht).1]
  simp [runN_eq, roundRobin, drain_nil r h.1, loop_blocked step b 0 r h.1 hd hb]

theorem noDone_new (m : T) : NoDone (Runtime.new m : Runtime T V E) :=
  ⟨fun t ht => by cases List.mem_singleton.mp ht; rfl, fun t ht => by cases ht⟩

theorem serviceList_notGone {H : Type} (host : H → Nat → T → H × T) (h : H) (q : List (Thread T E))
    (hq : ∀ t ∈ q, t.gone = false) : ∀ t ∈ (serviceList host h q).2, t.gone = false := by
  induction q generalizing h with
  | nil => simp [serviceList]
  | cons t q ih =>
    have hq := List.forall_mem_cons.mp hq
    unfold serviceList
    split <;> exact List.forall_mem_cons.mpr ⟨hq.1, ih _ hq.2⟩

theorem serviceAll_noDone {H : Type} (host : H → Nat → T → H × T) (h : H) (r : Runtime T V E)
    (hd : NoDone r) : NoDone (serviceAll host h r).2 :=
  ⟨serviceList_notGone host h _ hd.1, hd.2⟩

/-- **Induction along an embedder's schedule.**  What holds of (host state, runtime, steps so far) at the start and
    is kept by every `run_n_steps` call and by servicing holds when `drive` returns. -/
theorem drive_induct {H : Type} (step : T → Action T V E) (host : H → Nat → T → H × T)
    (Q : H → Runtime T V E → Nat → Prop)
    (hrun : ∀ b h r n, Q h r n → Q h (runN step b r).rt (n + (runN step b r).steps))
    (hsv : ∀ h r n, Q h r n → Q (serviceAll host h r).1 (serviceAll host h r).2 n)
    (s : List (Nat × Bool)) (h : H) (r : Runtime T V E) (n : Nat) (hq : Q h r n) :
    Q (drive step host s h r n).1 (drive step host s h r n).2.1 (drive step host s h r n).2.2.1 := by
  induction s generalizing h r n with
  | nil => exact hq
  | cons c rest ih =>
    obtain ⟨b, sv⟩ := c
    have hx := hrun b h r n hq
    have hy := hsv _ _ _ hx
    unfold drive
    simp only
    split
    · exact hx
    · exact hx
    · split
      · cases sv
        · exact hx
        · exact hy
      · cases sv
        · exact ih _ _ _ hx
        · exact ih _ _ _ hy

end Abra.Sched
