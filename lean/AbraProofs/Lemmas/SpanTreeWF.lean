import AbraProofs.Lemmas.SpanTree
/-! Soundness of the executable hypothesis checks of `AbraModel/SpanTree.lean`:
   `nestedB`, `cutB`, `uniqueB` imply `Nested`, `CutOK`, `Unique`; `nestedIB` implies `NestedI`. -/
namespace Abra.SpanTree

mutual
theorem hit_iff (off id : Nat) : ∀ t, Hit off id t ↔ ∃ e ∈ idents t, e.2.2 = id ∧ e.1 ≤ off ∧ off < e.2.1
  | .ident lo hi i => by
    show _ ↔ ∃ e ∈ [(lo, hi, i)], _
    simp only [List.mem_singleton, exists_eq_left]
    rfl
  | .node _ _ kids => hitL_iff off id kids
theorem hitL_iff (off id : Nat) : ∀ ks, HitL off id ks ↔ ∃ e ∈ identsL ks, e.2.2 = id ∧ e.1 ≤ off ∧ off < e.2.1
  | [] => ⟨False.elim, nofun⟩
  | k :: ks => by
    show _ ∨ _ ↔ ∃ e ∈ idents k ++ identsL ks, _
    simp only [hit_iff off id k, hitL_iff off id ks, List.mem_append, or_and_right, exists_or]
end

theorem within_inSpan {s : Span} {e : Nat × Nat × Nat} {off : Nat} (h : within s e = true)
    (h1 : e.1 ≤ off) (h2 : off < e.2.1) : inSpan s off = true := by
  cases s with
  | none => rfl
  | some p =>
    obtain ⟨lo, hi⟩ := p
    simp only [within, Bool.or_eq_true, Bool.and_eq_true, decide_eq_true_eq] at h
    simp only [inSpan, Bool.and_eq_true, decide_eq_true_eq]
    omega

mutual
theorem nestedB_sound : ∀ t, nestedB t = true → Nested t
  | .ident _ _ _, _ => trivial
  | .node span _ kids, h => by
    simp only [nestedB, Bool.and_eq_true, List.all_eq_true] at h
    refine ⟨?_, nestedBL_sound kids h.2⟩
    intro off id hh
    obtain ⟨e, he, _, h1, h2⟩ := (hitL_iff off id kids).1 hh
    exact within_inSpan (h.1 e he) h1 h2
theorem nestedBL_sound : ∀ ks, nestedBL ks = true → NestedL ks
  | [], _ => trivial
  | k :: ks, h => by
    simp only [nestedBL, Bool.and_eq_true] at h
    exact ⟨nestedB_sound k h.1, nestedBL_sound ks h.2⟩
end

theorem cutSpan_of_cuts (k : STree) (off : Nat) : k.cuts off = true → ∃ s, cutSpan k = some s ∧ inSpan (some s) off = true :=
  match k with
  | .node (some s) true _ => fun h => ⟨s, rfl, h⟩
  | .node (some _) false _ => nofun
  | .node none _ _ => nofun
  | .ident _ _ _ => nofun

theorem disjointFrom_sound {s : Nat × Nat} {e : Nat × Nat × Nat} {off : Nat} (hd : disjointFrom s e = true)
    (hin : inSpan (some s) off = true) (h1 : e.1 ≤ off) (h2 : off < e.2.1) : False := by
  simp only [disjointFrom, Bool.or_eq_true, decide_eq_true_eq] at hd
  have := (inSpan_some s.1 s.2 off).1 hin
  omega

mutual
theorem cutB_sound : ∀ t, cutB t = true → CutOK t
  | .ident _ _ _, _ => trivial
  | .node _ _ kids, h => cutBL_sound kids h
theorem cutBL_sound : ∀ ks, cutBL ks = true → CutOKL ks
  | [], _ => trivial
  | k :: ks, h => by
    simp only [cutBL, Bool.and_eq_true] at h
    refine ⟨cutB_sound k h.1.1, fun off id hc hh => ?_, cutBL_sound ks h.2⟩
    obtain ⟨s, hs, hin⟩ := cutSpan_of_cuts k off hc
    obtain ⟨e, he, _, h1, h2⟩ := (hitL_iff off id ks).1 hh
    have hall := h.1.2
    rw [hs] at hall
    exact disjointFrom_sound (List.all_eq_true.1 hall e he) hin h1 h2
end

theorem uniqueB_sound (t : STree) (h : uniqueB t = true) : Unique t := by
  intro off a b ha hb
  obtain ⟨ea, hea, ra, a1, a2⟩ := (hit_iff off a t).1 ha
  obtain ⟨eb, heb, rb, b1, b2⟩ := (hit_iff off b t).1 hb
  simp only [uniqueB, List.all_eq_true] at h
  have := h ea hea eb heb
  simp only [overlapOK, Bool.or_eq_true, decide_eq_true_eq, beq_iff_eq] at this
  omega

theorem wfB_sound (t : STree) (h : wfB t = true) : Nested t ∧ CutOK t ∧ Unique t := by
  simp only [wfB, Bool.and_eq_true] at h
  exact ⟨nestedB_sound t h.1.1, cutB_sound t h.1.2, uniqueB_sound t h.2⟩

mutual
theorem cand_iff (off id : Nat) : ∀ t, Cand off id t ↔ ∃ c ∈ cands t, c.2 = id ∧ inSpan c.1 off = true
  | .leaf lo hi i => by
    show _ ↔ ∃ c ∈ [(some (lo, hi), i)], _
    simp only [List.mem_singleton, exists_eq_left, inSpan_some]
    rfl
  | .node span self kids => by
    cases self with
    | none =>
      show _ ∨ _ ↔ ∃ c ∈ candsL kids, _
      rw [candL_iff off id kids]
      exact or_iff_right nofun
    | some i =>
      show _ ∨ _ ↔ ∃ c ∈ (span, i) :: candsL kids, _
      simp only [candL_iff off id kids, List.mem_cons, exists_eq_or_imp, Option.some.injEq]
theorem candL_iff (off id : Nat) : ∀ ks, CandL off id ks ↔ ∃ c ∈ candsL ks, c.2 = id ∧ inSpan c.1 off = true
  | [] => ⟨False.elim, nofun⟩
  | k :: ks => by
    show _ ∨ _ ↔ ∃ c ∈ cands k ++ candsL ks, _
    simp only [cand_iff off id k, candL_iff off id ks, List.mem_append, or_and_right, exists_or]
end

theorem withinI_inSpan {s : Span} {c : Span × Nat} {off : Nat} (h : withinI s c = true)
    (hin : inSpan c.1 off = true) : inSpan s off = true :=
  match s, c, h with
  | none, _, _ => rfl
  | some _, (none, _), h => nomatch h
  | some (lo, hi), (some (l, r), i), h =>
    have hlr := (inSpan_some l r off).1 hin
    within_inSpan (s := some (lo, hi)) (e := (l, r, i)) h hlr.1 hlr.2

mutual
theorem nestedIB_sound : ∀ t, nestedIB t = true → NestedI t
  | .leaf _ _ _, _ => trivial
  | .node span _ kids, h => by
    simp only [nestedIB, Bool.and_eq_true, List.all_eq_true] at h
    refine ⟨?_, nestedIBL_sound kids h.2⟩
    intro off id hh
    obtain ⟨c, hc, _, hin⟩ := (candL_iff off id kids).1 hh
    exact withinI_inSpan (h.1 c hc) hin
theorem nestedIBL_sound : ∀ ks, nestedIBL ks = true → NestedIL ks
  | [], _ => trivial
  | k :: ks, h => by
    simp only [nestedIBL, Bool.and_eq_true] at h
    exact ⟨nestedIB_sound k h.1, nestedIBL_sound ks h.2⟩
end

end Abra.SpanTree
