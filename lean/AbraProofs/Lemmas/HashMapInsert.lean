import AbraProofs.Lemmas.HashMapResize
/-! For C27: `insert` after its resize check — update in place, slot from the free list, new
    slot — and then as a whole. -/
namespace Abra.Lib.HashMap

variable {K V : Type}

theorem count_true_set (l : List Bool) (i : Nat) (a x : Bool) (h : l[i]? = some a) :
    (l.set i x).count true + a.toNat = l.count true + x.toNat := by
  induction l generalizing i with
  | nil => cases h
  | cons c l ih =>
    cases i with
    | zero =>
      cases Option.some.inj h
      simp only [List.set_cons_zero, List.count_cons]
      cases a <;> cases x <;> rfl
    | succ i =>
      have := ih i h
      simp only [List.set_cons_succ, List.count_cons]
      omega

section
variable {hash : K → Int} {eq : K → K → Bool} {t : Table K V} {ch : Nat → List Nat} {fr : List Nat}

/-- Slot `tg` is written with a key equal to `k` (or keeps such a key) and the value `v`, the other slots stay
    as they are, and no other slot holds `k`: the table then means the dictionary updated at `k`. -/
theorem meaning_set (law : Lawful hash eq) {t' : Table K V} {d : K → Option V}
    (hd : ∀ k v, d k = some v ↔ ∃ i, Holds eq t k i ∧ t.values[i]? = some v) {k : K} {v : V} {tg : Nat}
    (hHolds : ∀ k' j, Holds eq t' k' j ↔ (j = tg ∧ eq k k' = true) ∨ (j ≠ tg ∧ Holds eq t k' j))
    (hV : ∀ j, t'.values[j]? = if j = tg then some v else t.values[j]?)
    (htg : ∀ k', Holds eq t k' tg → eq k k' = true) (hnone : ∀ j, j ≠ tg → ¬ Holds eq t k j) (k' : K) (v' : V) :
    (if eq k k' = true then some v else d k') = some v' ↔ ∃ i, Holds eq t' k' i ∧ t'.values[i]? = some v' := by
  by_cases hk : eq k k' = true
  · rw [if_pos hk]
    constructor
    · rintro ⟨⟩
      exact ⟨tg, (hHolds k' tg).mpr (Or.inl ⟨rfl, hk⟩), by rw [hV, if_pos rfl]⟩
    · rintro ⟨j, hj, hv⟩
      rcases (hHolds k' j).mp hj with ⟨rfl, _⟩ | ⟨hne, ⟨oj, kj, hkj, ekj⟩⟩
      · rwa [hV, if_pos rfl] at hv
      · exact absurd ⟨oj, kj, hkj, law.trans _ _ _ ekj (law.symm _ _ hk)⟩ (hnone j hne)
  · rw [if_neg hk, hd k' v']
    constructor
    · rintro ⟨j, hj, hv⟩
      have hne : j ≠ tg := fun e => hk (htg k' (e ▸ hj))
      exact ⟨j, (hHolds k' j).mpr (Or.inr ⟨hne, hj⟩), by rwa [hV, if_neg hne]⟩
    · rintro ⟨j, hj, hv⟩
      rcases (hHolds k' j).mp hj with ⟨_, e⟩ | ⟨hne, hold⟩
      · exact absurd e hk
      · exact ⟨j, hold, by rwa [hV, if_neg hne] at hv⟩

/-- in-place update of the value of the slot holding the key -/
theorem update_spec (law : Lawful hash eq) (wf : WF hash eq t ch fr) (d : K → Option V)
    (hd : ∀ k v, d k = some v ↔ ∃ i, Holds eq t k i ∧ t.values[i]? = some v)
    (k : K) (v : V) (i : Nat) (hi : Holds eq t k i) :
    Models hash eq { t with values := t.values.set i v } (fun k' => if eq k k' = true then some v else d k') := by
  have hilt : i < t.values.length := wf.lenV ▸ hi.lt
  refine ⟨⟨ch, fr, { wf with lenV := List.length_set.trans wf.lenV }⟩, ?_⟩
  refine meaning_set law hd (fun k' j => ?_) (fun j => getElem?_set' _ _ _ _ hilt) (fun k' h => (hi.congr law).mp h)
    (fun j hne hj => hne (Holds.unique law wf hj hi))
  -- the slots hold the keys they held; slot `i` holds exactly the keys equal to `k`
  show Holds eq t k' j ↔ _
  by_cases e : j = i
  · subst e
    simp [hi.congr law]
  · simp [e]

/-- a key that no slot holds is stored in a so far unoccupied slot `tg` (taken from the free list or
    newly appended) and linked at the head of its bucket chain -/
theorem fresh_slot_spec (law : Lawful hash eq) (wf : WF hash eq t ch fr) (d : K → Option V)
    (hd : ∀ k v, d k = some v ↔ ∃ i, Holds eq t k i ∧ t.values[i]? = some v)
    (k : K) (v : V) (b : Nat) (hbm : (hash k % (t.buckets.length : Int)).toNat = b)
    (s : Int) (hs : t.buckets[b]? = some s) (hnone : ∀ j, ¬ Holds eq t k j)
    (tg : Nat) (t' : Table K V)
    (hK : Put t.keys tg k t'.keys) (hV : Put t.values tg v t'.values) (hH : Put t.hashes tg (hash k) t'.hashes)
    (hN : Put t.nexts tg s t'.nexts) (hO : Put t.occupied tg true t'.occupied)
    (hB : t'.buckets = t.buckets.set b (tg : Int))
    (hfree : t.occupied[tg]? ≠ some true)
    (hfc : Chain t.nexts t'.freeList (fr.erase tg))
    (hcount : t'.count = t.count + 1) (hcnt : t'.occupied.count true = t.occupied.count true + 1) :
    Models hash eq t' (fun k' => if eq k k' = true then some v else d k') := by
  obtain ⟨lK, hK⟩ := hK
  obtain ⟨lV, hV⟩ := hV
  obtain ⟨lH, hH⟩ := hH
  obtain ⟨lN, hN⟩ := hN
  obtain ⟨lO, hO⟩ := hO
  have hm' : t'.buckets.length = t.buckets.length := by rw [hB, List.length_set]
  have hpos : t'.buckets.length ≠ 0 := hm' ▸ Nat.ne_of_gt (Nat.zero_lt_of_lt (getElem?_lt hs))
  have B : Buckets t'.buckets t'.nexts (slotHome t'.buckets.length t'.hashes t'.occupied)
      (fun b' => if b' = b then tg :: ch b else ch b') := by
    rw [hm', hB]
    refine wf.buckets.link hs (slotHome_of_not_occ hfree) (by rw [hN, if_pos rfl]) (fun i hi => by rw [hN, if_neg hi]) fun i => ?_
    rw [slotHome_write (hashes := t.hashes) hO (fun i hi => by rw [hH, if_neg hi]) (by rw [hH, if_pos rfl]) i, if_pos rfl, hbm]
  have hHolds : ∀ k' j, Holds eq t' k' j ↔ (j = tg ∧ eq k k' = true) ∨ (j ≠ tg ∧ Holds eq t k' j) := by
    intro k' j
    unfold Holds
    rw [hO j, hK j]
    by_cases hj : j = tg
    · rw [if_pos hj, if_pos hj]
      exact ⟨fun ⟨_, ki, e, h⟩ => Or.inl ⟨hj, Option.some.inj e ▸ h⟩,
        fun h => h.elim (fun h => ⟨rfl, k, rfl, h.2⟩) fun h => absurd hj h.1⟩
    · rw [if_neg hj, if_neg hj]
      exact ⟨fun h => Or.inr ⟨hj, h⟩, fun h => h.elim (fun h => absurd h.1 hj) fun h => h.2⟩
  have hfi : ∀ i, i ∈ fr.erase tg ↔ i ≠ tg ∧ t.occupied[i]? = some false :=
    fun i => by rw [wf.freeNodup.mem_erase_iff, wf.freeIff]
  refine ⟨⟨_, fr.erase tg, {
    lenV := by rw [lV, lK, wf.lenV]
    lenH := by rw [lH, lK, wf.lenH]
    lenN := by rw [lN, lK, wf.lenN]
    lenO := by rw [lO, lK, wf.lenO]
    noBuckets := fun h0 => absurd h0 hpos
    chain := fun b hb => (B b hb).head
    nodup := fun b hb => (B b hb).nodup
    inBucket := B.inBucket
    complete := B.complete hpos
    hashOk := ?_
    distinct := ?_
    freeChain := ?_
    freeNodup := wf.freeNodup.erase tg
    freeIff := ?_
    countOk := ?_ }⟩, ?_⟩
  · intro i k' ho hk
    by_cases hi : i = tg
    · subst hi
      rw [hK, if_pos rfl] at hk
      cases hk
      rw [hH, if_pos rfl]
    · rw [hO, if_neg hi] at ho
      rw [hK, if_neg hi] at hk
      rw [hH, if_neg hi]
      exact wf.hashOk i k' ho hk
  · -- distinct: by `hHolds`, two slots of `t'` holding `kj` are both `tg` or were two such slots of `t`
    intro i j ki kj hoi hoj hki hkj he
    rcases (hHolds kj i).mp ⟨hoi, ki, hki, he⟩ with ⟨rfl, ei⟩ | ⟨hi, hi'⟩ <;>
      rcases (hHolds kj j).mp ⟨hoj, kj, hkj, law.refl kj⟩ with ⟨rfl, ej⟩ | ⟨hj, hj'⟩
    · rfl
    · exact absurd ((hj'.congr law).mpr (law.symm _ _ ei)) (hnone j)
    · exact absurd ((hi'.congr law).mpr (law.symm _ _ ej)) (hnone i)
    · exact Holds.unique law wf hi' hj'
  · exact hfc.congr fun i hi => by rw [hN, if_neg ((hfi i).mp hi).1]
  · intro i
    rw [hfi i, hO i]
    by_cases hi : i = tg <;> simp [hi]
  · rw [hcount, hcnt, wf.countOk]
    rfl
  · exact meaning_set law hd hHolds hV (fun k' h => absurd h.1 hfree) (fun j _ => hnone j)

theorem insertCore_spec (law : Lawful hash eq) (t : Table K V) (d : K → Option V) (hm : Models hash eq t d)
    (hpos : t.buckets.length ≠ 0) (k : K) (v : V) :
    ∃ t', insertCore hash eq t k v = .ok t' ∧
      Models hash eq t' (fun k' => if eq k k' = true then some v else d k') ∧
      t'.count = t.count + (if d k = none then 1 else 0) := by
  obtain ⟨⟨ch, fr, wf⟩, hd⟩ := hm
  obtain ⟨b, s, hbi, hbm, hs, hch, hlen, hsome, hnone⟩ := wf.walk law hpos k
  have hb := getElem?_lt hs
  unfold insertCore
  simp only [hbi, getI_nat hs, findLoop_chain eq t (hash k) k wf.lenH wf.lenN hch _ hlen]
  cases hf : (ch b).find? (matchP eq t (hash k) k) with
  | some i =>
    have hi := (hsome i hf).2
    have hlt : i < t.values.length := wf.lenV ▸ hi.lt
    obtain ⟨vi, hvi⟩ := getElem?_of_lt hlt
    have hdk : d k ≠ none := by rw [(hd k vi).mpr ⟨i, hi, hvi⟩]; nofun
    simp only [Option.map_some, Int.ofNat_eq_natCast, setI_nat _ v hlt]
    exact ⟨_, rfl, update_spec law wf d hd k v i hi, by rw [if_neg hdk]; exact (Int.add_zero _).symm⟩
  | none =>
    have hnone := hnone hf
    have hdk : d k = none := absent_none hd hnone
    simp only [Option.map_none, hdk, if_true]
    by_cases hfl : t.freeList = -1
    · -- a new slot is appended
      have hfr : fr = [] := wf.freeChain.nil_iff.mpr hfl
      simp only [hfl, ne_eq, not_true_eq_false, if_false, setI_nat _ _ hb]
      refine ⟨_, rfl, ?_, rfl⟩
      exact fresh_slot_spec law wf d hd k v b hbm s hs hnone t.keys.length _ (Put.concat _ k)
        (wf.lenV ▸ Put.concat _ v) (wf.lenH ▸ Put.concat _ (hash k)) (wf.lenN ▸ Put.concat _ s)
        (wf.lenO ▸ Put.concat _ true) rfl (by rw [List.getElem?_eq_none (Nat.le_of_eq wf.lenO)]; nofun)
        (by rw [hfr]; exact Chain.nil) rfl (by simp)
    · -- a slot is taken from the free list
      obtain ⟨tg, nf, fr', htg, hfr, hnf, hfc'⟩ := wf.freeChain.uncons hfl
      have hoccF : t.occupied[tg]? = some false := (wf.freeIff _).mp (by rw [hfr]; exact List.mem_cons_self)
      have hlt : tg < t.keys.length := wf.lenO ▸ getElem?_lt hoccF
      rw [if_pos hfl, htg, getI_nat hnf, setI_nat t.keys k hlt, setI_nat t.values v (wf.lenV.symm ▸ hlt),
        setI_nat t.hashes (hash k) (wf.lenH.symm ▸ hlt), setI_nat t.nexts s (wf.lenN.symm ▸ hlt),
        setI_nat t.occupied true (wf.lenO.symm ▸ hlt), setI_nat _ _ hb]
      refine ⟨_, rfl, ?_, rfl⟩
      exact fresh_slot_spec law wf d hd k v b hbm s hs hnone tg _ (Put.set k hlt) (Put.set v (wf.lenV.symm ▸ hlt))
        (Put.set _ (wf.lenH.symm ▸ hlt)) (Put.set s (wf.lenN.symm ▸ hlt)) (Put.set true (wf.lenO.symm ▸ hlt)) rfl
        (by rw [hoccF]; nofun) (by rw [hfr, List.erase_cons_head]; exact hfc') rfl
        (count_true_set _ _ false true hoccF)

end

theorem insert_spec {hash : K → Int} {eq : K → K → Bool} (law : Lawful hash eq) (t : Table K V) (d : K → Option V)
    (hm : Models hash eq t d) (k : K) (v : V) :
    ∃ t', insert hash eq t k v = .ok t' ∧
      Models hash eq t' (fun k' => if eq k k' = true then some v else d k') ∧
      t'.count = t.count + (if d k = none then 1 else 0) := by
  unfold insert
  by_cases hr : t.keys.length ≥ t.buckets.length
  · obtain ⟨t1, e1, hm1, hc1, _, hpos⟩ := resize_spec t d hm
    simp only [hr, if_true, e1]
    obtain ⟨t', e', hm', hc'⟩ := insertCore_spec law t1 d hm1 hpos k v
    exact ⟨t', e', hm', by rw [hc', hc1]⟩
  · simp only [hr, if_false]
    exact insertCore_spec law t d hm (fun h0 => hr (h0 ▸ Nat.zero_le _)) k v

end Abra.Lib.HashMap
