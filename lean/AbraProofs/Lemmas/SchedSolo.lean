import AbraProofs.Lemmas.Sched
/-! Single-thread runtimes (programs without tasks): every embedder schedule is equivalent to the
reference embedder that services host calls at once and runs one instruction at a time. -/
namespace Abra.Sched
variable {T V E H : Type}

def NoSpawn (step : T → Action T V E) : Prop := ∀ t c t', step t ≠ .spawn c t'

/-- at most one thread is queued, and it is not `gone`; nothing waits to be enqueued -/
def Single (r : Runtime T V E) : Prop :=
  r.newThreads = [] ∧ (r.runQueue = [] ∨ ∃ m, r.runQueue = [m] ∧ m.gone = false)

theorem Single.noDone {r : Runtime T V E} (h : Single r) : NoDone r := by
  refine ⟨?_, by simp [h.1]⟩
  rcases h.2 with h2 | ⟨m, h2, hm⟩ <;> simp [h2]
  exact hm

theorem single_new (m : T) : Single (Runtime.new m : Runtime T V E) := ⟨rfl, .inr ⟨_, rfl, rfl⟩⟩

theorem turn_single (step : T → Action T V E) (hs : NoSpawn step) : TurnInv step Single Single := by
  intro r th A2 _ hd hr hdw t ht
  have hq0 : A2 ++ r.runQueue.takeWhile (fun t => !t.canRun) = [] := by
    rcases hr.2 with hq | ⟨m, hq, _⟩ <;> rw [hq] at hdw ⊢
    · cases hdw
    · cases hc : m.canRun <;> simp [List.dropWhile, List.takeWhile, hc] at hdw ⊢
      exact hdw.2
  rw [hq0] at ht
  have hn : (exec step { r with runQueue := [] } th).1.newThreads = [] := by
    rw [exec_newThreads]
    split
    · rename_i h; exact absurd h (hs _ _ _)
    · simpa using hr.1
  rw [turn_eq step _ th (by simpa using hd.2), hn] at ht
  have hq := (exec_keeps step { r with runQueue := [] } th).1
  subst ht
  rw [ite_self]
  generalize exec step _ th = e at hn hq ⊢
  by_cases hc : (e.2.isMain && e.2.done) = true
  · rw [if_pos hc]; exact ⟨hn, .inl hq⟩
  · rw [if_neg hc]
    refine ⟨rfl, ?_⟩
    by_cases hg : e.2.gone = true
    · rw [if_pos hg]; exact .inl rfl
    · rw [if_neg hg]; exact .inr ⟨_, rfl, Bool.eq_false_iff.mpr hg⟩

theorem runN_single (step : T → Action T V E) (hs : NoSpawn step) (b : Nat) (r : Runtime T V E) (hr : Single r) :
    Single (runN step b r).rt := by
  have h := runN_rule step Single Single (turn_single step hs) b r hr.noDone (by cases r; simp_all [Single])
  cases hdn : (runN step b r).doneNow
  · exact (h.2.2 hdn).1
  · exact (h.2.1 hdn).1

theorem runN_one_exact (step : T → Action T V E) (r : Runtime T V E) (m : Thread T E)
    (hn : r.newThreads = []) (hq : r.runQueue = [m]) (hc : m.canRun = true) :
    runN step 1 r =
      ⟨(turn step { r with runQueue := [] } m).1,
       if (turn step { r with runQueue := [] } m).2 then .done else updateStatus (turn step { r with runQueue := [] } m).1,
       1, (turn step { r with runQueue := [] } m).2⟩ := by
  have hd : NoDone r := ⟨by simpa [hq] using canRun_done hc, by simp [hn]⟩
  have hnc : (!m.canRun) = false := by simp [hc]
  rw [runN_eq]
  simp only [roundRobin, drain_nil r hn, Bool.false_eq_true, if_false]
  rw [loop_pick step 0 0 r hn hd]
  simp only [hq, List.dropWhile, hnc, List.takeWhile, List.append_nil]
  cases (turn step { r with runQueue := [] } m).2 <;> simp only [loop, Bool.false_eq_true, if_false, if_true]

theorem runN_succ_single (step : T → Action T V E) (b : Nat) (r : Runtime T V E) (m : Thread T E)
    (hn : r.newThreads = []) (hq : r.runQueue = [m]) (hc : m.canRun = true)
    (r' : Runtime T V E) (m' : Thread T E) (he : exec step { r with runQueue := [] } m = (r', m'))
    (hm' : m'.gone = false) (hn' : r'.newThreads = []) :
    runN step (b + 1) r =
      { runN step b { r' with runQueue := [m'] } with steps := 1 + (runN step b { r' with runQueue := [m'] }).steps } := by
  have hd : NoDone r := ⟨by simpa [hq] using canRun_done hc, by simp [hn]⟩
  rw [Nat.add_comm b 1, runN_add step 1 b r hd, runN_one_exact step r m hn hq hc,
    turn_eq step _ m (by simpa using hd.2), he]
  simp [hm', gone_done hm', hn']

theorem serviceList_eq_of_noPending (host : H → Nat → T → H × T) (h : H) (q : List (Thread T E))
    (hq : ∀ t ∈ q, t.pending = none) : serviceList host h q = (h, q) := by
  induction q generalizing h with
  | nil => rfl
  | cons t q ih =>
    have ht := hq t List.mem_cons_self
    simp [serviceList, ht, ih h (fun u hu => hq u (List.mem_cons_of_mem _ hu))]

theorem serviceAll_eq_of_noPending (host : H → Nat → T → H × T) (h : H) (r : Runtime T V E)
    (hq : ∀ t ∈ r.runQueue, t.pending = none) : serviceAll host h r = (h, r) := by
  simp [serviceAll, serviceList_eq_of_noPending host h _ hq]

theorem serviceList_clears_pending (host : H → Nat → T → H × T) (h : H) (q : List (Thread T E)) :
    ∀ t ∈ (serviceList host h q).2, t.pending = none := by
  induction q generalizing h with
  | nil => simp [serviceList]
  | cons t q ih =>
    unfold serviceList
    split
    · exact List.forall_mem_cons.mpr ⟨rfl, ih _⟩
    · exact List.forall_mem_cons.mpr ⟨‹_›, ih _⟩

/-- an embedder state up to servicing what is still pending: `settle host (h, r)` is `serviceAll host h r` -/
def settle (host : H → Nat → T → H × T) (x : H × Runtime T V E) : H × Runtime T V E := serviceAll host x.1 x.2

theorem settle_idem (host : H → Nat → T → H × T) (x : H × Runtime T V E) :
    settle host (settle host x) = settle host x :=
  serviceAll_eq_of_noPending host _ _ (serviceList_clears_pending host x.1 x.2.runQueue)

theorem serviceAll_single (host : H → Nat → T → H × T) (h : H) (r : Runtime T V E) (hs : Single r) :
    Single (serviceAll host h r).2 := by
  refine ⟨hs.1, ?_⟩
  rcases hs.2 with h2 | ⟨m, h2, hm⟩
  · exact .inl (by simp [serviceAll, h2, serviceList])
  · cases hp : m.pending with
    | none => exact .inr ⟨m, by simp [serviceAll, h2, serviceList, hp], hm⟩
    | some n =>
      exact .inr ⟨{ m with st := (host h n m.st).2, pending := none }, by simp only [serviceAll, h2, serviceList, hp], hm⟩

theorem canon_add (step : T → Action T V E) (host : H → Nat → T → H × T) (a b : Nat) (x : H × Runtime T V E) :
    canon step host (a + b) x = canon step host b (canon step host a x) := by
  induction a generalizing x with
  | zero => simp [canon]
  | succ a ih => rw [Nat.add_right_comm a 1 b]; simp [canon, ih]

/-- One `run_n_steps(b)` call on a single-thread runtime is `steps_consumed` ticks of the
    reference embedder (no host call can be serviced inside the call, and none is needed: the thread
    stops at its first host call). -/
theorem runN_single_canon (step : T → Action T V E) (hs : NoSpawn step) (host : H → Nat → T → H × T)
    (b : Nat) (h : H) (r : Runtime T V E) (hr : Single r) :
    (h, (runN step b r).rt) = canon step host (runN step b r).steps (h, r) := by
  induction b generalizing r with
  | zero => simp [runN_eq, roundRobin, drain_nil r hr.1, loop, canon]
  | succ b ih =>
    -- either the lone thread can run, or the call does nothing
    rcases hr.2 with hq | ⟨m, hq, hm⟩
    · rw [runN_stuck step (b + 1) r ⟨hr.1, by simp [hq]⟩]; rfl
    · cases hc : m.canRun
      · rw [runN_stuck step (b + 1) r ⟨hr.1, by simp [hq, hc, hm]⟩]; rfl
      · have hnp : ∀ t ∈ r.runQueue, t.pending = none := fun t ht => by
          rw [hq] at ht; cases List.mem_singleton.mp ht
          cases hp : m.pending
          · rfl
          · simp [Thread.canRun, hp] at hc
        have htick : tick step host (h, r) = (h, (runN step 1 r).rt) := by
          simp only [tick, serviceAll_eq_of_noPending host h r hnp]
        have h1 := runN_one_exact step r m hr.1 hq hc
        rw [Nat.add_comm b 1, runN_add step 1 b r hr.noDone]
        by_cases hdn : (runN step 1 r).doneNow = true
        · rw [if_pos hdn, h1]; simp only [canon]; rw [htick, h1]
        · rw [if_neg hdn, show ∀ k, (runN step 1 r).steps + k = k + 1 by rw [h1]; exact Nat.add_comm 1]
          simp only [canon, htick]
          exact ih _ (runN_single step hs 1 r hr)

/-- servicing first does not change what the reference embedder computes, up to servicing -/
theorem canon_norm (step : T → Action T V E) (host : H → Nat → T → H × T) (k : Nat) (y : H × Runtime T V E) :
    settle host (canon step host k (settle host y)) = settle host (canon step host k y) := by
  cases k with
  | zero => exact settle_idem host y
  | succ k =>
    have : tick step host (settle host y) = tick step host y := by
      simp only [tick]; rw [show serviceAll host (settle host y).1 (settle host y).2 = _ from settle_idem host y]; rfl
    rw [canon, canon, this]

/-- **Every schedule is the reference schedule.**  Whatever budgets the embedder uses and however long
    it delays servicing, the host state (output) and the runtime it ends with are — up to servicing what
    is still pending — those of the reference embedder after the same number of executed instructions. -/
theorem drive_single_canon (step : T → Action T V E) (hs : NoSpawn step) (host : H → Nat → T → H × T)
    (s : List (Nat × Bool)) (h : H) (r : Runtime T V E) (n : Nat) (hr : Single r) :
    ∃ k, (drive step host s h r n).2.2.1 = n + k ∧
      settle host ((drive step host s h r n).1, (drive step host s h r n).2.1) =
      settle host (canon step host k (h, r)) := by
  -- along the schedule: still a single thread, and up to servicing the reference embedder after as many instructions
  refine (drive_induct step host
    (fun h' r' n' => Single r' ∧ ∃ k, n' = n + k ∧ settle host (h', r') = settle host (canon step host k (h, r)))
    ?_ ?_ s h r n ⟨hr, 0, rfl, rfl⟩).2
  · intro b h' r' n' ⟨hr', k, hn, he⟩
    refine ⟨runN_single step hs b r' hr', k + (runN step b r').steps, by rw [hn, Nat.add_assoc], ?_⟩
    -- up to servicing, `canon` may as well go on from the serviced state
    rw [canon_add, ← canon_norm, ← he, canon_norm, ← runN_single_canon step hs host b h' r' hr']
  · intro h' r' n' ⟨hr', k, hn, he⟩
    exact ⟨serviceAll_single host h' r' hr', k, hn, (settle_idem host (h', r')).trans he⟩

/-- the program has run to its end: nothing is queued, or only the failed (and not pending) thread -/
def Fin (r : Runtime T V E) : Prop :=
  r.newThreads = [] ∧
    (r.runQueue = [] ∨ ∃ m, r.runQueue = [m] ∧ m.pending = none ∧ m.err.isSome = true ∧ m.gone = false)

theorem Fin.stuck {r : Runtime T V E} (h : Fin r) : Stuck r := by
  refine ⟨h.1, ?_⟩
  rcases h.2 with hq | ⟨m, hq, hp, he, hd⟩
  · simp [hq]
  · cases hm : m.err with
    | none => simp [hm] at he
    | some e => simp [hq, Thread.canRun, hp, hm, hd]

theorem Fin.norm (host : H → Nat → T → H × T) (h : H) {r : Runtime T V E} (hf : Fin r) :
    settle host (h, r) = (h, r) := by
  apply serviceAll_eq_of_noPending
  rcases hf.2 with hq | ⟨m, hq, hp, _, _⟩
  · simp [hq]
  · simp [hq, hp]

theorem canon_past_fin (step : T → Action T V E) (host : H → Nat → T → H × T) (j : Nat) (y : H × Runtime T V E)
    (hf : Fin (settle host y).2) : settle host (canon step host j y) = settle host y := by
  induction j generalizing y with
  | zero => rfl
  | succ j ih =>
    have ht : tick step host y = settle host y := by
      show ((settle host y).1, (runN step 1 (settle host y).2).rt) = _
      rw [runN_stuck step 1 _ hf.stuck]
    rw [canon, ht, ih _ (by rwa [settle_idem]), settle_idem]

theorem drive_single_finished (step : T → Action T V E) (hs : NoSpawn step) (host : H → Nat → T → H × T)
    (s₁ s₂ : List (Nat × Bool)) (h : H) (r : Runtime T V E) (hr : Single r)
    (hf₁ : Fin (drive step host s₁ h r 0).2.1) (hf₂ : Fin (drive step host s₂ h r 0).2.1) :
    ((drive step host s₁ h r 0).1, (drive step host s₁ h r 0).2.1) =
    ((drive step host s₂ h r 0).1, (drive step host s₂ h r 0).2.1) := by
  obtain ⟨k₁, _, e1⟩ := drive_single_canon step hs host s₁ h r 0 hr
  obtain ⟨k₂, _, e2⟩ := drive_single_canon step hs host s₂ h r 0 hr
  rw [hf₁.norm host] at e1
  rw [hf₂.norm host] at e2
  -- the later of the two reference runs has gone past the end of the earlier one
  have key : ∀ (ka kb : Nat) (A B : H × Runtime T V E), ka ≤ kb →
      A = settle host (canon step host ka (h, r)) → B = settle host (canon step host kb (h, r)) →
      Fin A.2 → A = B := by
    intro ka kb A B hle hA hB hfin
    obtain ⟨j, rfl⟩ := Nat.exists_eq_add_of_le hle
    rw [hB, canon_add, canon_past_fin step host j _ (by rw [← hA]; exact hfin), ← hA]
  rcases Nat.le_total k₁ k₂ with hle | hle
  · exact key k₁ k₂ _ _ hle e1 e2 hf₁
  · exact (key k₂ k₁ _ _ hle e2 e1 hf₂).symm

end Abra.Sched
