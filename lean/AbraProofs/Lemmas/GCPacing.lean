import AbraProofs.Lemmas.GCCycle
import AbraProofs.Lemmas.GCProgress
/-! Pacing of the collector (for C07), the two loops: `markLoop` and `sweepLoop` keep the invariants of M5 and
    the ghost invariant, run to the end when the budget exceeds the bytes still to be handled, and only lower
    the byte counts. -/
namespace Abra.GCP
open Abra.GC

theorem sweepOne_roots (σ : St) : (sweepOne σ).roots = σ.roots := GC.sweepOne_roots σ

theorem sweepOne_children (σ : St) (x : Nat) : (sweepOne σ).children x = σ.children x :=
  GC.sweepOne_children σ x

theorem markLoop_induct {P : St → Prop} (size : Nat → Nat) (hstep : ∀ σ, P σ → P (blacken σ)) :
    ∀ (fuel batch : Nat) (σ : St), P σ → P (markLoop size fuel batch σ) := by
  intro fuel
  induction fuel with
  | zero => exact fun _ _ h => h
  | succ fuel ih =>
    intro batch σ h
    rw [markLoop]
    split
    · exact h
    · split
      · exact h
      · exact ih _ _ (hstep σ h)

theorem markLoop_ext (size : Nat → Nat) (fuel batch : Nat) (σ : St) :
    MarkExt σ (markLoop size fuel batch σ) :=
  markLoop_induct (P := MarkExt σ) size (fun τ h => h.trans (blacken_ext τ)) fuel batch σ (.refl σ)

theorem markPush_gray_nodup {σ : St} {a : Nat} (hm : ∀ g ∈ σ.gray, σ.marked g = true) (hn : σ.gray.Nodup) :
    (∀ g ∈ (markPush σ a).gray, (markPush σ a).marked g = true) ∧ (markPush σ a).gray.Nodup := by
  constructor
  · intro x hx
    rw [markPush_marked]
    rcases (markPush_gray σ a x).1 hx with hx | ⟨hx, _⟩
    · simp [hm x hx]
    · simp [hx]
  · cases hma : σ.marked a with
    | true => rwa [markPush_of_marked hma]
    | false =>
      rw [markPush_of_white hma]
      exact List.nodup_cons.2 ⟨fun hin => Bool.noConfusion ((hm a hin).symm.trans hma), hn⟩

theorem markAll_gray_nodup {σ : St} {as : List Nat} (hm : ∀ g ∈ σ.gray, σ.marked g = true) (hn : σ.gray.Nodup) :
    (∀ g ∈ (markAll σ as).gray, (markAll σ as).marked g = true) ∧ (markAll σ as).gray.Nodup := by
  induction as generalizing σ with
  | nil => exact ⟨hm, hn⟩
  | cons a as ih => exact ih (markPush_gray_nodup hm hn).1 (markPush_gray_nodup hm hn).2

theorem blacken_nodup {σ : St} (hM : InvM σ) (hn : σ.gray.Nodup) : (blacken σ).gray.Nodup := by
  cases hg : σ.gray with
  | nil => rwa [blacken_nil hg]
  | cons a g =>
    rw [blacken_cons hg]
    rw [hg] at hn
    refine (markAll_gray_nodup (σ := popped σ a g) (fun x hx => ?_) (List.nodup_cons.1 hn).2).2
    rw [popped_marked, (hM.gray x (hg ▸ List.mem_cons_of_mem a hx)).2]; rfl

theorem finishMark_nodup {σ : St} (hM : InvM σ) (hn : σ.gray.Nodup) : (finishMark σ).gray.Nodup := by
  have h' := (markAll_gray_nodup (as := σ.roots) (fun g hg => (hM.gray g hg).2) hn).2
  rcases finishMark_cases σ with ⟨_, e⟩ | ⟨_, _, e⟩ | ⟨_, _, e⟩ <;> rw [e]
  · exact hn
  · exact h'
  · exact h'

theorem markLoop_inv (size : Nat → Nat) {L : Nat → Prop} (fuel batch : Nat) (σ : St) (h1 : InvM σ)
    (h2 : σ.gray.Nodup) (h3 : InvL σ L) :
    InvM (markLoop size fuel batch σ) ∧ (markLoop size fuel batch σ).gray.Nodup ∧
      InvL (markLoop size fuel batch σ) L :=
  markLoop_induct (P := fun τ => InvM τ ∧ τ.gray.Nodup ∧ InvL τ L) size
    (fun _ h => ⟨blacken_invM h.1, blacken_nodup h.1 h.2.1, blacken_invL h.1 h.2.2⟩) fuel batch σ ⟨h1, h2, h3⟩

/-! ### the budget argument for marking: the bytes of gray and white objects -/

def grayOrWhite (σ : St) (x : Nat) : Bool := !σ.marked x || σ.gray.contains x

/-- the bytes a marking loop can still be charged: objects that are gray or not yet marked -/
def psi (size : Nat → Nat) (σ : St) : Nat := sumSize size (σ.heap.filter (grayOrWhite σ))

/-- a pop pays for the popped object: it was gray and is black now (the stack has no duplicates), and nothing
    else becomes gray or white that was not -/
theorem blacken_psi (size : Nat → Nat) {σ : St} {a : Nat} {g : List Nat} (hM : InvM σ) (hn : σ.gray.Nodup)
    (hg : σ.gray = a :: g) : psi size (blacken σ) + size a ≤ psi size σ := by
  have ha := hM.gray a (hg ▸ List.mem_cons_self ..)
  have hag : a ∉ g := (List.nodup_cons.1 (hg ▸ hn)).1
  unfold psi
  rw [(blacken_ext σ).heap]
  refine sumSize_filter_drop size (q := grayOrWhite σ) (q' := grayOrWhite (blacken σ)) (fun x _ hq' => ?_)
    (mem_heap.2 (Or.inr ha.1)) (by simp [grayOrWhite, hg]) ?_
  · unfold grayOrWhite at hq' ⊢
    cases hmx : σ.marked x with
    | false => rfl
    | true =>
      rw [(blacken_ext σ).mono x hmx] at hq'
      rcases (blacken_gray hg x).1 (by simpa using hq') with h2 | ⟨_, h2, _⟩
      · simp [hg, h2]
      · rw [hmx] at h2; cases h2
  · have hng : a ∉ (blacken σ).gray := fun hin => by
      rcases (blacken_gray hg a).1 hin with h2 | ⟨_, _, h2⟩
      · exact hag h2
      · exact h2 rfl
    simp [grayOrWhite, (blacken_ext σ).mono a ha.2, hng]

noncomputable def inL (L : Nat → Prop) (a : Nat) : Bool := @decide (L a) (Classical.propDecidable _)

theorem inL_iff (L : Nat → Prop) (a : Nat) : inL L a = true ↔ L a := by
  unfold inL; exact @decide_eq_true_iff (L a) (Classical.propDecidable _)

/-- number of heap entries of the ghost set `L` that are not yet marked (a `sumSize`, so that the counting lemmas apply) -/
noncomputable def whiteIn (σ : St) (L : Nat → Prop) : Nat :=
  sumSize (fun _ => 1) (σ.heap.filter (fun a => !σ.marked a && inL L a))

theorem whiteTest_antitone {σ τ : St} (L : Nat → Prop) (h : MarkExt σ τ) (x : Nat) :
    (!τ.marked x && inL L x) = true → (!σ.marked x && inL L x) = true := by
  cases hmx : σ.marked x with
  | false => simp
  | true => simp [h.mono x hmx]

theorem whiteIn_ext {σ τ : St} (L : Nat → Prop) (h : MarkExt σ τ) : whiteIn τ L ≤ whiteIn σ L := by
  unfold whiteIn
  rw [h.heap]
  exact sumSize_filter_mono _ fun x _ => whiteTest_antitone L h x

theorem whiteIn_ext_drop {σ τ : St} (L : Nat → Prop) (h : MarkExt σ τ) {r : Nat} (hr : r ∈ σ.heap)
    (hL : L r) (hw : σ.marked r = false) (hm : τ.marked r = true) : whiteIn τ L + 1 ≤ whiteIn σ L := by
  unfold whiteIn
  rw [h.heap]
  exact sumSize_filter_drop (fun _ => 1) (fun x _ => whiteTest_antitone L h x) hr
    (by simp [hw, (inL_iff L r).2 hL]) (by simp [hm])

/-- **the slice covers the heap**: if the bytes of the gray and white objects are below the budget, the loop
    runs until the gray stack is empty -/
theorem markLoop_drains (size : Nat → Nat) : ∀ (fuel batch : Nat) (σ : St),
    InvM σ → σ.gray.Nodup → psi size σ < batch → σ.gray.length + white σ ≤ fuel →
    (markLoop size fuel batch σ).gray = [] := by
  intro fuel
  induction fuel with
  | zero => exact fun _ σ _ _ _ hf => List.length_eq_zero_iff.1 (Nat.le_zero.1 (Nat.le_trans (Nat.le_add_right ..) hf))
  | succ fuel ih =>
    intro batch σ hM hn hb hf
    rw [markLoop, if_neg (Nat.ne_of_gt (Nat.lt_of_le_of_lt (Nat.zero_le _) hb))]
    split
    · assumption
    · rename_i a g hg
      have h1 := blacken_psi size hM hn hg
      have h2 := blacken_measure hM hg
      refine ih _ _ (blacken_invM hM) (blacken_nodup hM hn)
        (Nat.lt_sub_of_add_lt (Nat.lt_of_le_of_lt h1 hb)) (Nat.le_of_succ_le_succ ?_)
      rw [Nat.add_comm] at hf
      exact Nat.le_trans (by rwa [Nat.add_comm (blacken σ).gray.length]) hf

theorem finishMark_drained {σ : St} (hg : σ.gray = []) :
    (finishMark σ).phase = .sweeping ∨
    (finishMark σ = markAll σ σ.roots ∧ ∃ r ∈ σ.roots, σ.marked r = false) := by
  rcases finishMark_cases σ with ⟨hg', _⟩ | ⟨_, hg', e⟩ | ⟨_, _, e⟩
  · exact absurd hg hg'
  · obtain ⟨r, hr⟩ := List.exists_mem_of_ne_nil _ hg'
    rcases (markAll_gray σ σ.roots r).1 hr with h1 | h1
    · rw [hg] at h1; cases h1
    · exact Or.inr ⟨e, r, h1⟩
  · rw [e]; exact Or.inl rfl

theorem finishMark_sweeps {σ : St} (hg : σ.gray = []) (hr : ∀ r ∈ σ.roots, σ.marked r = true) :
    (finishMark σ).phase = .sweeping :=
  (finishMark_drained hg).resolve_right fun ⟨_, r, h1, h2⟩ => Bool.noConfusion ((hr r h1).symm.trans h2)

/-- an unmarked root found by the rescan is a white object of `L`, and it is marked now -/
theorem finishMark_progress {σ : St} {L : Nat → Prop} (hM : InvM σ) (hp : σ.phase = .marking)
    (hL : InvL σ L) (hg : σ.gray = []) :
    (finishMark σ).phase = .sweeping ∨
    ((finishMark σ).phase = .marking ∧ whiteIn (finishMark σ) L + 1 ≤ whiteIn σ L) := by
  refine (finishMark_drained hg).imp_right fun ⟨e, r, h1, h2⟩ => ?_
  rw [e]
  exact ⟨(markAll_ext σ σ.roots).phase.trans hp, whiteIn_ext_drop L (markAll_ext σ σ.roots)
    (heap_of_done_nil hM.done ▸ hM.roots r h1) (hL.reach r (Reach.root h1)) h2
    (by rw [markAll_marked]; simp [h1])⟩

theorem finishMark_whiteIn_le {σ : St} (L : Nat → Prop) : whiteIn (finishMark σ) L ≤ whiteIn σ L := by
  have h1 := whiteIn_ext L (markAll_ext σ σ.roots)
  rcases finishMark_cases σ with ⟨_, e⟩ | ⟨_, _, e⟩ | ⟨_, _, e⟩ <;> rw [e]
  · exact Nat.le_refl _
  · exact h1
  · exact h1

noncomputable def bytesIn (p : PSt) (L : Nat → Prop) : Nat := sumSize p.size (p.g.heap.filter (inL L))

theorem sweepOne_bytes (size : Nat → Nat) (q : Nat → Bool) {σ : St} {a : Nat} {rest : List Nat}
    (ht : σ.todo = a :: rest) :
    sumSize size (sweepOne σ).heap = (if σ.marked a then sumSize size σ.heap else sumSize size σ.heap - size a) ∧
    sumSize size ((sweepOne σ).heap.filter q) ≤ sumSize size (σ.heap.filter q) := by
  cases hm : σ.marked a with
  | true => rw [sweepOne_heap_keep ht hm]; exact ⟨rfl, Nat.le_refl _⟩
  | false =>
    have hp := sweepOne_heap_free ht hm
    rw [← sumSize_perm size hp, ← sumSize_perm size (hp.filter q), sumSize_filter_cons]
    exact ⟨(Nat.add_sub_cancel_left ..).symm, Nat.le_add_left ..⟩

structure SwInv (p : PSt) (L : Nat → Prop) : Prop where
  invS : InvS p.g
  phase : p.g.phase = .sweeping
  invL : InvL p.g L
  acct : p.heapBytes = sumSize p.size p.g.heap

/-- the state after one iteration of the sweep loop -/
def swStep (p : PSt) (a : Nat) : PSt :=
  { p with g := sweepOne p.g,
           heapBytes := if p.g.marked a then p.heapBytes else p.heapBytes - p.size a }

theorem swStep_heapBytes (p : PSt) (a : Nat) :
    (swStep p a).heapBytes = if p.g.marked a then p.heapBytes else p.heapBytes - p.size a := rfl

/-- **the slice covers the heap**: if the bytes still to be swept are below what is left of the budget, the
    loop reaches the end of the heap list; on the way it keeps the invariants and only lowers the byte counts -/
theorem sweepLoop_spec {L : Nat → Prop} : ∀ (fuel work batch : Nat) (p : PSt), SwInv p L →
    (p.g.todo = [] ∨ work + sumSize p.size p.g.todo < batch) → p.g.todo.length ≤ fuel →
    SwInv (sweepLoop fuel work batch p) L ∧ (sweepLoop fuel work batch p).debt = p.debt ∧
    (sweepLoop fuel work batch p).heapBytes ≤ p.heapBytes ∧
    bytesIn (sweepLoop fuel work batch p) L ≤ bytesIn p L ∧ (sweepLoop fuel work batch p).g.todo = [] := by
  intro fuel
  induction fuel with
  | zero =>
    exact fun _ _ _ h _ hf => ⟨h, rfl, Nat.le_refl _, Nat.le_refl _, List.length_eq_zero_iff.1 (Nat.le_zero.1 hf)⟩
  | succ fuel ih =>
    intro work batch p h hc hf
    rw [sweepLoop]
    cases ht : p.g.todo with
    | nil => rw [ite_self]; exact ⟨h, rfl, Nat.le_refl _, Nat.le_refl _, ht⟩
    | cons a rest =>
      have hc' : work + (p.size a + sumSize p.size rest) < batch := by
        rcases hc with hc | hc
        · rw [ht] at hc; cases hc
        · rwa [ht] at hc
      have hperm := sweepOne_todo_perm ht
      obtain ⟨hb, h3⟩ := sweepOne_bytes p.size (inL L) ht
      have h1 : SwInv (swStep p a) L :=
        ⟨sweepOne_invS h.invS, (GC.sweepOne_phase p.g).trans h.phase, sweepOne_invL h.invL, by
          rw [swStep_heapBytes, h.acct]; exact hb.symm⟩
      have h2 : (swStep p a).heapBytes ≤ p.heapBytes := by
        rw [swStep_heapBytes]
        split
        · exact Nat.le_refl _
        · exact Nat.sub_le ..
      rw [if_pos (Nat.lt_of_le_of_lt (Nat.le_add_right ..) hc')]
      obtain ⟨k1, k2, k3, k4, k5⟩ := ih (work + p.size a) batch (swStep p a) h1
        (Or.inr (show work + p.size a + sumSize p.size (sweepOne p.g).todo < batch by
          rw [sumSize_perm p.size hperm, Nat.add_assoc]; exact hc'))
        (show (sweepOne p.g).todo.length ≤ fuel by
          rw [hperm.length_eq]; rw [ht] at hf; exact Nat.le_of_succ_le_succ hf)
      exact ⟨k1, k2, Nat.le_trans k3 h2, Nat.le_trans k4 h3, k5⟩

end Abra.GCP
