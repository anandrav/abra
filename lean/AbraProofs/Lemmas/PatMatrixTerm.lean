import AbraProofs.Lemmas.PatMatrix
/-!
Termination of `compute_exhaustiveness_and_usefulness` (M9): a measure `phi` that strictly decreases
at every recursive call, hence `phi + 1` fuel always suffices.

`phi = 2 * (A + B) + C` where
* `A` = sum over the rows, over the or-free expansions of the row, of the node weights of the
  expansion (a variant node weighs `1 + tyDepth(payload type)`, every other constructor node 1, a
  wildcard 0) — or-expansion partitions the expansions of a row, so `A` is unchanged by it;
  specialising by a constructor that heads some row removes that node from every expansion;
* `B` = product nesting of the column types (`tyDepths`) — the only thing wildcards are expanded along;
* `C` = 1 if some row has an or-pattern at its head (the or-step removes them all).
-/
namespace Abra.PatMatrix

variable {env : EnumEnv} {T : Ty} {Ts : List Ty} {rows : List Row}

/-! ## expansions and weights -/

@[simp] theorem nxProd_cons (p : DPat) (ps : List DPat) : nxProd (p :: ps) = nx p * nxProd ps := rfl
@[simp] theorem twProd_cons (env : EnumEnv) (p : DPat) (ps : List DPat) :
    twProd env (p :: ps) = tw env p * nxProd ps + nx p * twProd env ps := rfl

theorem nxProd_append (a b : List DPat) : nxProd (a ++ b) = nxProd a * nxProd b := by
  induction a with
  | nil => exact (Nat.one_mul _).symm
  | cons p ps ih => rw [List.cons_append, nxProd_cons, nxProd_cons, ih, Nat.mul_assoc]

theorem twProd_append (env : EnumEnv) (a b : List DPat) :
    twProd env (a ++ b) = twProd env a * nxProd b + nxProd a * twProd env b := by
  induction a with
  | nil =>
    show twProd env b = 0 * nxProd b + 1 * twProd env b
    rw [Nat.zero_mul, Nat.one_mul, Nat.zero_add]
  | cons p ps ih =>
    rw [List.cons_append, twProd_cons, twProd_cons, nxProd_cons, ih, nxProd_append]
    simp only [Nat.mul_add, Nat.add_mul, Nat.mul_assoc, Nat.add_assoc]

theorem nxProd_wilds (r : WReason) (ts : List Ty) : nxProd (ts.map (wildOf r)) = 1 := by
  induction ts with
  | nil => rfl
  | cons t ts ih => exact (Nat.one_mul _).trans ih

theorem twProd_wilds (env : EnumEnv) (r : WReason) (ts : List Ty) : twProd env (ts.map (wildOf r)) = 0 := by
  induction ts with
  | nil => rfl
  | cons t ts ih =>
    show 0 * nxProd _ + 1 * twProd env _ = 0
    rw [ih, Nat.zero_mul]

/-- a constructor node: its expansions are those of its fields, and each carries the node's weight -/
theorem nx_tw_ctor (env : EnumEnv) {c : Ctor} (fs : List DPat) (ty : Ty) (hw : c.isWild = false) (ho : c.isOr = false) :
    nx (.mk c fs ty) = nxProd fs ∧ tw env (.mk c fs ty) = nodeW env c * nxProd fs + twProd env fs := by
  cases c with
  | wild r => cases hw
  | or => cases ho
  | _ => exact ⟨rfl, rfl⟩

mutual
  theorem nx_pos (env : EnumEnv) (p : DPat) (T : Ty) (h : patWT env p T = true) : 1 ≤ nx p := by
    match p with
    | .mk c fs ty =>
      cases c with
      | wild r => exact Nat.le_refl 1
      | or =>
        rw [patWT_or, Bool.and_eq_true, Bool.not_eq_true', List.isEmpty_eq_false_iff] at h
        exact nxSum_pos env fs T h.2 h.1
      | _ => exact nxProd_pos env fs _ (patWT_ctor h rfl rfl).2
  theorem nxProd_pos (env : EnumEnv) (ps : List DPat) (Ts : List Ty) (h : patsWT env ps Ts = true) :
      1 ≤ nxProd ps := by
    match ps, Ts, h with
    | [], _, _ => exact Nat.le_refl 1
    | p :: ps, t :: ts, h =>
      rw [patsWT_cons_cons, Bool.and_eq_true] at h
      exact Nat.mul_le_mul (nx_pos env p t h.1) (nxProd_pos env ps ts h.2)
    | _ :: _, [], h => cases h
  theorem nxSum_pos (env : EnumEnv) (ps : List DPat) (T : Ty) (h : patsWTOr env ps T = true) (hne : ps ≠ []) :
      1 ≤ nxSum ps := by
    match ps, hne with
    | p :: ps, _ =>
      rw [patsWTOr_cons, Bool.and_eq_true] at h
      exact Nat.le_trans (nx_pos env p T h.1) (Nat.le_add_right _ _)
end

/-! ## or-expansion preserves the sums -/

def sumNx : List DPat → Nat
  | [] => 0
  | p :: ps => nx p + sumNx ps

def sumTw (env : EnumEnv) : List DPat → Nat
  | [] => 0
  | p :: ps => tw env p + sumTw env ps

theorem sum_append {α : Type} {f : List α → Nat} {g : α → Nat} (h0 : f [] = 0)
    (hc : ∀ x xs, f (x :: xs) = g x + f xs) (a b : List α) : f (a ++ b) = f a + f b := by
  induction a with
  | nil => rw [List.nil_append, h0, Nat.zero_add]
  | cons x xs ih => rw [List.cons_append, hc, hc, ih, Nat.add_assoc]

theorem sumNx_append (a b : List DPat) : sumNx (a ++ b) = sumNx a + sumNx b :=
  sum_append rfl (fun _ _ => rfl) a b

theorem sumTw_append (env : EnumEnv) (a b : List DPat) : sumTw env (a ++ b) = sumTw env a + sumTw env b :=
  sum_append rfl (fun _ _ => rfl) a b

mutual
  theorem sum_expandPat (env : EnumEnv) (p : DPat) :
      sumNx (expandPat p) = nx p ∧ sumTw env (expandPat p) = tw env p := by
    match p with
    | .mk c fs ty =>
      cases c with
      | or => exact sum_expandPats env fs
      | _ => exact ⟨Nat.add_zero _, Nat.add_zero _⟩
  theorem sum_expandPats (env : EnumEnv) (ps : List DPat) :
      sumNx (expandPats ps) = nxSum ps ∧ sumTw env (expandPats ps) = twSum env ps := by
    match ps with
    | [] => exact ⟨rfl, rfl⟩
    | p :: ps =>
      obtain ⟨h1, h2⟩ := sum_expandPat env p
      obtain ⟨h3, h4⟩ := sum_expandPats env ps
      show sumNx (expandPat p ++ expandPats ps) = nx p + nxSum ps ∧
        sumTw env (expandPat p ++ expandPats ps) = tw env p + twSum env ps
      rw [sumNx_append, sumTw_append, h1, h2, h3, h4]
      exact ⟨rfl, rfl⟩
end

/-! ## the measure -/

theorem rowsA_append (env : EnumEnv) (a b : List Row) : rowsA env (a ++ b) = rowsA env a + rowsA env b :=
  sum_append rfl (fun _ _ => rfl) a b

theorem rowsA_expandOrRow (env : EnumEnv) (r : Row) (i : Nat) :
    rowsA env ((expandOrRow r).map (fun e => { e with parent := i })) = twProd env r.pats := by
  unfold expandOrRow
  cases hp : r.pats with
  | nil => simp [rowsA, hp]
  | cons p rest =>
    obtain ⟨h1, h2⟩ := sum_expandPat env p
    rw [twProd_cons, ← h1, ← h2]
    simp only [List.map_map]
    induction expandPat p with
    | nil => simp [rowsA, sumNx, sumTw]
    | cons h hs ih =>
      simp only [List.map_cons, Function.comp, rowsA, twProd_cons, sumNx, sumTw, ih, Nat.add_mul]
      omega

theorem rowsA_specializeOr (env : EnumEnv) (rows : List Row) : rowsA env (specializeOr rows) = rowsA env rows := by
  suffices h : ∀ off, rowsA env (specializeOrAux off rows) = rowsA env rows from h 0
  induction rows with
  | nil => intro off; simp [specializeOrAux]
  | cons r rs ih =>
    intro off
    rw [specializeOrAux, rowsA_append, rowsA_expandOrRow, ih]
    simp [rowsA]

theorem orHeads_eq_zero (hno : noOrHeads rows) : orHeads rows = 0 := by
  have : rows.any (fun r => r.headCtor.isOr) = false :=
    List.any_eq_false.2 fun r hr => by rw [hno r hr]; exact Bool.false_ne_true
  rw [orHeads, this]; rfl

theorem orHeads_le_one (rows : List Row) : orHeads rows ≤ 1 := by unfold orHeads; split <;> omega

/-! ## specialisation decreases the measure -/

theorem tyDepth_pos (T : Ty) : 1 ≤ tyDepth T := by
  cases T <;> first | exact Nat.le_refl 1 | exact Nat.le_add_right 1 _

theorem tyDepths_append (a b : List Ty) : tyDepths (a ++ b) = tyDepths a + tyDepths b :=
  sum_append rfl (fun _ _ => rfl) a b

theorem tyDepths_specTys (env : EnumEnv) (T : Ty) (c : Ctor) :
    tyDepths (specTys env T c) + 1 ≤ tyDepth T + (nodeW env c - 1) := by
  cases c <;> simp only [specTys, nodeW, tyDepths]
  case product => cases T <;> simp [productTys, tyDepth, tyDepths] <;> omega
  case variant e i =>
    have := tyDepth_pos T
    split <;> simp [tyDepths] <;> omega
  all_goals (have := tyDepth_pos T; omega)

/-- the popped row weighs no more; a constructor head loses its node -/
theorem twProd_popHead {p : DPat} {ps : List DPat} (c : Ctor)
    (hp : patWT env p T = true) (hps : patsWT env ps Ts = true) (ho : p.ctor.isOr = false)
    (hcov : c.isCoveredBy p.ctor = true) :
    twProd env (p.specialize env c (c.arity env T) ++ ps) +
        (if p.ctor.isWild then 0 else nodeW env p.ctor) ≤ twProd env (p :: ps) := by
  have hnps := nxProd_pos env ps Ts hps
  obtain ⟨pc, fs, ty⟩ := p
  rw [twProd_append, twProd_cons, show (DPat.mk pc fs ty).ctor = pc from rfl]
  cases hw : pc.isWild with
  | true =>
    obtain ⟨r, rfl⟩ := isWild_eq hw
    obtain ⟨ts, _, hsp⟩ := specialize_wild env r fs ty c (c.arity env T)
    rw [hsp, twProd_wilds, nxProd_wilds]
    exact Nat.le_refl _
  | false =>
    obtain ⟨hnx, htw⟩ := nx_tw_ctor env fs ty hw ho
    have hfs : 1 ≤ nxProd fs := hnx ▸ nx_pos env _ T hp
    rw [specialize_ctor env fs ty _ _ hw, hnx, htw, Nat.add_mul]
    have : nodeW env pc * 1 * 1 ≤ nodeW env pc * nxProd fs * nxProd ps :=
      Nat.mul_le_mul (Nat.mul_le_mul (Nat.le_refl _) hfs) hnps
    simp only [Bool.false_eq_true, if_false]
    omega

theorem row_popHead {r : Row} (c : Ctor) (k : Nat)
    (hwt : patsWT env r.pats (T :: Ts) = true) (ho : r.headCtor.isOr = false)
    (hcov : c.isCoveredBy r.headCtor = true) :
    twProd env (popHead env r c (c.arity env T) k).pats +
      (if r.headCtor.isWild then 0 else nodeW env r.headCtor) ≤ twProd env r.pats := by
  obtain ⟨p, ps, _, rfl, hpw, hpsw⟩ := row_cons_of_WT hwt
  exact twProd_popHead c hpw hpsw ho hcov

theorem rowsA_specializeAux_le (c : Ctor) (rows : List Row)
    (hwt : rowsWT env (T :: Ts) rows) (hno : noOrHeads rows) (off : Nat) :
    rowsA env (specializeAux env c (c.arity env T) off rows) ≤ rowsA env rows := by
  induction rows generalizing off with
  | nil => exact Nat.le_refl _
  | cons r rs ih =>
    have ih' := ih (fun r hr => hwt r (List.mem_cons_of_mem _ hr)) (fun r hr => hno r (List.mem_cons_of_mem _ hr))
      (off + 1)
    rw [specializeAux]
    split
    · rename_i hcov
      have := row_popHead (env := env) c off (hwt r (List.mem_cons_self ..)) (hno r (List.mem_cons_self ..)) hcov
      simp only [rowsA]; omega
    · simp only [rowsA]; omega

/-- specialising by a constructor that heads some row removes that node -/
theorem rowsA_specializeAux_add_nodeW_le {c : Ctor} (rows : List Row)
    (hwt : rowsWT env (T :: Ts) rows) (hno : noOrHeads rows) (hc : c ∈ rows.map Row.headCtor)
    (hw : c.isWild = false) (off : Nat) :
    rowsA env (specializeAux env c (c.arity env T) off rows) + nodeW env c ≤ rowsA env rows := by
  induction rows generalizing off with
  | nil => cases hc
  | cons r rs ih =>
    have hwt' : rowsWT env (T :: Ts) rs := fun r hr => hwt r (List.mem_cons_of_mem _ hr)
    have hno' : noOrHeads rs := fun r hr => hno r (List.mem_cons_of_mem _ hr)
    have hor := hno r (List.mem_cons_self ..)
    rw [specializeAux]
    rcases List.mem_cons.1 hc with rfl | hc'
    · have := row_popHead (env := env) r.headCtor off (hwt r (List.mem_cons_self ..)) hor (covered_self hw hor)
      rw [hw] at this
      have := rowsA_specializeAux_le r.headCtor rs hwt' hno' (off + 1)
      rw [if_pos (covered_self hw hor)]
      simp only [rowsA, Bool.false_eq_true, if_false] at *; omega
    · have ih' := ih hwt' hno' hc' (off + 1)
      split
      · rename_i hcov
        have := row_popHead (env := env) c off (hwt r (List.mem_cons_self ..)) hor hcov
        simp only [rowsA]; omega
      · simp only [rowsA]; omega

theorem phi_specialize_lt (hwt : rowsWT env (T :: Ts) rows) (hno : noOrHeads rows) {c : Ctor}
    (hc : c ∈ presentCtors env T rows) :
    phi env (specTys env T c ++ Ts) (specialize env c (c.arity env T) rows) < phi env (T :: Ts) rows := by
  have hB := tyDepths_specTys env T c
  have hC := orHeads_le_one (specialize env c (c.arity env T) rows)
  have hw : 1 ≤ nodeW env c := by cases c <;> first | exact Nat.le_refl 1 | exact Nat.le_add_right 1 _
  -- a variant constructor pays for its payload type with its node weight: it heads some row
  have hA : rowsA env (specialize env c (c.arity env T) rows) + nodeW env c ≤ rowsA env rows + 1 := by
    cases c with
    | variant e i =>
      have : Ctor.variant e i ∈ (split (ctorsForTy env T) (rows.map Row.headCtor)).1 :=
        (mem_presentCtors.1 hc).resolve_right fun h => nomatch h.2
      rcases split_present this with h | h
      · exact Nat.le_succ_of_le (rowsA_specializeAux_add_nodeW_le rows hwt hno h.1 rfl 0)
      · cases h.1
    | _ => exact Nat.add_le_add_right (rowsA_specializeAux_le _ rows hwt hno 0) 1
  rw [phi, phi, tyDepths_append, orHeads_eq_zero hno]
  show _ < 2 * (rowsA env rows + (tyDepth T + tyDepths Ts)) + 0
  omega

/-! ## enough fuel always exists -/

theorem foldCtors_isSome (step : Result → Ctor → Option Result) (cs : List Ctor)
    (h : ∀ acc, ∀ c ∈ cs, (step acc c).isSome = true) (acc : Result) : (foldCtors step acc cs).isSome = true := by
  induction cs generalizing acc with
  | nil => simp [foldCtors]
  | cons c cs ih =>
    simp only [foldCtors]
    have := h acc c (List.mem_cons_self ..)
    cases hs : step acc c with
    | none => simp [hs] at this
    | some acc' => exact ih (fun a c' hc' => h a c' (List.mem_cons_of_mem _ hc')) acc'

/-- **Termination**: with more fuel than the measure the run finishes -/
theorem compute_isSome {env : EnumEnv} (fuel : Nat) :
    ∀ Ts rows, rowsWT env Ts rows → phi env Ts rows < fuel → (compute env fuel Ts rows).isSome = true := by
  induction fuel with
  | zero => intro Ts rows _ h; omega
  | succ fuel ih =>
    intro Ts rows hwt hphi
    cases Ts with
    | nil => simp [compute]
    | cons T Ts =>
      simp only [compute]
      split
      · rename_i hor
        have hlt : phi env (T :: Ts) (specializeOr rows) < fuel := by
          have h1 : orHeads rows = 1 := if_pos hor
          unfold phi at hphi ⊢
          rw [rowsA_specializeOr, orHeads_eq_zero (rows := specializeOr rows) fun r hr => (specializeOrAux_rows hwt 0 r hr).2]
          omega
        have := ih (T :: Ts) (specializeOr rows) (rowsWT_specializeOr hwt) hlt
        cases hc : compute env fuel (T :: Ts) (specializeOr rows) with
        | none => simp [hc] at this
        | some r => simp
      · rename_i hor
        have hno := noOrHeads_of_not_any hor
        apply foldCtors_isSome
        intro acc c hc
        have hc' : c ∈ presentCtors env T rows := by simpa [presentCtors] using hc
        have hlt := phi_specialize_lt hwt hno hc'
        have := ih _ _ (rowsWT_specialize hwt hno c) (by omega)
        unfold stepCtor
        simp only []
        cases hr : compute env fuel (specTys env T c ++ Ts) (specialize env c (c.arity env T) rows) with
        | none => simp [hr] at this
        | some r => simp

theorem checkD_isSome {env : EnumEnv} {ty : Ty} {pats : List DPat} (hwt : ∀ p ∈ pats, patWT env p ty = true) :
    (checkD env (fuelFor env ty pats) ty pats).isSome = true := by
  unfold checkD
  have := compute_isSome (env := env) (fuelFor env ty pats) [ty] (initRows 0 pats) (rowsWT_initRows hwt 0)
    (by unfold fuelFor; omega)
  cases hc : compute env (fuelFor env ty pats) [ty] (initRows 0 pats) with
  | none => simp [hc] at this
  | some r => simp

end Abra.PatMatrix
