import AbraProofs.Lemmas.IdSet
/-!
Per-operation lemmas for C37: under the world invariant every operation of `Abra.IdSet` keeps the
invariant, never answers `ub`, and acts on the abstraction (`absW`: handle ↦ list of distinct values
in insertion order) as the corresponding list operation.
-/
namespace Abra.IdSet

variable {α : Type} {w : World α} {h : Nat} {s : SetS}

theorem abs_of_getSet (hs : w.getSet h = some s) : (absW w)[h]? = some (some (w.contents s)) := by
  obtain ⟨h1, h2⟩ := getSet_some hs
  rw [absW_get, h1]; simp [h2]

theorem getSet_of_abs {l : List α} (ha : (absW w)[h]? = some (some l)) :
    ∃ s, w.getSet h = some s ∧ w.contents s = l := by
  rw [absW_get, Option.map_eq_some_iff] at ha
  obtain ⟨s, hs, hl⟩ := ha
  by_cases hlive : s.live = true
  · rw [if_pos hlive] at hl
    exact ⟨s, by simp only [World.getSet, hs, hlive, if_true], Option.some.inj hl⟩
  · rw [if_neg hlive] at hl; cases hl

/-- "alloc if necessary" keeps the set's invariant and contents, touches no existing buffer and
    leaves room for one push in the current buffer -/
theorem ensureRoom_spec {B0 : Buffer α} (i : SetInv w h s) (hB0 : w.bufs[s.cur]? = some B0)
    (w1 : World α) (s1 : SetS) (B1 : Buffer α) (hr : w.ensureRoom h s B0 = (w1, s1, B1)) :
    w1.sets = w.sets ∧
    (∀ (b : Nat) (B : Buffer α), w.bufs[b]? = some B → w1.bufs[b]? = some B) ∧
    SetInv w1 h s1 ∧ w1.contents s1 = w.contents s ∧
    w1.bufs[s1.cur]? = some B1 ∧ B1.elems.length + 1 ≤ B1.cap ∧ s1.live = s.live := by
  unfold World.ensureRoom at hr
  split at hr
  · cases hr
    obtain ⟨i1, hc⟩ := i.retire (w' := { w with bufs := w.bufs ++ [⟨h, true, max B0.cap 1 * 2, []⟩] })
      rfl rfl rfl rfl
    exact ⟨rfl, fun b B hB => (List.getElem?_append_left (getElem?_lt hB)).trans hB, i1, hc,
      List.getElem?_concat_length,
      Nat.le_trans (Nat.le_max_right _ _) (Nat.le_mul_of_pos_right _ (by decide)), rfl⟩
  · cases hr
    exact ⟨rfl, fun _ _ hB => hB, i, rfl, hB0, Nat.le_of_not_gt ‹_›, rfl⟩

/-- push + intern (+ pop when the value was known): the invariant is kept, the contents grow by the
    value iff it is new, the answer is the index of the first insertion. -/
theorem pushAndIntern_spec [DecidableEq α] {B : Buffer α} (i : SetInv w h s)
    (hB : w.bufs[s.cur]? = some B) (room : B.elems.length + 1 ≤ B.cap) (v : α) :
    ∃ s', (w.pushAndIntern h s B v).1.sets = w.sets.set h s' ∧ s'.live = s.live ∧
      (∀ b, b ≠ s.cur → (w.pushAndIntern h s B v).1.bufs[b]? = w.bufs[b]?) ∧
      SetInv (w.pushAndIntern h s B v).1 h s' ∧
      (w.pushAndIntern h s B v).1.contents s' =
        (if v ∈ w.contents s then w.contents s else w.contents s ++ [v]) ∧
      (w.pushAndIntern h s B v).2 =
        .id (if v ∈ w.contents s then (w.contents s).idxOf v else (w.contents s).length) := by
  have hcur := setBuf_get_self hB { B with elems := B.elems ++ [v] }
  have hne := setBuf_get_ne w s.cur { B with elems := B.elems ++ [v] }
  -- the probe runs after the push, over pointers that still read the old contents
  have hlook := lookup_zipIdx _ v s.idToPtr (w.contents s) 0 (i.ptrs_push hB hcur hne)
  rw [← i.mapEq] at hlook
  unfold World.pushAndIntern
  simp only [hlook]
  by_cases hv : v ∈ w.contents s
  · simp only [hv, if_true, Nat.zero_add]
    exact ⟨s, rfl, rfl, fun _ _ => rfl, i.of_bufs_eq rfl, contents_of_bufs_eq rfl, trivial⟩
  · simp only [hv, if_false]
    obtain ⟨i', hc⟩ := i.push hB room hv hcur hne
    exact ⟨_, rfl, rfl, hne, i'.of_bufs_eq rfl, (contents_of_bufs_eq rfl).trans hc, by rw [i.map_length]⟩

theorem insert_spec [DecidableEq α] (hw : WInv w) (hs : w.getSet h = some s) (v : α) :
    WInv (w.insert h v).1 ∧
    absW (w.insert h v).1 =
      (absW w).set h (some (if v ∈ w.contents s then w.contents s else w.contents s ++ [v])) ∧
    (w.insert h v).2 =
      .id (if v ∈ w.contents s then (w.contents s).idxOf v else (w.contents s).length) := by
  obtain ⟨hsets, hlive⟩ := getSet_some hs
  have i := hw.of_getSet hs
  obtain ⟨B0, hB0, hB0live, _, _⟩ := i.owned s.cur (cur_mem s)
  unfold World.insert
  simp only [hs, hB0, hB0live]
  rcases hr : w.ensureRoom h s B0 with ⟨w1, s1, B1⟩
  obtain ⟨e_sets, e_ext, i1, e_cont, hB1, room, e_live⟩ := ensureRoom_spec i hB0 w1 s1 B1 hr
  simp only [Nat.not_lt.2 room, if_false, Bool.not_true, Bool.false_eq_true]
  obtain ⟨s', hsets', hlive', hne, inv', cont', out'⟩ := pushAndIntern_spec i1 hB1 room v
  rw [e_cont] at cont' out'
  obtain ⟨hw', habs⟩ := winv_update (w' := (w1.pushAndIntern h s1 B1 v).1) hw hsets
    (s' := s') (by rw [hsets', e_sets])
    (fun b B hB ho => (hne b fun e => i1.not_mem_of_owner (e_ext b B hB) ho (e ▸ cur_mem s1)).trans
      (e_ext b B hB))
    (fun _ => inv')
  refine ⟨hw', ?_, out'⟩
  rw [habs, hlive', e_live, hlive, cont']; rfl

theorem tryGetId_spec [DecidableEq α] (hw : WInv w) (hs : w.getSet h = some s) (v : α) :
    w.tryGetId h v =
      (w, .optId (if v ∈ w.contents s then some ((w.contents s).idxOf v) else none)) := by
  have i := hw.of_getSet hs
  have hl := lookup_zipIdx w v s.idToPtr (w.contents s) 0 i.ptrs
  rw [← i.mapEq] at hl
  unfold World.tryGetId
  simp only [hs, hl]
  by_cases hv : v ∈ w.contents s <;> simp [hv]

theorem contains_spec [DecidableEq α] {w : World α} {h : Nat} {s : SetS} (hw : WInv w)
    (hs : w.getSet h = some s) (v : α) :
    w.contains h v = (w, .bool (decide (v ∈ w.contents s))) := by
  unfold World.contains
  rw [tryGetId_spec hw hs v]
  by_cases hv : v ∈ w.contents s <;> simp [hv]

theorem index_spec (hw : WInv w) (hs : w.getSet h = some s) (id : Nat) :
    w.index h id = (w, match (w.contents s)[id]? with | some x => .val x | none => .panic) := by
  have hd := (hw.of_getSet hs).deref_get id
  unfold World.index
  cases hc : (w.contents s)[id]? with
  | none =>
    rw [hc, Option.map_none, Option.map_eq_none_iff] at hd
    simp only [hs, hd]
  | some x =>
    rw [hc, Option.map_some, Option.map_eq_some_iff] at hd
    obtain ⟨p, hp, hx⟩ := hd
    simp only [hs, hp, hx]

theorem len_spec (hw : WInv w) (hs : w.getSet h = some s) :
    w.len h = (w, .num (w.contents s).length) := by
  have i := hw.of_getSet hs
  unfold World.len
  simp only [hs]
  rw [i.map_length]

theorem iter_spec (hw : WInv w) (hs : w.getSet h = some s) :
    w.iter h = (w, .list (w.contents s)) := by
  have i := hw.of_getSet hs
  unfold World.iter
  simp only [hs, i.readAll]

theorem free_spec : ∀ (bs : List Nat) (w : World α), bs.Nodup →
    (∀ b ∈ bs, ∃ B, w.bufs[b]? = some B ∧ B.live = true) →
    ∃ w', w.free bs = some w' ∧ w'.sets = w.sets ∧ (∀ b, b ∉ bs → w'.bufs[b]? = w.bufs[b]?) := by
  intro bs
  induction bs with
  | nil => intro w _ _; exact ⟨w, rfl, rfl, fun _ _ => rfl⟩
  | cons b bs ih =>
    intro w hnd hall
    obtain ⟨B, hB, hl⟩ := hall b List.mem_cons_self
    obtain ⟨hnb, hnd'⟩ := List.nodup_cons.1 hnd
    have hset := setBuf_get_ne w b { B with live := false, elems := [] }
    obtain ⟨w', hf, hsets, hother⟩ := ih (w.setBuf b { B with live := false, elems := [] }) hnd'
      fun b' hb' => hset b' (fun e => hnb (e ▸ hb')) ▸ hall b' (List.mem_cons_of_mem _ hb')
    refine ⟨w', ?_, hsets, fun b' hb' => ?_⟩
    · simp only [World.free, hB, hl, if_true]; exact hf
    · exact (hother b' fun hm => hb' (List.mem_cons_of_mem _ hm)).trans
        (hset b' fun e => hb' (e ▸ List.mem_cons_self))

theorem clear_spec {w : World α} {h : Nat} {s : SetS} (hw : WInv w) (hs : w.getSet h = some s) :
    WInv (w.clear h).1 ∧ absW (w.clear h).1 = (absW w).set h (some []) ∧ (w.clear h).2 = .unit := by
  obtain ⟨hsets, hlive⟩ := getSet_some hs
  have i := hw.of_getSet hs
  obtain ⟨B, hB, hBlive, hBown, _⟩ := i.owned s.cur (cur_mem s)
  have hset := setBuf_get_ne w s.cur { B with elems := [] }
  obtain ⟨w', hf, hsets', hother⟩ := free_spec s.old (w.setBuf s.cur { B with elems := [] })
    (List.nodup_append.1 i.nodupBufs).1
    fun b hb => hset b (fun e => i.cur_not_old (e ▸ hb)) ▸ i.live_buf b (List.mem_append_left _ hb)
  -- the emptied current buffer survives the freeing of the retired ones
  have hcur' : w'.bufs[s.cur]? = some { B with elems := [] } :=
    (hother s.cur i.cur_not_old).trans (setBuf_get_self hB _)
  obtain ⟨hinv, hc⟩ := SetInv.fresh (h := h) s.live hcur' hBlive hBown rfl
  have hBl : (!B.live) = false := by rw [hBlive]; rfl
  unfold World.clear
  simp only [hs, hB, hBl, hf, Bool.false_eq_true, if_false]
  obtain ⟨hw', habs⟩ := winv_update (w' := w'.setSet h ⟨s.live, [], s.cur, [], []⟩) hw hsets
    (congrArg (List.set · h _) hsets')
    (fun b B' hB' ho =>
      have hn := i.not_mem_of_owner hB' ho
      (hother b fun hm => hn (List.mem_append_left _ hm)).trans
        ((hset b fun e => hn (e ▸ cur_mem s)).trans hB'))
    (fun _ => hinv.of_bufs_eq rfl)
  refine ⟨hw', habs.trans ?_, trivial⟩
  rw [show (w'.setSet h ⟨s.live, [], s.cur, [], []⟩).contents ⟨s.live, [], s.cur, [], []⟩ = [] from hc,
    hlive]
  rfl

theorem drop_spec (hw : WInv w) (hs : w.getSet h = some s) :
    WInv (w.drop h).1 ∧ absW (w.drop h).1 = (absW w).set h none ∧ (w.drop h).2 = .unit := by
  have i := hw.of_getSet hs
  obtain ⟨w', hf, hsets', hother⟩ := free_spec s.bufIds w i.nodupBufs i.live_buf
  unfold World.drop
  simp only [hs, hf]
  obtain ⟨hw', habs⟩ := winv_update (w' := w'.setSet h { s with live := false, map := [], idToPtr := [] })
    (s' := { s with live := false, map := [], idToPtr := [] })
    hw (getSet_some hs).1 (congrArg (List.set · h _) hsets')
    (fun b B' hB' ho => (hother b (i.not_mem_of_owner hB' ho)).trans hB') (fun hl => Bool.noConfusion hl)
  exact ⟨hw', habs, trivial⟩

theorem intoIter_spec (hw : WInv w) (hs : w.getSet h = some s) :
    WInv (w.intoIter h).1 ∧ absW (w.intoIter h).1 = (absW w).set h none ∧
      (w.intoIter h).2 = .list (w.contents s) := by
  obtain ⟨h1, h2, h3⟩ := drop_spec hw hs
  unfold World.intoIter
  -- with the answer of `drop` known, the `match` on its result picks its branch
  rw [iter_spec hw hs, show w.drop h = ((w.drop h).1, .unit) from Prod.ext rfl h3]
  exact ⟨h1, h2, rfl⟩

theorem new_spec (w : World α) (hw : WInv w) :
    WInv w.new.1 ∧ absW w.new.1 = absW w ++ [some []] ∧ w.new.2 = .handle (absW w).length := by
  obtain ⟨hinv, hc⟩ := SetInv.fresh (w := w.new.1) (h := w.sets.length) true
    List.getElem?_concat_length rfl rfl rfl
  obtain ⟨h1, h2⟩ := winv_extend (w' := w.new.1) (extra := [⟨w.sets.length, true, 0, []⟩]) hw rfl rfl
    (fun _ => hinv)
  exact ⟨h1, by rw [h2, hc]; rfl, by rw [absW_length]; rfl⟩

/-- the loop of the repaired `clone`: inserting values that are new and pairwise distinct appends them -/
theorem insertAll_spec [DecidableEq α] : ∀ (vs : List α) (w : World α) (h : Nat) (c : List α),
    WInv w → (absW w)[h]? = some (some c) → (c ++ vs).Nodup →
    WInv (w.insertAll h vs).1 ∧ absW (w.insertAll h vs).1 = (absW w).set h (some (c ++ vs)) ∧
      (w.insertAll h vs).2 = .unit := by
  intro vs
  induction vs with
  | nil =>
    intro w h c hw ha _
    obtain ⟨hlt, e⟩ := List.getElem?_eq_some_iff.1 ha
    exact ⟨hw, by rw [List.append_nil, ← e]; exact (List.set_getElem_self hlt).symm, rfl⟩
  | cons v vs ih =>
    intro w h c hw ha hnd
    obtain ⟨s, hs, hc⟩ := getSet_of_abs ha
    have hv : v ∉ c := fun hm =>
      (List.nodup_append.1 hnd).2.2 v hm v List.mem_cons_self rfl
    obtain ⟨h1, h2, h3⟩ := insert_spec hw hs v
    rw [hc, if_neg hv] at h2 h3
    have ha' : (absW (w.insert h v).1)[h]? = some (some (c ++ [v])) :=
      h2 ▸ List.getElem?_set_self (getElem?_lt ha)
    obtain ⟨k1, k2, k3⟩ := ih (w.insert h v).1 h (c ++ [v]) h1 ha' (List.append_cons c v vs ▸ hnd)
    unfold World.insertAll
    rw [show w.insert h v = ((w.insert h v).1, .id c.length) from Prod.ext rfl h3]
    exact ⟨k1, by rw [k2, h2, List.set_set, ← List.append_cons], k3⟩

theorem clone_spec [DecidableEq α] {w : World α} {h : Nat} {s : SetS} (hw : WInv w)
    (hs : w.getSet h = some s) :
    WInv (w.clone h).1 ∧ absW (w.clone h).1 = absW w ++ [some (w.contents s)] ∧
      (w.clone h).2 = .handle (absW w).length := by
  obtain ⟨n1, n2, _⟩ := new_spec w hw
  have ha : (absW w.new.1)[w.sets.length]? = some (some []) := by
    rw [n2, ← absW_length]; exact List.getElem?_concat_length
  obtain ⟨k1, k2, k3⟩ := insertAll_spec (w.contents s) w.new.1 w.sets.length [] n1 ha
    (hw.of_getSet hs).nodup
  unfold World.clone
  rw [iter_spec hw hs]
  simp only
  rw [show w.new.1.insertAll w.sets.length (w.contents s) = (_, .unit) from Prod.ext rfl k3]
  refine ⟨k1, ?_, by rw [absW_length]⟩
  rw [k2, n2, ← absW_length, List.set_append, if_neg (Nat.lt_irrefl _), Nat.sub_self]
  rfl

/-- the handle an operation is applied to (`new` has none) -/
def Op.handle : Op α → Option Nat
  | .new => none
  | .insert h _ | .tryGetId h _ | .contains h _ | .index h _ | .len h | .iter h | .intoIter h
  | .clear h | .clone h | .drop h => some h

theorem step_of_getSet_none [DecidableEq α] {op : Op α} (hh : op.handle = some h)
    (hs : w.getSet h = none) : w.step op = (w, .bad) := by
  cases op <;> cases hh <;>
    simp only [World.step, World.insert, World.tryGetId, World.contains, World.index, World.len,
      World.iter, World.intoIter, World.clear, World.clone, World.drop, hs]

/-- an operation on a handle that is unknown or already consumed is rejected and changes nothing -/
theorem step_bad [DecidableEq α] {w : World α} (op : Op α) (h : Nat) (hs : w.getSet h = none) :
    (op = .insert h v ∨ op = .tryGetId h v ∨ op = .contains h v ∨ op = .index h n ∨ op = .len h ∨
      op = .iter h ∨ op = .intoIter h ∨ op = .clear h ∨ op = .clone h ∨ op = .drop h) →
    w.step op = (w, .bad) := by
  intro ho
  rcases ho with rfl | rfl | rfl | rfl | rfl | rfl | rfl | rfl | rfl | rfl <;>
    exact step_of_getSet_none rfl hs

end Abra.IdSet
