import AbraProofs.Lemmas.SchedStatus
/-! Channel contents versus the trace of executed instructions (for C09). -/
namespace Abra.Sched
variable {T V E : Type}

theorem getQ_pad (chans : List (List V)) (n c : Nat) : getQ (chans ++ List.replicate n []) c = getQ chans c := by
  unfold getQ
  rw [List.getD_eq_getElem?_getD, List.getD_eq_getElem?_getD, List.getElem?_append]
  split
  · rfl
  · rename_i h
    rw [List.getElem?_eq_none (Nat.le_of_not_lt h), List.getElem?_replicate]
    split <;> rfl

theorem getQ_append_nil (chans : List (List V)) (c : Nat) : getQ (chans ++ [[]]) c = getQ chans c :=
  getQ_pad chans 1 c

theorem getQ_snoc (chans : List (List V)) (q : List V) (c : Nat) :
    getQ (chans ++ [q]) c = if chans.length = c then q else getQ chans c := by
  unfold getQ
  rw [List.getD_eq_getElem?_getD, List.getD_eq_getElem?_getD, List.getElem?_append]
  by_cases h : c < chans.length
  · rw [if_pos h, if_neg (Nat.ne_of_gt h)]
  · rw [if_neg h, List.getElem?_eq_none (Nat.le_of_not_lt h)]
    by_cases he : chans.length = c
    · rw [if_pos he, ← he, Nat.sub_self]; rfl
    · rw [if_neg he, List.getElem?_eq_none]
      exact Nat.sub_pos_of_lt (Nat.lt_of_le_of_ne (Nat.le_of_not_lt h) he)

theorem getQ_setQ (chans : List (List V)) (c c' : Nat) (q : List V) :
    getQ (setQ chans c q) c' = if c = c' then q else getQ chans c' := by
  unfold setQ
  split
  · unfold getQ
    rw [List.getD_eq_getElem?_getD, List.getD_eq_getElem?_getD, List.getElem?_set]
    split <;> rfl
  · -- a queue that was never created: the list is padded up to it
    rename_i h
    rw [getQ_snoc, getQ_pad, List.length_append, List.length_replicate, Nat.add_sub_cancel' (Nat.le_of_not_lt h)]

/-- values written to queue `c`, in the order of the `ChannelWrite`s -/
def writesOf (c : Nat) (tr : List (Event V E)) : List V :=
  tr.filterMap fun e => match e.kind with
    | .write c' v => if c' = c then some v else none
    | _ => none

/-- values popped from queue `c`, in the order of the successful `ChannelRead`s -/
def readsOf (c : Nat) (tr : List (Event V E)) : List V :=
  tr.filterMap fun e => match e.kind with
    | .readOk c' v => if c' = c then some v else none
    | _ => none

/-- queue refinement: what was written = what was read, followed by what is still queued -/
def ChanInv (r : Runtime T V E) : Prop :=
  ∀ c, writesOf c r.trace = readsOf c r.trace ++ getQ r.chans c

theorem writesOf_snoc (c : Nat) (tr : List (Event V E)) (e : Event V E) :
    writesOf c (tr ++ [e]) = writesOf c tr ++
      match e.kind with
      | .write c' v => if c' = c then [v] else []
      | _ => [] := by
  rw [writesOf, writesOf, List.filterMap_append]
  congr 1
  obtain ⟨i, k⟩ := e
  cases k with
  | write c' v =>
    by_cases h : c' = c
    · simp only [List.filterMap_cons, h, if_true, List.filterMap_nil]
    · simp only [List.filterMap_cons, h, if_false, List.filterMap_nil]
  | _ => rfl

theorem readsOf_snoc (c : Nat) (tr : List (Event V E)) (e : Event V E) :
    readsOf c (tr ++ [e]) = readsOf c tr ++
      match e.kind with
      | .readOk c' v => if c' = c then [v] else []
      | _ => [] := by
  rw [readsOf, readsOf, List.filterMap_append]
  congr 1
  obtain ⟨i, k⟩ := e
  cases k with
  | readOk c' v =>
    by_cases h : c' = c
    · simp only [List.filterMap_cons, h, if_true, List.filterMap_nil]
    · simp only [List.filterMap_cons, h, if_false, List.filterMap_nil]
  | _ => rfl

theorem exec_chanInv (step : T → Action T V E) (r : Runtime T V E) (th : Thread T E)
    (h : ∀ c, writesOf c r.trace = readsOf c r.trace ++ getQ r.chans c) :
    ∀ c, writesOf c (exec step r th).1.trace = readsOf c (exec step r th).1.trace ++ getQ (exec step r th).1.chans c := by
  intro c
  have hc := h c
  unfold exec
  cases step th.st with
  | newChan k => simp only [writesOf_snoc, readsOf_snoc, List.append_nil, getQ_append_nil]; exact hc
  | read c' k =>
    dsimp only
    cases hq : getQ r.chans c' with
    | nil => simp only [writesOf_snoc, readsOf_snoc, List.append_nil]; exact hc
    | cons v q =>
      simp only [writesOf_snoc, readsOf_snoc, getQ_setQ, List.append_nil, hc]
      by_cases he : c' = c
      · subst he; simp [hq]
      · simp [he]
  | write c' v t' =>
    simp only [writesOf_snoc, readsOf_snoc, getQ_setQ, List.append_nil, hc]
    by_cases he : c' = c
    · subst he; simp
    · simp [he]
  | _ => simp only [writesOf_snoc, readsOf_snoc, List.append_nil]; exact hc

@[simp] theorem ftt_chans (r : Runtime T V E) (th : Thread T E) : (finishThreadTurn r th).1.chans = r.chans :=
  (ftt_ct r th).1

theorem runN_ct_inv (step : T → Action T V E) (P : List (List V) → List (Event V E) → Prop)
    (hexec : ∀ (r : Runtime T V E) th, P r.chans r.trace → P (exec step r th).1.chans (exec step r th).1.trace)
    (b : Nat) (r : Runtime T V E) (h : P r.chans r.trace) :
    P (runN step b r).rt.chans (runN step b r).rt.trace :=
  (runN_execs step (fun _ => P) (fun _ => hexec) b r h).1

theorem serviceAll_ct {H : Type} (host : H → Nat → T → H × T) (h : H) (r : Runtime T V E) :
    (serviceAll host h r).2.chans = r.chans ∧ (serviceAll host h r).2.trace = r.trace := ⟨rfl, rfl⟩

theorem drive_ct_inv {H : Type} (step : T → Action T V E) (host : H → Nat → T → H × T)
    (P : List (List V) → List (Event V E) → Prop)
    (hexec : ∀ (r : Runtime T V E) th, P r.chans r.trace → P (exec step r th).1.chans (exec step r th).1.trace)
    (s : List (Nat × Bool)) (h : H) (r : Runtime T V E) (n : Nat) (hp : P r.chans r.trace) :
    P (drive step host s h r n).2.1.chans (drive step host s h r n).2.1.trace :=
  drive_induct step host (fun _ r _ => P r.chans r.trace) (fun b _ r _ => runN_ct_inv step P hexec b r)
    (fun _ _ _ hp => hp) s h r n hp

end Abra.Sched
