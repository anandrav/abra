import AbraProofs.Lemmas.HeapCopy
/-! The copy made by `deepCopyM` is isomorphic to the source graph; fuel; isolation on graphs. -/
namespace Abra.Heap

/-- values reachable from `v` by following pointers through the heaps `S` (cycles allowed) -/
inductive ReachV (S : Heaps) (v : Val) : Val → Prop where
  | root : ReachV S v v
  | step {w : Val} {a : Addr} {obj : Obj} {c : Val} :
      ReachV S v w → ptr? w = some a → lookup S a = some obj → c ∈ obj.kids → ReachV S v c

theorem reach_trans {S : Heaps} {v w x : Val} (h1 : ReachV S v w) (h2 : ReachV S w x) : ReachV S v x := by
  induction h2 with
  | root => exact h1
  | step _ hp hl hc ih => exact ReachV.step ih hp hl hc

/-- the source graph is well formed: every reachable pointer points to an object of its tag's kind -/
def WF (S : Heaps) (v : Val) : Prop :=
  ∀ w a, ReachV S v w → ptr? w = some a → ∃ obj, lookup S a = some obj ∧ tagOk w obj = true

theorem wf_of_closed {S : Heaps} {v : Val} (P : Val → Prop) (hv : P v)
    (h : ∀ w a, P w → ptr? w = some a → ∃ obj, lookup S a = some obj ∧ tagOk w obj = true ∧ ∀ k ∈ obj.kids, P k) :
    WF S v := by
  have hP : ∀ w, ReachV S v w → P w := by
    intro w hw
    induction hw with
    | root => exact hv
    | step _ hp hl hc ih =>
      obtain ⟨obj, hl', _, hk⟩ := h _ _ ih hp
      cases hl.symm.trans hl'
      exact hk _ hc
  intro w a hw hp
  obtain ⟨obj, hl, ht, _⟩ := h w a (hP w hw) hp
  exact ⟨obj, hl, ht⟩

/-- every entry of the map is a completed copy, allocated in thread `t` -/
structure Iso (S H' : Heaps) (t : Nat) (M' : CopyMap) : Prop where
  done : ∀ a c, mlookup M' a = some c → Done S H' M' a c
  own : ∀ a c, mlookup M' a = some c → ∃ a', ptr? c = some a' ∧ a'.tid = t
  inj : Inj M'

theorem iso_render {S H' : Heaps} {t : Nat} {M' : CopyMap} (iso : Iso S H' t M') :
    ∀ g w w' tr, mapVal? M' w = some w' → render g S w = some tr → render g H' w' = some tr := by
  intro g
  induction g with
  | zero => intro w w' tr _ h; cases h
  | succ g ih =>
    intro w w' tr hm hr
    cases hp : ptr? w with
    | none => cases (mapVal_scalar hp).1 hm; rw [render_scalar hp] at hr ⊢; exact hr
    | some a =>
      obtain ⟨obj, hl, _, ts, hts, htr⟩ := (render_ptr hp).1 hr
      obtain ⟨ks, a', hp', hks, hl', hkids, htag'⟩ := (iso.done _ _ ((mapVal_ptr hp).symm.trans hm)).at hl
      refine (render_ptr hp').2 ⟨_, hl', (tagOk_withKids ..).trans htag', ts, ?_, (congrFun (tree_withKids obj ks) ts).trans htr⟩
      rw [hkids]
      exact hks.comp hts fun k k' tr' _ h1 h2 => ih k k' tr' h1 h2

/-! ### a copy started with an empty table

`p : Post S t H [] H' M` is what `deepCopyM_post` / `copyListM_post` give for `deepCopy`, `chanReceive` and `spawnCopy`;
`hroot : mapVal? M v = some v'` says that `v'` is the copy of `v` (the result, or one capture). -/

section
variable {S H H' : Heaps} {t : Nat} {M : CopyMap} {v v' : Val}

/-- `deepCopy` and `chanReceive` run `deepCopyM` from the empty table and drop the table from the result -/
theorem copy_post {f : Nat} {S H : Heaps} {t : Nat} {v v' : Val} {H' : Heaps}
    (h : (deepCopyM f S H [] t v).map (fun r => (r.1, r.2.1)) = some (v', H')) :
    ∃ M, Post S t H [] H' M ∧ mapVal? M v = some v' := by
  obtain ⟨⟨_, _, M⟩, hm, hr⟩ := Option.map_eq_some_iff.1 h
  cases hr
  exact ⟨M, deepCopyM_post S t f H [] v _ _ M hm⟩

theorem spawn_post {f : Nat} {H : Heaps} {t : Nat} {caps caps' : List Val} {H' : Heaps}
    (h : spawnCopy f H t caps = some (caps', H')) : ∃ M, Post H t H [] H' M ∧ mapList? M caps = some caps' := by
  obtain ⟨⟨_, _, M⟩, hm, hr⟩ := Option.map_eq_some_iff.1 h
  cases hr
  exact ⟨M, copyListM_post H t _ (deepCopyM_post H t f) caps H [] _ _ M hm⟩

theorem iso_of_post (p : Post S t H [] H' M) : Iso S H' t M :=
  ⟨fun a c h => (p.new a c h rfl).1,
   fun a c h => by
    obtain ⟨hd, hf⟩ := p.new a c h rfl
    obtain ⟨x, hx, _⟩ := hd.ptr
    exact ⟨x, hx, (hf x hx).1⟩,
   p.inj (fun _ _ _ h => nomatch h) (fun _ _ _ _ _ h => nomatch h)⟩

theorem iso_cover (iso : Iso S H' t M) (hroot : mapVal? M v = some v') :
    ∀ w, ReachV S v w → ∃ w', mapVal? M w = some w' := by
  intro w hw
  induction hw with
  | root => exact ⟨v', hroot⟩
  | step _ hp hl hc ih =>
    obtain ⟨w', hw'⟩ := ih
    obtain ⟨ks, _, _, hks, _⟩ := (iso.done _ _ ((mapVal_ptr hp).symm.trans hw')).at hl
    obtain ⟨k', _, hk'⟩ := hks.left hc
    exact ⟨k', hk'⟩

theorem iso_onto (iso : Iso S H' t M) (hroot : mapVal? M v = some v') :
    ∀ w', ReachV H' v' w' → ∃ w, ReachV S v w ∧ mapVal? M w = some w' := by
  intro w' hw'
  induction hw' with
  | root => exact ⟨v, ReachV.root, hroot⟩
  | @step x' a' obj' c' _ hp hl hc ih =>
    obtain ⟨x, hx, hxm⟩ := ih
    obtain ⟨a, hpx, hma⟩ := mapVal_ptr_inv hxm hp
    obtain ⟨obj, d1⟩ := (iso.done a x' hma).src
    obtain ⟨ks, a'', d2, hks, d4, hkids, _⟩ := (iso.done a x' hma).at d1
    cases hp.symm.trans d2
    cases hl.symm.trans d4
    obtain ⟨k, hk1, hk2⟩ := hks.right (hkids ▸ hc)
    exact ⟨k, ReachV.step hx hpx d1 hk1, hk2⟩

theorem post_fresh (p : Post S t H [] H' M) (hroot : mapVal? M v = some v') :
    ∀ w' x, ReachV H' v' w' → ptr? w' = some x → lookup H x = none ∧ x.tid = t := by
  intro w' x hw' hx
  obtain ⟨w, _, hm⟩ := iso_onto (iso_of_post p) hroot w' hw'
  obtain ⟨a, _, hma⟩ := mapVal_ptr_inv hm hx
  exact ((p.new a w' hma rfl).2 x hx).symm

end

/-- below `w` the source graph is well tagged, and `L` lists every object there that `M` holds no copy of yet -/
def Todo (S : Heaps) (M : CopyMap) (L : List Addr) (w : Val) : Prop :=
  ∀ x b, ReachV S w x → ptr? x = some b →
    (∃ obj, lookup S b = some obj ∧ tagOk x obj = true) ∧ (mlookup M b = none → b ∈ L)

theorem Todo.sub {S : Heaps} {M M' : CopyMap} {L : List Addr} {w : Val} (hs : Sub M M') (h : Todo S M L w) :
    Todo S M' L w := by
  refine fun x b hx hb => ⟨(h x b hx hb).1, fun hn => (h x b hx hb).2 ?_⟩
  cases hq : mlookup M b with
  | none => rfl
  | some c => rw [hs b c hq] at hn; cases hn

/-- once `a` has its copy on record, its slots have `a` struck off the list -/
theorem Todo.kid {S : Heaps} {M : CopyMap} {L : List Addr} {v w : Val} {a : Addr} {obj : Obj} (h : Todo S M L v)
    (hp : ptr? v = some a) (hl : lookup S a = some obj) (hw : w ∈ obj.kids) (c : Val) :
    Todo S ((a, c) :: M) (L.erase a) w := by
  intro x b hx hb
  have hr := h x b (reach_trans (.step .root hp hl hw) hx) hb
  refine ⟨hr.1, fun hn => ?_⟩
  rw [mlookup_cons] at hn
  by_cases hab : a = b
  · rw [if_pos hab] at hn; cases hn
  · rw [if_neg hab] at hn
    exact (List.mem_erase_of_ne (Ne.symm hab)).mpr (hr.2 hn)

theorem copyListM_total {S : Heaps} {t f : Nat} {L : List Addr}
    (ih : ∀ H M w, Todo S M L w → ∃ r, deepCopyM f S H M t w = some r) :
    ∀ vs H M, (∀ w ∈ vs, Todo S M L w) → ∃ r, copyListM (fun H M w => deepCopyM f S H M t w) H M vs = some r := by
  intro vs
  induction vs with
  | nil => intro H M _; exact ⟨_, rfl⟩
  | cons v vs ihvs =>
    intro H M hall
    obtain ⟨⟨v1, H1, M1⟩, h1⟩ := ih H M v (hall v (List.mem_cons_self ..))
    have hs := (deepCopyM_post S t f H M v v1 H1 M1 h1).1.sub
    obtain ⟨⟨vs2, H2, M2⟩, h2⟩ := ihvs H1 M1 fun w hw => (hall w (List.mem_cons_of_mem _ hw)).sub hs
    exact ⟨(v1 :: vs2, H2, M2), by rw [copyListM, h1]; dsimp only; rw [h2]⟩

/-- If `L` lists every not yet copied object reachable from `v`, fuel `|L| + 1` is enough. -/
theorem deepCopyM_total (S : Heaps) (t : Nat) : ∀ f H M v (L : List Addr), Todo S M L v → L.length < f →
    ∃ r, deepCopyM f S H M t v = some r := by
  intro f
  induction f with
  | zero => intro H M v L _ h; cases h
  | succ f ih =>
    intro H M v L htodo hlen
    conv => enter [1, r, 1]; whnf
    cases hp : ptr? v with
    | none => exact ⟨_, rfl⟩
    | some a =>
      dsimp only
      cases hm : mlookup M a with
      | some c => exact ⟨_, rfl⟩
      | none =>
        dsimp only
        obtain ⟨⟨obj, hl, htag⟩, haL⟩ := htodo v a .root hp
        rw [hl]
        dsimp only
        rw [if_pos htag]
        have hlen' : (L.erase a).length < f := by
          rw [List.length_erase_of_mem (haL hm)]
          have : 0 < L.length := List.length_pos_of_mem (haL hm)
          omega
        obtain ⟨⟨ks, H2, M2⟩, hr⟩ := copyListM_total (fun H M w hw => ih H M w (L.erase a) hw hlen') obj.kids
          _ _ fun w hw => htodo.kid hp hl hw (retag v (alloc H t (obj.withKids (obj.kids.map fun _ => Val.int 0))).1)
        rw [hr]
        exact ⟨_, rfl⟩

theorem reach_congr {H H2 : Heaps} {u : Val}
    (hag : ∀ w x, ReachV H u w → ptr? w = some x → lookup H2 x = lookup H x) :
    ∀ w, ReachV H u w ↔ ReachV H2 u w := by
  intro w
  constructor
  · intro h
    induction h with
    | root => exact ReachV.root
    | step hw hp hl hc ih => exact ReachV.step ih hp (by rw [hag _ _ hw hp]; exact hl) hc
  · intro h
    induction h with
    | root => exact ReachV.root
    | step _ hp hl hc ih => exact ReachV.step ih hp (by rw [← hag _ _ ih hp]; exact hl) hc

theorem render_congr_reach {H H2 : Heaps} {u : Val}
    (hag : ∀ w x, ReachV H u w → ptr? w = some x → lookup H2 x = lookup H x) (g : Nat) :
    render g H2 u = render g H u :=
  render_agree (ReachV H u) (fun _ _ _ _ hw hp hl hk => .step hw hp hl hk) hag g u .root

end Abra.Heap
