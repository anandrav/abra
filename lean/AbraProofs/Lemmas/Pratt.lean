import AbraModel.Pratt
/-!
A relation between results that the `ok`/`err`/`fuel` sequencing respects is respected by one step
of each of the four functions of the Pratt model (`parseBp_le` … `parseList_le`, for two fold modes
and two amounts of fuel); fuel monotonicity is the instance proved here, the simulation of the
reference parser by the code's (C31) is another.  Sufficiency of `fuelFor` is the one fact that
needs the lengths of the token lists.
-/
namespace Abra.Pratt

/-- `Res.Le errs x y`: `y` is `x`, unless `x` is out of fuel — or, for `errs = false`, a diagnostic.
    `Le true` is how more fuel changes a result, `Le false` how the code's parser differs from the
    reference parser. -/
def Res.Le {α : Type} (errs : Bool) : Res α → Res α → Prop
  | .ok v r, y => y = .ok v r
  | .err, y => errs = true → y = .err
  | .fuel, _ => True

theorem Res.Le.refl {α : Type} {errs : Bool} : (x : Res α) → Res.Le errs x x
  | .ok _ _ => rfl
  | .err => fun _ => rfl
  | .fuel => trivial

theorem Res.Le.ok {α : Type} {errs : Bool} {x y : Res α} {v : α} {r : List Tok}
    (h : Res.Le errs x y) (hx : x = .ok v r) : y = .ok v r := by
  subst hx; exact h

theorem Res.Le.of_ne_fuel {α : Type} {x y : Res α} (h : Res.Le true x y) (hx : x ≠ .fuel) : y = x := by
  cases x with
  | ok v r => exact h
  | err => exact h rfl
  | fuel => exact absurd rfl hx

/- The `match` of the model on a callee's result is one function per type of the callee's value,
   whatever the type of the result: the sequencing lemmas come in two copies. -/
theorem Res.Le.seqE {β : Type} {errs : Bool} {x y : Res Expr} {k k' : Expr → List Tok → Res β} :
    Res.Le errs x y → (∀ v r, Res.Le errs (k v r) (k' v r)) →
    Res.Le errs (match x with | .ok v r => k v r | .err => .err | .fuel => .fuel)
      (match y with | .ok v r => k' v r | .err => .err | .fuel => .fuel) := by
  intro h hk
  cases x with
  | ok v r => rw [show y = .ok v r from h]; exact hk v r
  | err => intro he; rw [show y = .err from h he]
  | fuel => trivial

theorem Res.Le.seqA {β : Type} {errs : Bool} {x y : Res Args} {k k' : Args → List Tok → Res β} :
    Res.Le errs x y → (∀ v r, Res.Le errs (k v r) (k' v r)) →
    Res.Le errs (match x with | .ok v r => k v r | .err => .err | .fuel => .fuel)
      (match y with | .ok v r => k' v r | .err => .err | .fuel => .fuel) := by
  intro h hk
  cases x with
  | ok v r => rw [show y = .ok v r from h]; exact hk v r
  | err => intro he; rw [show y = .err from h he]
  | fuel => trivial

section
variable {errs : Bool} {m m' : FoldMode} {f g : Nat}
  (hB : ∀ bp toks, Res.Le errs (parseBp m f bp toks) (parseBp m' g bp toks))
  (hL : ∀ bp lhs toks, Res.Le errs (loop m f bp lhs toks) (loop m' g bp lhs toks))
  (hT : ∀ toks, Res.Le errs (parseTerm m f toks) (parseTerm m' g toks))
  (hA : ∀ c toks, Res.Le errs (parseList m f c toks) (parseList m' g c toks))
include hB hL hT hA

omit hA in
/-- where the two modes agree about the prefix operator -/
theorem parseBp_le (bp : Nat) {toks : List Tok}
    (hp : prefixOp? m (skipNl toks) = prefixOp? m' (skipNl toks)) :
    Res.Le errs (parseBp m (f+1) bp toks) (parseBp m' (g+1) bp toks) := by
  rw [parseBp, parseBp, hp]
  split
  · exact (hB _ _).seqE fun _ _ => hL _ _ _
  · exact (hT _).seqE (hL bp)

omit hT in
theorem loop_le (bp : Nat) (lhs : Expr) (toks : List Tok) :
    Res.Le errs (loop m (f+1) bp lhs toks) (loop m' (g+1) bp lhs toks) := by
  rw [loop.eq_def, loop.eq_def]
  simp only
  split
  · split
    · exact .refl _
    · exact (hA _ _).seqA fun _ _ => hL _ _ _
  · split
    · exact .refl _
    · split
      · exact hL _ _ _
      · exact .refl _
  · split
    · exact .refl _
    · refine (hB _ _).seqE fun _ r => ?_
      split
      · exact hL _ _ _
      · exact .refl _
  · split
    · exact .refl _
    · exact hL _ _ _
  · split
    · exact .refl _
    · exact hL _ _ _
  · split
    · exact .refl _
    · exact (hB _ _).seqE fun _ _ => hL _ _ _
  · exact .refl _

omit hB hL hT in
theorem parseTerm_le (toks : List Tok) :
    Res.Le errs (parseTerm m (f+1) toks) (parseTerm m' (g+1) toks) := by
  rw [parseTerm, parseTerm]
  split
  · exact .refl _
  · exact .refl _
  · exact .refl _
  · exact .refl _
  · next rest _ =>
    -- `()`, `(e)` and a tuple are told apart in the `ok` arm: not the shape of `seqA`
    have h := hA .rparen rest
    generalize parseList m f .rparen rest = x at h ⊢
    generalize parseList m' g .rparen rest = y at h ⊢
    cases x with
    | ok es r => rw [show y = .ok es r from h]; exact .refl _
    | err => intro he; rw [show y = .err from h he]
    | fuel => trivial
  · exact (hA _ _).seqA fun _ _ => .refl _
  · exact .refl _

omit hL hT in
theorem parseList_le (close : Tok) (toks : List Tok) :
    Res.Le errs (parseList m (f+1) close toks) (parseList m' (g+1) close toks) := by
  rw [parseList, parseList]
  split
  · exact .refl _
  · split
    · exact .refl _
    · refine (hB _ _).seqE fun _ r => ?_
      split
      · exact (hA _ _).seqA fun _ _ => .refl _
      · exact (hA _ _).seqA fun _ _ => .refl _
      · exact .refl _
      · exact .refl _

end

theorem mono_succ (fold : FoldMode) : ∀ f,
    (∀ bp toks, Res.Le true (parseBp fold f bp toks) (parseBp fold (f+1) bp toks)) ∧
    (∀ bp lhs toks, Res.Le true (loop fold f bp lhs toks) (loop fold (f+1) bp lhs toks)) ∧
    (∀ toks, Res.Le true (parseTerm fold f toks) (parseTerm fold (f+1) toks)) ∧
    (∀ c toks, Res.Le true (parseList fold f c toks) (parseList fold (f+1) c toks))
  | 0 => ⟨fun _ _ => trivial, fun _ _ _ => trivial, fun _ => trivial, fun _ _ => trivial⟩
  | f+1 =>
    have ⟨hB, hL, hT, hA⟩ := mono_succ fold f
    ⟨fun bp _ => parseBp_le hB hL hT bp rfl, loop_le hB hL hA, parseTerm_le hA, parseList_le hB hA⟩

theorem Res.Le.lift {α : Type} {x : Nat → Res α} (h : ∀ f, Res.Le true (x f) (x (f+1))) {f g : Nat}
    (hfg : f ≤ g) (hne : x f ≠ .fuel) : x g = x f := by
  induction hfg with
  | refl => rfl
  | step _ ih => rw [← ih]; exact (h _).of_ne_fuel (ih ▸ hne)

theorem parseBp_lift {fold : FoldMode} {f g bp : Nat} {toks : List Tok} {res : Res Expr}
    (h : parseBp fold f bp toks = res) (hne : res ≠ .fuel) (hfg : f ≤ g) : parseBp fold g bp toks = res :=
  h ▸ Res.Le.lift (fun f => (mono_succ fold f).1 bp toks) hfg (h ▸ hne)

theorem loop_lift {fold : FoldMode} {f g bp : Nat} {lhs : Expr} {toks : List Tok} {res : Res Expr}
    (h : loop fold f bp lhs toks = res) (hne : res ≠ .fuel) (hfg : f ≤ g) : loop fold g bp lhs toks = res :=
  h ▸ Res.Le.lift (fun f => (mono_succ fold f).2.1 bp lhs toks) hfg (h ▸ hne)

theorem parseTerm_lift {fold : FoldMode} {f g : Nat} {toks : List Tok} {res : Res Expr}
    (h : parseTerm fold f toks = res) (hne : res ≠ .fuel) (hfg : f ≤ g) : parseTerm fold g toks = res :=
  h ▸ Res.Le.lift (fun f => (mono_succ fold f).2.2.1 toks) hfg (h ▸ hne)

theorem parseList_lift {fold : FoldMode} {f g : Nat} {c : Tok} {toks : List Tok} {res : Res Args}
    (h : parseList fold f c toks = res) (hne : res ≠ .fuel) (hfg : f ≤ g) : parseList fold g c toks = res :=
  h ▸ Res.Le.lift (fun f => (mono_succ fold f).2.2.2 c toks) hfg (h ▸ hne)

theorem skipNl_length : (ts : List Tok) → (skipNl ts).length ≤ ts.length
  | [] => Nat.le_refl _
  | t :: r => by
    cases t
    case nl => exact Nat.le_succ_of_le (skipNl_length r)
    all_goals exact Nat.le_refl _

theorem skipNl_cons {toks rest : List Tok} {t : Tok} (h : skipNl toks = t :: rest) :
    rest.length < toks.length :=
  Nat.lt_of_lt_of_le (by rw [h]; exact Nat.lt_succ_self _) (skipNl_length toks)

theorem skipNl_nls (k : Nat) (Z : List Tok) : skipNl (List.replicate k .nl ++ Z) = skipNl Z := by
  induction k with
  | zero => rfl
  | succ k ih => simp [List.replicate_succ, skipNl, ih]

theorem prefixOp_length {fold : FoldMode} {toks rest : List Tok} {op : PrefixOp}
    (h : prefixOp? fold toks = some (op, rest)) : rest.length < toks.length := by
  unfold prefixOp? at h
  split at h
  · split at h
    · cases h
    · cases h; exact Nat.lt_succ_self _
  · cases h; exact Nat.lt_succ_self _
  · cases h; exact Nat.lt_succ_self _
  · cases h

/-- `parse_prefix_op` answers as the reference does, except that it leaves a `-` in front of a
    numeric literal to `parse_expr_term` where the mode folds the sign into the literal -/
theorem prefixOp_cases (mode : FoldMode) (toks : List Tok) :
    prefixOp? mode toks = prefixOp? .never toks ∨
    ∃ a r, toks = .op .sub :: .atom a :: r ∧ a.isNum = true ∧ foldsHere mode r = true ∧
      prefixOp? mode toks = none := by
  unfold prefixOp?
  split
  · next a r =>
    cases hn : a.isNum with
    | false => exact .inl rfl
    | true =>
      cases hf : foldsHere mode r with
      | false => exact .inl rfl
      | true => exact .inr ⟨a, r, rfl, hn, hf, rfl⟩
  · exact .inl rfl
  · exact .inl rfl
  · exact .inl rfl

/-- not out of fuel, and what an `ok` leaves over is shorter than `n` -/
def Good {α : Type} (n : Nat) : Res α → Prop
  | .ok _ rest => rest.length < n
  | .err => True
  | .fuel => False

theorem Good.mono {α : Type} {a b : Nat} {x : Res α} (h : Good a x) (hab : a ≤ b) : Good b x := by
  cases x with
  | ok v r => exact Nat.lt_of_lt_of_le h hab
  | err => trivial
  | fuel => exact h

theorem Good.seqE {β : Type} {a b : Nat} {x : Res Expr} {k : Expr → List Tok → Res β} :
    Good a x → (∀ v r, r.length < a → Good b (k v r)) →
    Good b (match x with | .ok v r => k v r | .err => .err | .fuel => .fuel) := by
  intro h hk
  cases x with
  | ok v r => exact hk v r h
  | err => trivial
  | fuel => exact h

theorem Good.seqA {β : Type} {a b : Nat} {x : Res Args} {k : Args → List Tok → Res β} :
    Good a x → (∀ v r, r.length < a → Good b (k v r)) →
    Good b (match x with | .ok v r => k v r | .err => .err | .fuel => .fuel) := by
  intro h hk
  cases x with
  | ok v r => exact hk v r h
  | err => trivial
  | fuel => exact h

/-- the fuel account: a call costs one unit, a consumed token frees three -/
theorem fuel_lt {a b c c' n : Nat} (hab : a < b) (h : 3 * b + c ≤ n + 1) (hc : c' ≤ c + 2) :
    3 * a + c' ≤ n := by omega

theorem fuel_le {a b c c' n : Nat} (hab : a ≤ b) (h : 3 * b + c ≤ n + 1) (hc : c' < c) :
    3 * a + c' ≤ n := by omega

/-- Three units of fuel per token: one call of `parseBp` reaches `parseTerm` and from there
    `parseList` without consuming a token, and `loop` hands on to `parseList` directly. -/
theorem fuel_all (fold : FoldMode) : ∀ f,
    (∀ bp toks, 3 * toks.length + 2 ≤ f → Good toks.length (parseBp fold f bp toks)) ∧
    (∀ bp lhs toks, 3 * toks.length + 1 ≤ f → Good (toks.length + 1) (loop fold f bp lhs toks)) ∧
    (∀ toks, 3 * toks.length + 1 ≤ f → Good toks.length (parseTerm fold f toks)) ∧
    (∀ c toks, 3 * toks.length + 3 ≤ f → Good toks.length (parseList fold f c toks)) := by
  intro f
  induction f with
  | zero =>
    exact ⟨fun _ _ h => absurd h (Nat.not_succ_le_zero _), fun _ _ _ h => absurd h (Nat.not_succ_le_zero _),
      fun _ h => absurd h (Nat.not_succ_le_zero _), fun _ _ h => absurd h (Nat.not_succ_le_zero _)⟩
  | succ n ih =>
    obtain ⟨ihB, ihL, ihT, ihA⟩ := ih
    have loopOn : ∀ {bp lhs c} {toks r : List Tok}, 3 * toks.length + c ≤ n + 1 → r.length < toks.length →
        Good (toks.length + 1) (loop fold n bp lhs r) := fun hf hr =>
      (ihL _ _ _ (fuel_lt hr hf (Nat.le_add_left 1 _))).mono (Nat.le_succ_of_le hr)
    refine ⟨fun bp toks hf => ?_, fun bp lhs toks hf => ?_, fun toks hf => ?_, fun c toks hf => ?_⟩
    · have hs := skipNl_length toks
      rw [parseBp]
      split
      · next op rest hp =>
        have hl := Nat.lt_of_lt_of_le (prefixOp_length hp) hs
        exact (ihB op.prec rest (fuel_lt hl hf (by decide))).seqE fun _ r hr =>
          (ihL bp _ r (fuel_lt (Nat.lt_trans hr hl) hf (by decide))).mono (Nat.lt_trans hr hl)
      · exact (ihT _ (fuel_le hs hf (by decide))).seqE fun _ r hr =>
          (ihL bp _ r (fuel_lt (Nat.lt_of_lt_of_le hr hs) hf (by decide))).mono (Nat.lt_of_lt_of_le hr hs)
    · rw [loop.eq_def]
      simp only
      split
      · next rest =>
        split
        · exact Nat.lt_succ_self _
        · exact (ihA _ rest (fuel_lt (Nat.lt_succ_self _) hf (by decide))).seqA fun _ r hr =>
            loopOn hf (Nat.lt_succ_of_lt hr)
      · split
        · exact Nat.lt_succ_self _
        · split
          · exact loopOn hf (Nat.lt_succ_of_lt (Nat.lt_succ_self _))
          · trivial
      · next rest =>
        split
        · exact Nat.lt_succ_self _
        · have hs := Nat.lt_succ_of_le (skipNl_length rest)
          refine (ihB 0 _ (fuel_lt hs hf (by decide))).seqE fun _ r hr => ?_
          split
          · next heq => exact loopOn hf (Nat.lt_trans (skipNl_cons heq) (Nat.lt_trans hr hs))
          · trivial
      · split
        · exact Nat.lt_succ_self _
        · exact loopOn hf (Nat.lt_succ_self _)
      · split
        · exact Nat.lt_succ_self _
        · exact loopOn hf (Nat.lt_succ_self _)
      · next rest =>
        split
        · exact Nat.lt_succ_self _
        · exact (ihB _ rest (fuel_lt (Nat.lt_succ_self _) hf (by decide))).seqE fun _ r hr =>
            loopOn hf (Nat.lt_succ_of_lt hr)
      · exact Nat.lt_succ_self _
    · rw [parseTerm]
      split
      · next heq =>
        split
        · exact skipNl_cons heq
        · trivial
      · next heq => exact skipNl_cons heq
      · next heq =>
        split
        · exact Nat.lt_of_succ_lt (skipNl_cons heq)
        · trivial
      · next heq => exact Nat.lt_of_succ_lt (skipNl_cons heq)
      · next rest heq =>
        have hs := skipNl_cons heq
        have h := ihA .rparen rest (fuel_lt hs hf (by decide))
        generalize parseList fold n .rparen rest = x at h ⊢
        cases x with
        | ok es r =>
          have : r.length < toks.length := Nat.lt_trans h hs
          cases es with
          | nil => trivial
          | cons e es => cases es <;> exact this
        | err => trivial
        | fuel => exact h
      · next rest heq =>
        have hs := skipNl_cons heq
        exact (ihA _ rest (fuel_lt hs hf (by decide))).seqA fun _ r hr => Nat.lt_trans hr hs
      · trivial
    · rw [parseList]
      split
      · trivial
      · next t rest heq =>
        have hs : (t :: rest).length ≤ toks.length := skipNl_cons heq
        split
        · exact skipNl_cons heq
        · refine (ihB 0 (t :: rest) (fuel_le hs hf (by decide))).seqE fun e r hr => ?_
          have tail : ∀ {r' : List Tok}, r'.length < r.length →
              Good toks.length (match parseList fold n c r' with
                | .ok es r'' => .ok (Args.cons e es) r'' | .err => .err | .fuel => .fuel) := fun h' =>
            have hl := Nat.lt_of_lt_of_le (Nat.lt_trans h' hr) hs
            (ihA c _ (fuel_lt hl hf (by decide))).seqA fun _ _ hr'' => Nat.lt_trans hr'' hl
          split
          · exact tail (Nat.lt_succ_self _)
          · exact tail (Nat.lt_succ_self _)
          · split
            · exact Nat.lt_of_lt_of_le (Nat.lt_of_succ_lt hr) hs
            · trivial
          · trivial

theorem Res.ok_or_err {α : Type} : {x : Res α} → x ≠ .fuel → (∃ v rest, x = .ok v rest) ∨ x = .err
  | .ok v rest, _ => .inl ⟨v, rest, rfl⟩
  | .err, _ => .inr rfl
  | .fuel, h => absurd rfl h

theorem fuel_suffices (fold : FoldMode) (toks : List Tok) : parseExprWith fold toks ≠ .fuel := by
  have h := (fuel_all fold (fuelFor toks)).1 0 (skipNl toks)
    (Nat.add_le_add (Nat.mul_le_mul_left 3 (skipNl_length toks)) (Nat.le_succ 2))
  unfold parseExprWith
  intro hf
  rw [hf] at h
  exact h

end Abra.Pratt
