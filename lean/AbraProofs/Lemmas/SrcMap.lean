import AbraModel.SrcMap
/-!
Helper lemmas for C32: the table built by the push-unless-same loop equals a run-length encoding,
and the `search … idx-1` lookup on a run-length encoding returns the value of the run containing `pc-1`.
-/
namespace Abra.SrcMap

/-- run-length encoding with explicit start index and the id of the run in progress -/
def rle (i : Nat) (last : Option Nat) : List Nat → Table
  | [] => []
  | x :: xs => if last = some x then rle (i + 1) last xs else (i, x) :: rle (i + 1) (some x) xs

/-- one column of `build` as a fold -/
def colStep (s : Table × Nat) (x : Nat) : Table × Nat := (pushIfNew s.1 s.2 x, s.2 + 1)

def lastId (tbl : Table) : Option Nat := tbl.getLast?.map (·.2)

theorem pushIfNew_eq (tbl : Table) (i x : Nat) :
    pushIfNew tbl i x = if lastId tbl = some x then tbl else tbl ++ [(i, x)] := by
  unfold pushIfNew lastId
  cases tbl.getLast? <;> simp

theorem foldl_colStep (xs : List Nat) : ∀ (tbl : Table) (i : Nat),
    xs.foldl colStep (tbl, i) = (tbl ++ rle i (lastId tbl) xs, i + xs.length) := by
  induction xs with
  | nil => intro tbl i; simp [rle]
  | cons x xs ih =>
    intro tbl i
    rw [List.foldl_cons, colStep, pushIfNew_eq, rle, List.length_cons, ← Nat.add_assoc i,
      Nat.add_right_comm]
    split
    · rw [ih]
    · rw [ih, lastId, List.getLast?_concat, List.append_assoc]; rfl

/-- value of the last entry whose key is below `pc`, scanning from the left and stopping at the first
    key that is not below (`c` = candidate so far) -/
def lastBelow : Table → Nat → Option Nat → Option Nat
  | [], _, c => c
  | (k, v) :: rest, pc, c => if k < pc then lastBelow rest pc (some v) else c

/-- `Ok(idx) | Err(idx)` then `idx - 1`: the entry before the first key that is not below `pc`, and
    the table's first entry when there is none (`0 - 1 = 0`); `pre` is what the search has passed -/
theorem lookupCol_eq_aux (pc : Nat) : ∀ (tbl pre : Table),
    ((pre ++ tbl)[(searchFrom pre.length tbl pc).idx - 1]?).map (·.2) =
      lastBelow tbl pc (((pre ++ tbl)[pre.length - 1]?).map (·.2))
  | [], pre => rfl
  | (k, v) :: rest, pre => by
    rw [searchFrom, lastBelow]
    by_cases h1 : k = pc
    · rw [if_pos h1, if_neg (h1 ▸ Nat.lt_irrefl k)]; rfl
    · rw [if_neg h1]
      by_cases h2 : pc < k
      · rw [if_pos h2, if_neg (Nat.lt_asymm h2)]; rfl
      · have ih := lookupCol_eq_aux pc rest (pre ++ [(k, v)])
        rw [List.append_assoc, List.length_append, List.singleton_append, List.length_singleton] at ih
        rw [if_neg h2, if_pos (Nat.lt_of_le_of_ne (Nat.le_of_not_lt h2) h1), ih, Nat.add_sub_cancel,
          List.getElem?_append_right (Nat.le_refl _), Nat.sub_self]
        rfl

theorem lookupCol_eq (tbl : Table) (pc : Nat) :
    lookupCol tbl pc = lastBelow tbl pc (tbl.head?.map (·.2)) := by
  have h : ∀ n, (if n ≥ 1 then n - 1 else n) = n - 1 := fun n => by cases n <;> rfl
  exact (congrArg (fun n => (tbl[n]?).map (·.2)) (h _)).trans
    (List.head?_eq_getElem? ▸ lookupCol_eq_aux pc tbl [])

/-- keys of `rle i …` are at least `i`, so nothing is below a `pc ≤ i` -/
theorem lastBelow_rle_le (pc : Nat) (c : Option Nat) : ∀ (xs : List Nat) (i : Nat) (last : Option Nat),
    pc ≤ i → lastBelow (rle i last xs) pc c = c
  | [], _, _, _ => rfl
  | x :: xs, i, last, h => by
    rw [rle]
    split
    · exact lastBelow_rle_le pc c xs (i + 1) last (Nat.le_succ_of_le h)
    · rw [lastBelow, if_neg (Nat.not_lt.2 h)]

/-- past its key, the head of a column is the candidate, whether or not it opened a new run -/
theorem lastBelow_rle_cons {i pc : Nat} (h : i < pc) {last c : Option Nat} (x : Nat) (xs : List Nat)
    (hc : last = some x → c = some x) :
    lastBelow (rle i last (x :: xs)) pc c = lastBelow (rle (i + 1) (some x) xs) pc (some x) := by
  rw [rle]
  split
  · next hl => rw [hc hl, hl]
  · rw [lastBelow, if_pos h]

/-- the entry governing instruction `i + k` of a run-length encoding is the instruction's own id -/
theorem lastBelow_rle : ∀ (xs : List Nat) (i : Nat) (last c : Option Nat) (k : Nat) (h : k < xs.length),
    (∀ x, last = some x → c = some x) → lastBelow (rle i last xs) (i + k + 1) c = some xs[k]
  | x :: xs, i, last, c, 0, _, hc => by
    rw [lastBelow_rle_cons (Nat.lt_succ_self i) x xs (hc x)]
    exact lastBelow_rle_le _ _ xs _ _ (Nat.le_refl _)
  | x :: xs, i, last, c, k + 1, h, hc => by
    rw [lastBelow_rle_cons (Nat.lt_succ_of_le (Nat.le_add_right i _)) x xs (hc x), ← Nat.add_assoc,
      Nat.add_right_comm i k 1]
    exact lastBelow_rle xs (i + 1) (some x) (some x) k (Nat.lt_of_succ_lt_succ h) fun _ h => h

theorem lookupCol_compress (xs : List Nat) (pc : Nat) (h : pc < xs.length) :
    lookupCol (xs.foldl colStep ([], 0)).1 (pc + 1) = some xs[pc] := by
  have := lastBelow_rle xs 0 none ((rle 0 none xs).head?.map (·.2)) pc h nofun
  rw [Nat.zero_add] at this
  rw [foldl_colStep, lookupCol_eq]
  exact this

/-! projection of the three-column loop onto one column -/

def colOf (f : Ann → Nat) (ls : List SLine) : List Nat := (instrs ls).map (fun p => f p.1)

theorem lookupCol_colOf (f : Ann → Nat) (ls : List SLine) (pc : Nat) (h : pc < (instrs ls).length) :
    lookupCol ((colOf f ls).foldl colStep ([], 0)).1 (pc + 1) = some (f (instrs ls)[pc].1) := by
  rw [lookupCol_compress _ pc ((List.length_map _).symm ▸ h)]
  exact congrArg some (List.getElem_map _)

theorem foldl_buildStep (ls : List SLine) : ∀ (s : BuildState),
    let r := ls.foldl buildStep s
    (r.t.files, r.idx) = (colOf (·.file) ls).foldl colStep (s.t.files, s.idx) ∧
    (r.t.lines, r.idx) = (colOf (·.line) ls).foldl colStep (s.t.lines, s.idx) ∧
    (r.t.funcs, r.idx) = (colOf (·.func) ls).foldl colStep (s.t.funcs, s.idx) := by
  induction ls with
  | nil => intro s; exact ⟨rfl, rfl, rfl⟩
  | cons l ls ih =>
    intro s
    cases l with
    | label => exact ih s
    | instr a k => exact ih (buildStep s (.instr a k))

theorem build_files (ls : List SLine) :
    (build ls).files = ((colOf (·.file) ls).foldl colStep ([], 0)).1 :=
  congrArg Prod.fst (foldl_buildStep ls _).1

theorem build_lines (ls : List SLine) :
    (build ls).lines = ((colOf (·.line) ls).foldl colStep ([], 0)).1 :=
  congrArg Prod.fst (foldl_buildStep ls _).2.1

theorem build_funcs (ls : List SLine) :
    (build ls).funcs = ((colOf (·.func) ls).foldl colStep ([], 0)).1 :=
  congrArg Prod.fst (foldl_buildStep ls _).2.2

end Abra.SrcMap
