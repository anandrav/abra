import AbraProofs.Lemmas.Arr
/-! Lemmas for C26 (`clone`, `filled`): abstraction of a value to a tree, reachable addresses,
    and the invariant of the `for x in arr { new.push(Clone.clone(x)) }` loop. -/
namespace Abra.Lib.Arr

inductive Tree where
  | leaf (v : Val)
  | node (ts : List Tree)

/-- the abstract (heap-free) value denoted by `v` at nesting depth `d` -/
def den : Nat → Heap → Val → Tree
  | 0, _, v => .leaf v
  | d + 1, h, .ref a => .node ((h.arr a).map (den d h))
  | _ + 1, _, v => .leaf v

/-- addresses reachable from `v` at nesting depth `d` -/
def reach : Nat → Heap → Val → List Nat
  | 0, _, _ => []
  | d + 1, h, .ref a => a :: (h.arr a).flatMap (reach d h)
  | _ + 1, _, _ => []

/-- `v` is a value of an array type of nesting depth `d` over scalars, living in `h` -/
def WT : Nat → Heap → Val → Prop
  | 0, _, v => ∀ a, v ≠ .ref a
  | d + 1, h, v => ∃ a, v = .ref a ∧ a < h.length ∧ ∀ x ∈ h.arr a, WT d h x

theorem mem_reach_succ {d : Nat} {h : Heap} {a b : Nat} :
    b ∈ reach (d + 1) h (.ref a) ↔ b = a ∨ ∃ x ∈ h.arr a, b ∈ reach d h x := by
  simp only [reach, List.mem_cons, List.mem_flatMap]

/-- what a value denotes, what it reaches and whether it is well typed depend only on the arrays it reaches -/
theorem congr_of_agree : ∀ (d : Nat) (h h' : Heap) (v : Val), (∀ b ∈ reach d h v, h'.arr b = h.arr b) →
    den d h' v = den d h v ∧ reach d h' v = reach d h v ∧ (h.length ≤ h'.length → WT d h v → WT d h' v) := by
  intro d
  induction d with
  | zero => intro h h' v _; exact ⟨rfl, rfl, fun _ hwt => hwt⟩
  | succ d ih =>
    intro h h' v hag
    by_cases hv : ∃ a, v = .ref a
    · obtain ⟨a, rfl⟩ := hv
      have ha : h'.arr a = h.arr a := hag a (mem_reach_succ.mpr (.inl rfl))
      have hx := fun x (hx : x ∈ h.arr a) =>
        ih h h' x (fun b hb => hag b (mem_reach_succ.mpr (.inr ⟨x, hx, hb⟩)))
      refine ⟨?_, ?_, fun hlen ⟨_, e, ha', hel⟩ => ?_⟩
      · simp only [den, ha]
        exact congrArg Tree.node (List.map_congr_left fun x m => (hx x m).1)
      · simp only [reach, ha, List.flatMap]
        exact congrArg (fun l => a :: List.flatten l) (List.map_congr_left fun x m => (hx x m).2.1)
      · cases e
        exact ⟨a, rfl, Nat.lt_of_lt_of_le ha' hlen, fun x m => (hx x (ha ▸ m)).2.2 hlen (hel x (ha ▸ m))⟩
    · -- not a reference: a leaf that reaches nothing, in any heap
      have hv' : ∀ a, v = .ref a → False := fun a e => hv ⟨a, e⟩
      rw [den.eq_3 _ _ _ hv', den.eq_3 _ _ _ hv', reach.eq_3 _ _ _ hv', reach.eq_3 _ _ _ hv']
      exact ⟨rfl, rfl, fun _ ⟨a, e, _⟩ => absurd e (hv' a)⟩

theorem WT_reach_lt : ∀ (d : Nat) (h : Heap) (v : Val), WT d h v → ∀ b ∈ reach d h v, b < h.length := by
  intro d
  induction d with
  | zero => intro h v _ b hb; cases hb
  | succ d ih =>
    intro h v ⟨a, e, ha, hel⟩ b hb
    subst e
    rcases mem_reach_succ.mp hb with rfl | ⟨x, hx, hbx⟩
    · exact ha
    · exact ih h x (hel x hx) b hbx

/-- a well-typed value means the same in a heap that is at least as long and has the same arrays, except
    possibly at an address `n` the value does not reach -/
theorem stable {d n : Nat} {h h' : Heap} {v : Val} (hlen : h.length ≤ h'.length)
    (hag : ∀ b, b < h.length → b ≠ n → h'.arr b = h.arr b) (hwt : WT d h v) (hav : ∀ b ∈ reach d h v, b ≠ n) :
    den d h' v = den d h v ∧ reach d h' v = reach d h v ∧ WT d h' v :=
  have ⟨e1, e2, e3⟩ := congr_of_agree d h h' v fun b hb => hag b (WT_reach_lt d h v hwt b hb) (hav b hb)
  ⟨e1, e2, e3 hlen hwt⟩

/-- what `Clone.clone` promises at depth `d` -/
structure CloneOK (d : Nat) (h : Heap) (v : Val) (h' : Heap) (v' : Val) : Prop where
  len : h.length ≤ h'.length
  old : ∀ b, b < h.length → h'.arr b = h.arr b
  den : den d h' v' = den d h v
  fresh : ∀ b ∈ reach d h' v', h.length ≤ b
  wt : WT d h' v'

def CloneSpec (d : Nat) : Prop :=
  ∀ (h : Heap) (v : Val), WT d h v → ∃ h' v', cloneAt d h v = .ok (h', v') ∧ CloneOK d h v h' v'

/-- invariant of `for x in xs { new.push(Clone.clone(x)) }` where `new` is at `h.length`, the first address
    beyond the heap `h` the `xs` live in: the arrays of `h` stay as they are, and the elements of `new` are
    well typed and reach only addresses beyond `new` (so a later push to `new` does not change what they mean). -/
theorem cloneLoop_spec (d : Nat) (ihd : CloneSpec d) (h : Heap) : ∀ (xs : List Val) (hk : Heap),
    (∀ x ∈ xs, WT d h x) → h.length < hk.length → (∀ b, b < h.length → hk.arr b = h.arr b) →
    (∀ c ∈ hk.arr h.length, WT d hk c ∧ ∀ b ∈ reach d hk c, h.length < b) →
    ∃ hf, cloneLoop (cloneAt d) (.ref h.length) xs hk = .ok hf ∧ h.length < hf.length ∧
      (∀ b, b < h.length → hf.arr b = h.arr b) ∧
      (∀ c ∈ hf.arr h.length, WT d hf c ∧ ∀ b ∈ reach d hf c, h.length < b) ∧
      (hf.arr h.length).map (den d hf) = (hk.arr h.length).map (den d hk) ++ xs.map (den d h) := by
  intro xs
  induction xs with
  | nil => intro hk _ hn hlow hel; exact ⟨hk, rfl, hn, hlow, hel, (List.append_nil _).symm⟩
  | cons x xs ih =>
    intro hk hxs hn hlow hel
    have hx : WT d h x := hxs x List.mem_cons_self
    have sx := stable (Nat.le_of_lt hn) (fun b hb _ => hlow b hb) hx
      (fun b hb => Nat.ne_of_lt (WT_reach_lt d h x hx b hb))
    obtain ⟨h1, c, e1, ok1⟩ := ihd hk x sx.2.2
    have hn1 : h.length < h1.length := Nat.lt_of_lt_of_le hn ok1.len
    simp only [cloneLoop, e1, pushOp, addrOf_ref hn1, ok1.old _ hn]
    have h2n := arr_set_same h1 h.length (hk.arr h.length ++ [c]) hn1
    have h2o : ∀ b, b < h1.length → b ≠ h.length → Heap.arr (h1.set h.length (hk.arr h.length ++ [c])) b = h1.arr b :=
      fun b _ hb => arr_set_other _ _ _ _ hb
    have h2len : h1.length ≤ (h1.set h.length (hk.arr h.length ++ [c])).length := Nat.le_of_eq List.length_set.symm
    generalize h1.set h.length (hk.arr h.length ++ [c]) = h2 at h2n h2o h2len
    -- neither the clone nor the push disturbs the elements pushed so far; the push does not disturb the clone
    have so := fun c' (hc' : c' ∈ hk.arr h.length) =>
      stable (Nat.le_trans ok1.len h2len)
        (fun b hb hbn => (h2o b (Nat.lt_of_lt_of_le hb ok1.len) hbn).trans (ok1.old b hb))
        (hel c' hc').1 (fun b hb => Nat.ne_of_gt ((hel c' hc').2 b hb))
    have hfresh : ∀ b ∈ reach d h1 c, h.length < b := fun b hb => Nat.lt_of_lt_of_le hn (ok1.fresh b hb)
    have sc := stable h2len h2o ok1.wt (fun b hb => Nat.ne_of_gt (hfresh b hb))
    obtain ⟨hf, ef, lenf, lowf, elf, denf⟩ := ih h2 (fun x' hx' => hxs x' (List.mem_cons_of_mem _ hx'))
      (Nat.lt_of_lt_of_le hn1 h2len)
      (fun b hb => (h2o b (Nat.lt_trans hb hn1) (Nat.ne_of_lt hb)).trans ((ok1.old b (Nat.lt_trans hb hn)).trans (hlow b hb)))
      (by
        rw [h2n]
        intro c' hc'
        rcases List.mem_append.mp hc' with hc' | hc'
        · exact ⟨(so c' hc').2.2, (so c' hc').2.1 ▸ (hel c' hc').2⟩
        · cases List.mem_singleton.mp hc'
          exact ⟨sc.2.2, sc.2.1 ▸ hfresh⟩)
    refine ⟨hf, ef, lenf, lowf, elf, ?_⟩
    rw [denf, h2n, List.map_append, List.map_congr_left fun c' hc' => (so c' hc').1, List.map_cons, List.map_cons,
      List.map_nil, sc.1, ok1.den, sx.1, List.append_assoc]
    rfl

/-- a fresh empty array followed by the clone loop over `xs` (elements of depth `d` living in `h`):
    the common shape of `Clone.clone` for arrays and of `array.filled` -/
theorem freshLoop_spec (d : Nat) (ihd : CloneSpec d) (h : Heap) (xs : List Val) (hxs : ∀ x ∈ xs, WT d h x) :
    ∃ hf, cloneLoop (cloneAt d) (construct h []).2 xs (construct h []).1 = .ok hf ∧
      h.length < hf.length ∧ (∀ b, b < h.length → hf.arr b = h.arr b) ∧
      den (d + 1) hf (.ref h.length) = .node (xs.map (den d h)) ∧
      (∀ b ∈ reach (d + 1) hf (.ref h.length), h.length ≤ b) ∧
      WT (d + 1) hf (.ref h.length) := by
  have hnew : Heap.arr (h ++ [[]]) h.length = [] := arr_append_new h []
  obtain ⟨hf, ef, lenf, lowf, elf, denf⟩ := cloneLoop_spec d ihd h xs (h ++ [[]]) hxs
    (by rw [List.length_append]; exact Nat.lt_succ_self _) (fun b hb => arr_append_old h [] b hb)
    (by rw [hnew]; intro c hc; cases hc)
  refine ⟨hf, ef, lenf, lowf, ?_, fun b hb => ?_, h.length, rfl, lenf, fun c hc => (elf c hc).1⟩
  · rw [hnew] at denf
    exact congrArg Tree.node denf
  · rcases mem_reach_succ.mp hb with rfl | ⟨c, hc, hbc⟩
    · exact Nat.le_refl _
    · exact Nat.le_of_lt ((elf c hc).2 b hbc)

theorem cloneSpec_all : ∀ d, CloneSpec d := by
  intro d
  induction d with
  | zero =>
    intro h v hwt
    exact ⟨h, v, rfl, Nat.le_refl _, fun _ _ => rfl, rfl, (fun _ hb => nomatch hb), hwt⟩
  | succ d ihd =>
    intro h v ⟨a, e, ha, hel⟩
    subst e
    obtain ⟨hf, ef, lenf, oldf, denf, freshf, wtf⟩ := freshLoop_spec d ihd h (h.arr a) hel
    refine ⟨hf, .ref h.length, ?_, Nat.le_of_lt lenf, oldf, denf, freshf, wtf⟩
    simp only [cloneAt, addrOf_ref ha, ef]
    rfl

theorem filledLoop_eq (d : Nat) (x ret : Val) : ∀ (k : Nat) (h : Heap),
    filledLoop d x ret k h = cloneLoop (cloneAt d) ret (List.replicate k x) h := by
  intro k
  induction k with
  | zero => intro h; rfl
  | succ k ih => intro h; simp only [filledLoop, List.replicate_succ, cloneLoop, ih]

end Abra.Lib.Arr
