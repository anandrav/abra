import AbraProofs.Lemmas.CompileSim2
/-!
The simulation: three statements (expressions, statements, statement lists) proved together by induction on the
interpreter's fuel.  Each syntactic form is the composition, by `Out.bind` / `Out.wrap`, of the statements for its
parts along the code the compiler laid out for it.
-/
namespace Abra.Compile
open Abra.Sem Abra.VM

def SimE (W : World) (Pg : Prog) (n : Nat) : Prop :=
  ∀ {e : Expr} {st : St} {Γ : TEnv} {next : Nat} {code : Code} {τ : Ty} {n' : Nat} {lc : Nat × Nat} {d pos : Nat}
    {L T : List VM.Val},
    compE Γ next d e = some (code, τ, n') → d ≤ T.length →
    codeAt W.P pos (resolveAt pos lc code) → EnvRel L Γ st.env → WfΓ Γ next → n' ≤ L.length →
    Out W lc d pos (pos + code.length) L T st.out (fun v => pushed v τ)
      (fun L' ρ => EnvRel L' Γ ρ) (fun L' ρ => EnvRel L' Γ ρ) (fun v => HasTy v τ) (evalE n Pg st e)

def SimS (W : World) (Pg : Prog) (n : Nat) : Prop :=
  ∀ {s : Stmt} {st : St} {Γ : TEnv} {next : Nat} {il : Bool} {code : Code} {τ : Ty} {Γ' : TEnv} {n' : Nat}
    {lc : Nat × Nat} {d pos : Nat} {L T : List VM.Val},
    compS Γ next d il s = some (code, τ, Γ', n') → d ≤ T.length →
    codeAt W.P pos (resolveAt pos lc code) → EnvRel L Γ st.env → WfΓ Γ next → n' ≤ L.length →
    Out W lc d pos (pos + code.length) L T st.out (fun v => if il then pushed v τ else [])
      (fun L' ρ => EnvRel L' Γ' ρ) (fun L' ρ => EnvRel L' Γ ρ) (fun v => il = true → HasTy v τ) (evalS n Pg st s)

/-- The `let`s of a list stay in the interpreter's environment until the enclosing block or loop cuts it back
    (`popTo`), while `compSs` keeps the extended `Γ` to itself: the locals are related to the environment cut back to
    its length at entry. -/
def SimSs (W : World) (Pg : Prog) (n : Nat) : Prop :=
  ∀ {ss : Stmts} {st : St} {Γ : TEnv} {next : Nat} {blk : Bool} {code : Code} {τ : Ty} {n' : Nat}
    {lc : Nat × Nat} {d pos : Nat} {L T : List VM.Val},
    compSs Γ next d blk ss = some (code, τ, n') → d ≤ T.length →
    codeAt W.P pos (resolveAt pos lc code) → EnvRel L Γ st.env → WfΓ Γ next → n' ≤ L.length →
    Out W lc d pos (pos + code.length) L T st.out (fun v => if blk then pushed v τ else [])
      (fun L' ρ => EnvRel L' Γ (popEnv ρ st.env.length) ∧ st.env.length ≤ ρ.length)
      (fun L' ρ => EnvRel L' Γ (popEnv ρ st.env.length) ∧ st.env.length ≤ ρ.length)
      (fun v => blk = true → HasTy v τ) (evalSs n Pg st ss)

/-! A step lemma ends in `cfg (pc + 1) …` with the stack it computes; the simulation statements ask for
`cfg (pos + code.length) …` with the stack `T ++ res v`.  `cfg_end` bridges the two, given the two equations. -/

/-- one more operand is pending once it is pushed -/
theorem pending_snoc {d : Nat} {T : List VM.Val} (h : d ≤ T.length) (x : VM.Val) : d + 1 ≤ (T ++ [x]).length := by
  rw [List.length_append]; exact Nat.succ_le_succ h

/-- the position behind two fragments in a row / behind a fragment and one more instruction -/
theorem end_append (pos : Nat) (a b : Code) : pos + a.length + b.length = pos + (a ++ b).length := by
  rw [List.length_append, Nat.add_assoc]

theorem end_snoc (pos : Nat) (c : Code) (i : Instr Target) : pos + c.length + 1 = pos + (c ++ [i]).length := by
  rw [List.length_append]; rfl

/-- a run that ends in a configuration equal to the one asked for (positions up to arithmetic) -/
theorem cfg_end {W : World} {a : State} {pc pc' : Nat} {L T T' : List VM.Val} {out : List String}
    (h : Steps W.P a (W.cfg pc L T out)) (hp : pc = pc') (hT : T = T') : Steps W.P a (W.cfg pc' L T' out) := by
  subst hp hT; exact h

/-- a statement leaves nothing on the stack, as the last of a block (its value is void) or not -/
theorem res_unit (il : Bool) (T : List VM.Val) (v : Sem.Val) : T ++ (if il then pushed v .unit else []) = T := by
  cases il <;> exact List.append_nil T

theorem simE_succ {W : World} {Pg : Prog} {n : Nat} (hE : SimE W Pg n) (hSs : SimSs W Pg n) : SimE W Pg (n + 1) := by
  intro e st Γ next code τ n' lc d pos L T hc hd hcode henv hwf hlen
  have hi := compE_inv hc
  cases e with
  | int k =>
    obtain ⟨rfl, rfl, rfl⟩ := hi
    exact ⟨L, .single (step_pushInt W (codeAt_head hcode) L T st.out), henv, rfl, .int k⟩
  | bool b =>
    obtain ⟨rfl, rfl, rfl⟩ := hi
    exact ⟨L, .single (step_pushBool W (codeAt_head hcode) L T st.out), henv, rfl, .bool b⟩
  | unit =>
    obtain ⟨rfl, rfl, rfl⟩ := hi
    exact ⟨L, cfg_end (Steps.refl _) rfl (List.append_nil T).symm, henv, rfl, .unit⟩
  | var x =>
    obtain ⟨s, hf, rfl, hcd⟩ := hi
    obtain ⟨v, hlk, hty, hne, hL⟩ := henv.lookup hf
    cases hcd hne
    have hev : evalE (n + 1) Pg st (.var x) = .ok v st := by
      conv => lhs; whnf
      rw [hlk]
    rw [hev]
    exact ⟨L, cfg_end (Steps.single (step_load W (codeAt_head hcode) L T st.out hL)) rfl
      (congrArg _ (pushed_of_hasTy hty hne).symm), henv, rfl, hty⟩
  | un op a =>
    cases op with
    | neg =>
      obtain ⟨ca, h1, rfl, rfl⟩ := hi
      obtain ⟨h0, hr⟩ := codeAt_resolve_cons hcode
      obtain ⟨hca, hop⟩ := codeAt_resolve_append hr
      refine Out.bind (.single (step_pushInt W h0 L T st.out)) rfl (dropPending_snoc T _ d)
        (hE h1 (pending_snoc hd _) hca henv hwf hlen) (fun _ _ h => h) ?_
      intro v s1 L1 hst1 henv1 hl1 hty1
      cases hty1
      have he : pos + (Instr.pushInt 0 :: (ca ++ [Instr.intOp .sub .top .top .top])).length = pos + 1 + ca.length + 1 := by
        simp only [List.length_append, List.length_cons, List.length_nil]; omega
      rw [he]
      exact out_intOp (codeAt_head hop) hst1 henv1 hl1
    | not =>
      obtain ⟨ca, h1, rfl, rfl⟩ := hi
      obtain ⟨hca, hop⟩ := codeAt_resolve_append hcode
      refine Out.seq (hE h1 hd hca henv hwf hlen) ?_
      intro v s1 L1 hst1 henv1 hl1 hty1
      cases hty1
      exact ⟨L1, cfg_end (hst1.snoc (step_not W (codeAt_head hop) L1 T _ s1.out)) (end_snoc ..) rfl, henv1, hl1, .bool _⟩
  | block ss =>
    refine Out.popTo (Out.wrap (.refl _) rfl rfl (hSs hi hd hcode henv hwf hlen) (fun _ _ h => h.1) ?_)
    intro v s1 L1 hst1 henv1 hl1 hty1
    exact ⟨L1, hst1, henv1.1, hl1, hty1 rfl⟩
  | print a =>
    obtain ⟨ca, ta, h1, rfl, hpt⟩ := hi
    cases n with
    | zero => exact trivial   -- no fuel for the operand: the evaluation is `.timeout`, of which `Out` asks nothing
    | succ m =>
      have key : ∀ (pt : PTy), ta ≠ .unit → code = ca ++ [.print pt] →
          (∀ v, HasTy v ta → ∃ txt, (∀ h, render (m + 1) h v = some txt) ∧ renderVal pt (encV v) = .ok txt) →
          Out W lc d pos (pos + code.length) L T st.out (fun v => pushed v .unit)
            (fun L' ρ => EnvRel L' Γ ρ) (fun L' ρ => EnvRel L' Γ ρ) (fun v => HasTy v .unit)
            (evalE (m + 1 + 1) Pg st (.print a)) := by
        rintro pt hne rfl hrender
        obtain ⟨hca, hop⟩ := codeAt_resolve_append hcode
        refine Out.seq (hE h1 hd hca henv hwf hlen) ?_
        intro v s1 L1 hst1 henv1 hl1 hty1
        obtain ⟨txt, hr1, hr2⟩ := hrender v hty1
        rw [pushed_of_hasTy hty1 hne] at hst1
        rw [hr1]
        exact ⟨L1, cfg_end (hst1.snoc (step_print W (codeAt_head hop) L1 T _ s1.out hr2))
          (end_snoc ..) (List.append_nil T).symm, henv1, hl1, .unit⟩
      rcases hpt with ⟨rfl, hcd⟩ | ⟨rfl, hcd⟩
      · exact key .int (by decide) hcd fun v hv => by cases hv; exact ⟨_, fun _ => rfl, rfl⟩
      · exact key .bool (by decide) hcd fun v hv => by cases hv; exact ⟨_, fun _ => rfl, rfl⟩
  | ite c t f =>
    obtain ⟨cc, n1, ct, n2, cf, h1, h2, h3, rfl⟩ := hi
    have hm1 := compE_mono c h1
    have hm2 := compE_mono t h2
    have hm3 := compE_mono f h3
    obtain ⟨hcc, hr⟩ := codeAt_resolve_append hcode
    obtain ⟨hct, hcf, hjf, hjt, hend, he⟩ := cond_layout W lc false rfl hr
    refine Out.seq (hE h1 hd hcc henv hwf (Nat.le_trans hm2 (Nat.le_trans hm3 hlen))) ?_
    intro v s1 L1 hst1 henv1 hl1 hty1
    cases hty1 with
    | bool x =>
      cases x with
      | true =>
        refine Out.wrap (hst1.snoc (hjt L1 T s1.out)) hl1 rfl
          (hE h2 hd hct henv1 (hwf.mono hm1) (hl1 ▸ Nat.le_trans hm3 hlen)) (fun _ _ h => h) ?_
        intro v s2 L2 hst3 henv2 hl2 hty2
        exact ⟨L2, cfg_end (hst3.snoc (hend L2 _ s2.out)) (he.trans (end_append ..)) rfl, henv2, hl2, hty2⟩
      | false =>
        refine Out.wrap (hst1.snoc (hjf L1 T s1.out)) hl1 rfl
          (hE h3 hd hcf henv1 (hwf.mono (Nat.le_trans hm1 hm2)) (hl1 ▸ hlen)) (fun _ _ h => h) ?_
        intro v s2 L2 hst3 henv2 hl2 hty2
        exact ⟨L2, cfg_end hst3 (he.trans (end_append ..)) rfl, henv2, hl2, hty2⟩
  | bin op a b =>
    obtain ⟨ca, ta, n1, cb, tb, h1, h2, hsc, hstrict⟩ := hi
    have hm1 := compE_mono a h1
    have hm2 := compE_mono b h2
    by_cases hso : op = .and ∨ op = .or
    · -- `and` / `or`: the jump short-cuts when the left operand is `jt`, and `jt` is the result then
      obtain ⟨rfl, rfl, rfl, rfl⟩ := hsc hso
      rw [if_pos hso] at h2
      have shortcut : ∀ (f : Sem.Val → St → Res Sem.Val) (jt : Bool), jt = decide (op = .or) →
          (∀ s1, f (.bool jt) s1 = .ok (.bool jt) s1) → (∀ s1, f (.bool !jt) s1 = evalE n Pg s1 b) →
          Out W lc d pos (pos + (ca ++ (if decide (op = BinOp.or) then Instr.jumpIf (Target.rel (cb.length + 1))
                else Instr.jumpIfFalse (Target.rel (cb.length + 1)))
              :: (cb ++ [Instr.jump (Target.rel 1), Instr.pushBool (decide (op = BinOp.or))])).length) L T st.out
            (fun v => pushed v .bool) (fun L' ρ => EnvRel L' Γ ρ) (fun L' ρ => EnvRel L' Γ ρ) (fun v => HasTy v .bool)
            ((evalE n Pg st a).bind f) := by
        rintro f jt rfl hf1 hf2
        obtain ⟨hca, hr⟩ := codeAt_resolve_append hcode
        obtain ⟨hcb, hcf, hjt, hjf, hend, he⟩ := cond_layout W lc (decide (op = .or)) (k := 1)
          (c2 := [.pushBool (decide (op = .or))]) rfl hr
        refine Out.seq (hE h1 hd hca henv hwf (Nat.le_trans hm2 hlen)) ?_
        intro v s1 L1 hst1 henv1 hl1 hty1
        cases hty1 with
        | bool x =>
          by_cases hx : x = decide (op = .or)
          · subst hx
            rw [hf1]
            exact ⟨L1, cfg_end ((hst1.snoc (hjt L1 T s1.out)).snoc (step_pushBool W (codeAt_head hcf) L1 T s1.out))
              (he.trans (end_append ..)) rfl, henv1, hl1, .bool _⟩
          · obtain rfl := Bool.eq_not_of_ne hx
            rw [hf2]
            refine Out.wrap (hst1.snoc (hjf L1 T s1.out)) hl1 rfl
              (hE h2 hd hcb henv1 (hwf.mono hm1) (hl1 ▸ hlen)) (fun _ _ h => h) ?_
            intro v s2 L2 hst3 henv2 hl2 hty2
            exact ⟨L2, cfg_end (hst3.snoc (hend L2 _ s2.out)) (he.trans (end_append ..)) rfl, henv2, hl2, hty2⟩
      rcases hso with rfl | rfl
      · refine shortcut _ false rfl ?_ ?_ <;> intro _ <;> rfl
      · refine shortcut _ true rfl ?_ ?_ <;> intro _ <;> rfl
    · obtain ⟨ho1, ho2⟩ := not_or.mp hso
      obtain ⟨is, hs, rfl⟩ := hstrict ho1 ho2
      rw [if_neg hso] at h2
      obtain ⟨hne1, hne2⟩ := strictOp_ne_unit hs
      obtain ⟨hcab, his⟩ := codeAt_resolve_append hcode
      obtain ⟨hca, hcb⟩ := codeAt_resolve_append hcab
      rw [List.length_append, ← Nat.add_assoc] at his
      rw [evalE_strict Pg n ho1 ho2]
      cases n with
      | zero => exact trivial
      | succ m =>
        refine Out.seq (hE h1 hd hca henv hwf (Nat.le_trans hm2 hlen)) ?_
        intro va s1 L1 hst1 henv1 hl1 hty1
        rw [pushed_of_hasTy hty1 hne1] at hst1
        refine Out.bind hst1 hl1 (dropPending_snoc T _ d)
          (hE h2 (pending_snoc hd _) hcb henv1 (hwf.mono hm1) (hl1 ▸ hlen)) (fun _ _ h => h) ?_
        intro vb s2 L2 hst2 henv2 hl2 hty2
        rw [pushed_of_hasTy hty2 hne2] at hst2
        have he : pos + (ca ++ cb ++ is).length = pos + ca.length + cb.length + is.length := by
          simp only [List.length_append]; omega
        rw [he]
        exact strictOp_sound hs hty1 hty2 m his hst2 henv2 hl2
  | _ => exact hi.elim

theorem matchPat_bind (m : Nat) (h : Array Sem.Obj) (x : String) (v : Sem.Val) :
    matchPat (m + 1) h (.bind x) v = some (some [(x, v)]) := rfl

theorem simS_succ {W : World} {Pg : Prog} {n : Nat} (hE : SimE W Pg n) (hS : SimS W Pg n) (hSs : SimSs W Pg n) :
    SimS W Pg (n + 1) := by
  intro s st Γ next il code τ Γ' n' lc d pos L T hc hd hcode henv hwf hlen
  have hi := compS_inv hc
  cases s with
  | let_ p e =>
    cases p with
    | bind x =>
      obtain ⟨ce, t, h1, hne, rfl, rfl, rfl⟩ := hi
      have hm := compE_mono e h1
      obtain ⟨hce, hst⟩ := codeAt_resolve_append hcode
      cases n with
      | zero => exact trivial
      | succ m =>
        refine Out.seq (hE h1 hd hce henv (hwf.mono (Nat.le_succ _)) hlen) ?_
        intro v s1 L1 hst1 henv1 hl1 hty1
        rw [pushed_of_hasTy hty1 hne] at hst1
        have hlt : next < L1.length := by omega
        rw [matchPat_bind]
        exact ⟨L1.set next (encV v), cfg_end (hst1.snoc (step_store W (codeAt_head hst) L1 T _ s1.out hlt))
          (end_snoc ..) (res_unit il T _).symm,
          .cons (henv1.set_fresh _ hwf) hty1 hne (by rw [List.getElem?_set_self hlt]),
          (List.length_set ..).trans hl1, fun _ => .unit⟩
    | _ => exact hi.elim
  | assign x op e =>
    obtain ⟨sl, t, ce, hf, h1, rfl, rfl, hset, hcomp⟩ := hi
    have hm := compE_mono e h1
    have hsl := find_slot_lt hwf hf
    by_cases hop : op = .set
    · subst hop
      obtain ⟨hne, rfl⟩ := hset rfl
      rw [if_pos rfl] at h1
      obtain ⟨hce, hst⟩ := codeAt_resolve_append hcode
      refine Out.seq (hE h1 hd hce henv hwf hlen) ?_
      intro v s1 L1 hst1 henv1 hl1 hty1
      rw [pushed_of_hasTy hty1 hne] at hst1
      have hslt : sl < L1.length := by omega
      obtain ⟨ρ', hu, hrel⟩ := henv1.update hwf hf hty1 hslt
      have hev : assignVar s1 x v = .ok .unit { s1 with env := ρ' } := by unfold assignVar; rw [hu]
      rw [hev]
      exact ⟨L1.set sl (encV v), cfg_end (hst1.snoc (step_store W (codeAt_head hst) L1 T _ s1.out hslt))
        (end_snoc ..) (res_unit il T _).symm, hrel, (List.length_set ..).trans hl1, fun _ => .unit⟩
    · obtain ⟨rfl, o, ho, rfl⟩ := hcomp hop
      rw [if_neg hop] at h1
      obtain ⟨hld, hr⟩ := codeAt_resolve_cons hcode
      obtain ⟨hce, htl⟩ := codeAt_resolve_append hr
      obtain ⟨hio, hst⟩ := codeAt_resolve_cons htl
      obtain ⟨old, hlk, htyo, _, hLo⟩ := henv.lookup hf
      obtain ⟨bop, hb1, hb2⟩ := asg_arith ho
      rw [evalS_compound Pg n hop, hlk, hb1]
      cases htyo with
      | int k =>
        cases n with
        | zero => exact trivial
        | succ m =>
          refine Out.bind (.single (step_load W hld L T st.out hLo)) rfl (dropPending_snoc T _ d)
            (hE h1 (pending_snoc hd _) hce henv hwf hlen) (fun _ _ h => h) ?_
          intro v s1 L1 hst1 henv1 hl1 hty1
          cases hty1 with
          | int y =>
            rw [binop_arith hb2]
            refine Out.seq (out_intOp (ok := fun L' ρ => EnvRel L' Γ' ρ) hio hst1 henv1 hl1) ?_
            intro r s2 L2 hst2 henv2 hl2 htyr
            have hslt : sl < L2.length := by omega
            obtain ⟨ρ', hu, hrel⟩ := henv2.update hwf hf htyr hslt
            have hev : assignVar s2 x r = .ok .unit { s2 with env := ρ' } := by unfold assignVar; rw [hu]
            rw [pushed_of_hasTy htyr (by decide)] at hst2
            rw [hev]
            exact ⟨L2.set sl (encV r), cfg_end (hst2.snoc (step_store W (codeAt_head hst) L2 T _ s2.out hslt))
              (by simp only [List.length_append, List.length_cons, List.length_nil]; omega) (res_unit il T _).symm, hrel,
              (List.length_set ..).trans hl2, fun _ => .unit⟩
  | expr e =>
    obtain ⟨ce, t, h1, hcd, rfl, rfl⟩ := hi
    cases il with
    | true =>
      obtain rfl : code = ce := hcd
      exact Out.wrap (.refl _) rfl rfl (hE h1 hd hcode henv hwf hlen) (fun _ _ h => h)
        fun v s1 L1 hst1 henv1 hl1 hty1 => ⟨L1, hst1, henv1, hl1, fun _ => hty1⟩
    | false =>
      by_cases htu : t = .unit
      · subst htu
        obtain rfl : code = ce := hcd
        exact Out.wrap (.refl _) rfl rfl (hE h1 hd hcode henv hwf hlen) (fun _ _ h => h)
          fun v s1 L1 hst1 henv1 hl1 hty1 => ⟨L1, hst1, henv1, hl1, nofun⟩
      · rw [if_pos (by simp [htu])] at hcd
        subst hcd
        obtain ⟨hce, hpop⟩ := codeAt_resolve_append hcode
        refine Out.wrap (.refl _) rfl rfl (hE h1 hd hce henv hwf hlen) (fun _ _ h => h) ?_
        intro v s1 L1 hst1 henv1 hl1 hty1
        rw [pushed_of_hasTy hty1 htu] at hst1
        exact ⟨L1, cfg_end (hst1.snoc (step_pop W (codeAt_head hpop) L1 T _ s1.out))
          (end_snoc ..) (List.append_nil T).symm, henv1, hl1, nofun⟩
  | while_ c body =>
    obtain ⟨cc, n1, cb, tb, h1, h2, rfl, rfl, hcd⟩ := hi
    have hm1 := compE_mono c h1
    have hm2 := compSs_mono body h2
    have hcode0 := hcode
    have hend : pos + code.length = pos + cc.length + 1 + cb.length + 1 := by
      rw [hcd]; simp only [List.length_append, List.length_cons, List.length_nil, closeBody_length]; omega
    rw [hcd] at hcode
    rw [hend]
    obtain ⟨hcc, hr⟩ := codeAt_resolve_append hcode
    obtain ⟨hbody, hjt, hjf, hback⟩ := loop_layout W lc hr
    refine Out.seq (hE h1 hd hcc henv hwf (Nat.le_trans hm2 hlen)) ?_
    intro v s1 L1 hst1 henv1 hl1 hty1
    have hlen1 : s1.env.length = st.env.length := by rw [← henv1.length_eq, ← henv.length_eq]
    cases hty1 with
    | bool x =>
      cases x with
      | false => exact ⟨L1, cfg_end (hst1.snoc (hjf L1 T s1.out)) rfl (res_unit il T _).symm, henv1, hl1, fun _ => .unit⟩
      | true =>
        have hst2 := hst1.snoc (hjt L1 T s1.out)
        -- the next iteration, started from the state after the body
        have again : ∀ (s2 : St) (L2 : List VM.Val), Steps W.P (W.cfg pos L T st.out) (W.cfg pos L2 T s2.out) →
            EnvRel L2 Γ' (popEnv s2.env s1.env.length) → L2.length = L.length →
            Out W lc d pos (pos + cc.length + 1 + cb.length + 1) L T st.out (fun v => if il then pushed v .unit else [])
              (fun L' ρ => EnvRel L' Γ' ρ) (fun L' ρ => EnvRel L' Γ' ρ) (fun v => il = true → HasTy v .unit)
              (evalS n Pg (s2.popTo st.env.length) (.while_ c body)) := by
          intro s2 L2 hsteps henv2 hl2
          rw [hlen1] at henv2
          exact hend ▸ Out.wrap hsteps hl2 rfl
            (hS (st := s2.popTo st.env.length) hc hd hcode0 henv2 hwf (hl2 ▸ hlen))
            (fun _ _ h => h) fun v s3 L3 h3 he3 hl3 hv3 => ⟨L3, h3, he3, hl3, hv3⟩
        have ihb := hSs (d := 0) (T := T) h2 (Nat.zero_le _) hbody henv1 (hwf.mono hm1) (hl1 ▸ hlen)
        generalize evalSs n Pg s1 body = rb at ihb ⊢
        cases rb with
        | ok vb s2 =>
          obtain ⟨L2, hst3, ⟨henv2, _⟩, hl2, _⟩ := ihb
          exact again s2 L2 ((cfg_end (hst2.trans hst3) rfl (List.append_nil T)).snoc (hback L2 T s2.out)) henv2
            (hl2.trans hl1)
        | sig g s2 =>
          cases g with
          | brk =>
            obtain ⟨L2, hst3, ⟨henv2, _⟩, hl2⟩ := ihb
            rw [hlen1] at henv2
            exact ⟨L2, cfg_end (hst2.trans hst3) rfl ((dropPending_zero T).trans (res_unit il T _).symm), henv2,
              hl2.trans hl1, fun _ => .unit⟩
          | cont =>
            obtain ⟨L2, hst3, ⟨henv2, _⟩, hl2⟩ := ihb
            exact again s2 L2 (cfg_end (hst2.trans hst3) rfl (dropPending_zero T)) henv2 (hl2.trans hl1)
          | err k => obtain ⟨x1, x2, k1, k2, k3⟩ := ihb; exact ⟨x1, x2, hst2.trans k1, k2, k3⟩
          | ret v => exact ihb
        | timeout => trivial
        | stuck w => trivial
  | break_ | continue_ =>
    obtain ⟨rfl, rfl, rfl, rfl⟩ := hi
    obtain ⟨hpops, hj⟩ := codeAt_resolve_append hcode
    rw [List.length_replicate] at hj
    exact ⟨L, (steps_pops W lc d pos L T st.out hd hpops).snoc (step_jump W (codeAt_head hj) L _ st.out), henv, rfl⟩
  | _ => exact hi.elim

/-- a statement leaves the environment as it was or adds one binding, and keeps it well formed -/
theorem compS_env {s : Stmt} {Γ : TEnv} {next d : Nat} {il : Bool} {c : Code} {τ : Ty} {Γ1 : TEnv} {n1 : Nat}
    (h : compS Γ next d il s = some (c, τ, Γ1, n1)) (hwf : WfΓ Γ next) :
    (Γ1 = Γ ∨ ∃ e, Γ1 = e :: Γ) ∧ WfΓ Γ1 n1 := by
  have hm := compS_mono s h
  have hi := compS_inv h
  cases s with
  | let_ p e =>
    cases p with
    | bind x =>
      obtain ⟨_, _, h1, _, _, _, rfl⟩ := hi
      exact ⟨.inr ⟨_, rfl⟩, Nat.lt_of_succ_le (compE_mono e h1), hwf⟩
    | _ => exact hi.elim
  | assign x op e => obtain ⟨_, _, _, _, _, _, rfl, _⟩ := hi; exact ⟨.inl rfl, hwf.mono hm⟩
  | expr e => obtain ⟨_, _, _, _, _, rfl⟩ := hi; exact ⟨.inl rfl, hwf.mono hm⟩
  | while_ c body => obtain ⟨_, _, _, _, _, _, _, rfl, _⟩ := hi; exact ⟨.inl rfl, hwf.mono hm⟩
  | break_ | continue_ => obtain ⟨_, _, rfl, _⟩ := hi; exact ⟨.inl rfl, hwf.mono hm⟩
  | _ => exact hi.elim

/-- leaving the scope of a statement: what it may have bound is dropped -/
theorem envrel_pop {L : List VM.Val} {Γ Γ1 : TEnv} {ρ : Env} (h : EnvRel L Γ1 ρ)
    (hs : Γ1 = Γ ∨ ∃ e, Γ1 = e :: Γ) {len : Nat} (hl : Γ.length = len) :
    EnvRel L Γ (popEnv ρ len) ∧ len ≤ ρ.length := by
  rcases hs with rfl | ⟨e, rfl⟩
  · have := h.length_eq
    rw [← hl, this, popEnv_self]
    exact ⟨h, Nat.le_refl _⟩
  · cases h with
    | cons hr _ _ _ =>
      have := hr.length_eq
      rw [popEnv_cons _ _ _ (by omega), ← hl, this, popEnv_self]
      exact ⟨hr, by simp⟩

theorem simSs_succ {W : World} {Pg : Prog} {n : Nat} (hS : SimS W Pg n) (hSs : SimSs W Pg n) : SimSs W Pg (n + 1) := by
  intro ss st Γ next blk code τ n' lc d pos L T hc hd hcode henv hwf hlen
  have hΓlen := henv.length_eq
  have hi := compSs_inv hc
  cases ss with
  | nil =>
    obtain ⟨rfl, rfl, rfl⟩ := hi
    exact ⟨L, cfg_end (Steps.refl _) rfl (res_unit blk T _).symm, ⟨(popEnv_self _).symm ▸ henv, Nat.le_refl _⟩, rfl,
      fun _ => .unit⟩
  | cons s rest =>
    cases rest with
    | nil =>
      obtain ⟨Γ1, h1⟩ := hi
      obtain ⟨hshape, _⟩ := compS_env h1 hwf
      exact Out.wrap (.refl _) rfl rfl (hS h1 hd hcode henv hwf hlen)
        (fun L' ρ h => envrel_pop h (.inl rfl) hΓlen)
        fun v s1 L1 hst1 henv1 hl1 hty1 => ⟨L1, hst1, envrel_pop henv1 hshape hΓlen, hl1, hty1⟩
    | cons s2 r =>
      obtain ⟨c, t0, Γ1, n1, cr, h1, h2, rfl⟩ := hi
      have hm2 := compSs_mono _ h2
      obtain ⟨hc1, hc2⟩ := codeAt_resolve_append hcode
      obtain ⟨hshape, hwf1⟩ := compS_env h1 hwf
      refine Out.bind (.refl _) rfl rfl (hS h1 hd hc1 henv hwf (Nat.le_trans hm2 hlen))
        (fun L' ρ h => envrel_pop h (.inl rfl) hΓlen) ?_
      intro v s1 L1 hst1 henv1 hl1 _
      have hle : st.env.length ≤ s1.env.length := by
        have := henv1.length_eq
        rcases hshape with rfl | ⟨e, rfl⟩
        · omega
        · simp only [List.length_cons] at this; omega
      have conv : ∀ L' ρ, (EnvRel L' Γ1 (popEnv ρ s1.env.length) ∧ s1.env.length ≤ ρ.length) →
          (EnvRel L' Γ (popEnv ρ st.env.length) ∧ st.env.length ≤ ρ.length) := by
        intro L' ρ ⟨k1, k2⟩
        obtain ⟨k3, _⟩ := envrel_pop k1 hshape hΓlen
        rw [popEnv_popEnv ρ _ _ hle k2] at k3
        exact ⟨k3, by omega⟩
      refine Out.wrap (cfg_end hst1 rfl (List.append_nil T)) hl1 rfl
        (hSs h2 hd hc2 henv1 hwf1 (hl1 ▸ hlen)) conv ?_
      intro v s2 L2 hst2 henv2 hl2 hty2
      exact ⟨L2, cfg_end hst2 (end_append ..) rfl, conv _ _ henv2, hl2, hty2⟩

theorem sim_all (W : World) (Pg : Prog) (n : Nat) : SimE W Pg n ∧ SimS W Pg n ∧ SimSs W Pg n := by
  induction n with
  | zero =>
    exact ⟨fun _ _ _ _ _ _ => trivial, fun _ _ _ _ _ _ => trivial, fun _ _ _ _ _ _ => trivial⟩
  | succ n ih =>
    obtain ⟨hE, hS, hSs⟩ := ih
    exact ⟨simE_succ hE hSs, simS_succ hE hS hSs, simSs_succ hS hSs⟩

end Abra.Compile
