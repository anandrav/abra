import AbraModel.F64
/-!
Lemmas for C16/C24: the `total_cmp` key and the six relations as order relations on it; a bit
pattern as sign and magnitude, its exact value by range of the exponent field; `f as i64`;
`n as f64` as "scale or round the significand to 53 bits, then assemble the fields"; the bit-level key.
-/
namespace Abra.F64

theorem sign_magnitude (b : Bits) :
    magnitude b < signBit ∧ b.toNat = (if sign b then signBit else 0) + magnitude b := by
  have h64 : b.toNat < signBit + signBit := b.toNat_lt
  unfold sign magnitude
  by_cases h : b.toNat ≥ signBit
  · have hlt := Nat.sub_lt_left_of_lt_add h h64
    rw [decide_eq_true h, if_pos rfl, Nat.mod_eq_sub_mod h, Nat.mod_eq_of_lt hlt]
    exact ⟨hlt, (Nat.add_sub_cancel' h).symm⟩
  · have hlt := Nat.lt_of_not_le h
    rw [decide_eq_false h, if_neg Bool.false_ne_true, Nat.mod_eq_of_lt hlt]
    exact ⟨hlt, (Nat.zero_add _).symm⟩

/-- negative patterns are ordered by descending magnitude below the positive ones -/
theorem key_eq (b : Bits) :
    key b = if sign b then signBit - 1 - magnitude b else signBit + magnitude b := by
  obtain ⟨_, h2⟩ := sign_magnitude b
  unfold key
  cases hs : sign b <;> rw [hs] at h2
  · rw [if_neg (of_decide_eq_false hs), if_neg Bool.false_ne_true, h2, if_neg Bool.false_ne_true, Nat.zero_add,
      Nat.add_comm]
  · rw [if_pos (of_decide_eq_true hs), if_pos rfl, h2, if_pos rfl]
    show signBit + signBit - 1 - (signBit + magnitude b) = _
    rw [Nat.sub_right_comm, Nat.add_sub_add_left, Nat.sub_right_comm]

theorem key_lt (b : Bits) : key b < 2 ^ 64 := by
  have := b.toNat_lt
  unfold key signBit
  split <;> omega

theorem key_inj {a b : Bits} : key a = key b ↔ a = b := by
  refine ⟨fun h => UInt64.toNat_inj.1 ?_, fun h => by rw [h]⟩
  have ha := a.toNat_lt
  have hb := b.toNat_lt
  unfold key signBit at h
  split at h <;> split at h <;> omega

theorem flt_iff (a b : Bits) : flt a b = true ↔ key a < key b :=
  Ordering.isLT_iff_eq_lt.trans Nat.compare_eq_lt

theorem fle_iff (a b : Bits) : fle a b = true ↔ key a ≤ key b := Nat.isLE_compare

theorem fgt_iff (a b : Bits) : fgt a b = true ↔ key b < key a :=
  Ordering.isGT_iff_eq_gt.trans Nat.compare_eq_gt

theorem fge_iff (a b : Bits) : fge a b = true ↔ key b ≤ key a := Nat.isGE_compare

theorem feq_iff (a b : Bits) : feq a b = true ↔ a = b :=
  Ordering.isEq_iff_eq_eq.trans (Nat.compare_eq_eq.trans key_inj)

/-! ### the exact value of a pattern -/

def signed (neg : Bool) (x : Nat) : Int := if neg then -(x : Int) else x

theorem natAbs_signed (neg : Bool) (x : Nat) : (signed neg x).natAbs = x := by
  cases neg <;> simp [signed]

theorem signed_natAbs (n : Int) : signed (decide (n < 0)) n.natAbs = n := by
  unfold signed
  by_cases h : n < 0 <;>
    simp only [h, decide_true, decide_false, if_true, Bool.false_eq_true, if_false] <;> omega

theorem signed_mul (neg : Bool) (x d : Nat) : signed neg (x * d) = signed neg x * d := by
  cases neg <;> simp [signed, Int.neg_mul]

theorem natAbs_signed_sub (neg : Bool) (x y : Nat) :
    (signed neg x - signed neg y).natAbs = ((x : Int) - y).natAbs := by
  cases neg
  · rfl
  · show (-(x : Int) - -(y : Int)).natAbs = _
    rw [← Int.natAbs_neg, Int.neg_sub, Int.sub_neg, Int.add_comm]; rfl

theorem tdiv_nat (a d : Nat) : Int.tdiv (a : Int) (d : Int) = ((a / d : Nat) : Int) := rfl

theorem tdiv_signed (neg : Bool) (x d : Nat) : Int.tdiv (signed neg x) d = signed neg (x / d) := by
  cases neg
  · rfl
  · show Int.tdiv (-(x : Int)) d = -((x / d : Nat) : Int)
    rw [Int.neg_tdiv]; rfl

theorem mantissa_lt (b : Bits) : mantissa b < 2 ^ 52 := Nat.mod_lt _ (by decide)

theorem finite_iff (b : Bits) : isNaN b = false ∧ isInf b = false ↔ expField b ≠ 2047 := by
  unfold isNaN isInf
  by_cases h : expField b = 2047 <;> simp [h]

theorem finiteValue_of_zero {b : Bits} (h : expField b = 0) :
    finiteValue b = (signed (sign b) (mantissa b), 2 ^ 1074) := by
  unfold finiteValue; simp only [h, if_true]; rfl

theorem finiteValue_of_le {b : Bits} (h0 : expField b ≠ 0) (h : expField b ≤ 1075) :
    finiteValue b = (signed (sign b) (2 ^ 52 + mantissa b), 2 ^ (1075 - expField b)) := by
  unfold finiteValue signed
  by_cases h' : expField b ≥ 1075
  · have : expField b = 1075 := Nat.le_antisymm h h'
    simp only [this, if_true, Nat.sub_self, Nat.pow_zero, Nat.mul_one, ge_iff_le, Nat.le_refl,
      if_false, reduceCtorEq]
  · simp only [h0, h', if_false]

theorem finiteValue_of_ge {b : Bits} (h : 1075 ≤ expField b) :
    finiteValue b = (signed (sign b) ((2 ^ 52 + mantissa b) * 2 ^ (expField b - 1075)), 1) := by
  have h0 : expField b ≠ 0 := Nat.ne_of_gt (Nat.lt_of_lt_of_le (by decide) h)
  unfold finiteValue signed
  simp only [h0, if_false, ge_iff_le, h, if_true]

/-! ### `f as i64` -/

def clamp (x : Int) : Int := if x < i64Min then i64Min else if x > i64Max then i64Max else x

theorem clamp_range (x : Int) : i64Min ≤ clamp x ∧ clamp x ≤ i64Max := by
  unfold clamp i64Min i64Max
  split <;> (try split) <;> omega

/-- the two saturating branches of `intFromFloat` are one `clamp` of the signed magnitude -/
theorem saturate_eq_clamp (neg : Bool) (q : Nat) :
    (if neg then (if (q : Int) ≥ 2 ^ 63 then i64Min else -(q : Int))
     else if (q : Int) > i64Max then i64Max else (q : Int)) = clamp (signed neg q) := by
  unfold clamp signed i64Min i64Max
  cases neg <;> simp only [if_true, Bool.false_eq_true, if_false]
  · rw [if_neg (show ¬ (q : Int) < -2 ^ 63 by omega)]
  · by_cases h : (q : Int) ≥ 2 ^ 63
    · rw [if_pos h]
      by_cases h' : -(q : Int) < -2 ^ 63
      · rw [if_pos h']
      · -- `q = 2^63`: `-q` is the lower bound itself
        rw [if_neg h', if_neg (by omega)]; omega
    · rw [if_neg h, if_neg (by omega), if_neg (by omega)]

theorem tdiv_finiteValue (b : Bits) :
    Int.tdiv (finiteValue b).1 (finiteValue b).2 =
      signed (sign b) (if expField b = 0 then 0 else truncMagnitude (expField b) (mantissa b)) := by
  by_cases h0 : expField b = 0
  · rw [finiteValue_of_zero h0, tdiv_signed, if_pos h0, Nat.div_eq_of_lt]
    exact Nat.lt_of_lt_of_le (mantissa_lt b) (Nat.pow_le_pow_right (by decide) (by decide))
  · unfold truncMagnitude
    by_cases hge : expField b ≥ 1075
    · simp only [finiteValue_of_ge hge, tdiv_signed, h0, hge, if_false, if_true, Nat.div_one,
        Nat.shiftLeft_eq]
    · simp only [finiteValue_of_le h0 (Nat.le_of_not_le hge), tdiv_signed, h0, hge, if_false,
        Nat.shiftRight_eq_div_pow]

/-! ### `n as f64` -/

theorem msb_spec : ∀ (fuel a : Nat), 1 ≤ a → a < 2 ^ fuel →
    2 ^ msb fuel a ≤ a ∧ a < 2 ^ (msb fuel a + 1)
  | 0, a, h1, h2 => absurd h2 (Nat.not_lt.2 h1)
  | f + 1, a, h1, h2 => by
    have two : 0 < 2 := by decide
    unfold msb
    split
    next h =>
      obtain rfl : a = 1 := Nat.le_antisymm h h1
      exact ⟨Nat.le_refl _, by decide⟩
    next h =>
      -- halving moves the leading bit down by one
      obtain ⟨l, u⟩ := msb_spec f (a / 2) ((Nat.le_div_iff_mul_le two).2 (Nat.lt_of_not_le h))
        ((Nat.div_lt_iff_lt_mul two).2 h2)
      exact ⟨(Nat.le_div_iff_mul_le two).1 l, (Nat.div_lt_iff_lt_mul two).1 u⟩

/-- `V` is `a` rounded to a multiple of `P = 2 * H`: a nearest one, at a tie the one that `even`
    singles out, and `a` itself when that is a multiple -/
structure RoundsTo (a P H V : Nat) (even : Prop) : Prop where
  le : V ≤ a + H
  ge : a ≤ V + H
  tie : V = a + H ∨ a = V + H → even
  exact : a % P = 0 → V = a

theorem RoundsTo.dist_le {a P H V : Nat} {even : Prop} (R : RoundsTo a P H V even) :
    ((V : Int) - a).natAbs ≤ H := by
  have := R.le; have := R.ge; omega

theorem RoundsTo.even_of_dist {a P H V : Nat} {even : Prop} (R : RoundsTo a P H V even)
    (h : ((V : Int) - a).natAbs = H) : even :=
  R.tie (by omega)

/-- rounding within one period: the remainder `rem` goes to `d` (`0` or the whole period) -/
theorem RoundsTo.add_left {X rem d P H : Nat} {even : Prop} (hr : rem < P)
    (le : d ≤ rem + H) (ge : rem ≤ d + H) (tie : d = rem + H ∨ rem = d + H → even)
    (exact : rem = 0 → d = 0) : RoundsTo (P * X + rem) P H (P * X + d) even where
  le := Nat.add_assoc .. ▸ Nat.add_le_add_left le _
  ge := Nat.add_assoc .. ▸ Nat.add_le_add_left ge _
  tie t := tie (t.imp (fun h => Nat.add_left_cancel (h.trans (Nat.add_assoc ..)))
    (fun h => Nat.add_left_cancel (h.trans (Nat.add_assoc ..))))
  exact h := by
    rw [Nat.mul_add_mod, Nat.mod_eq_of_lt hr] at h
    rw [h, exact h]

/-- the `q'` of `encodeMagnitude` -/
def roundEven (q rem half : Nat) : Nat := if rem > half ∨ (rem = half ∧ q % 2 = 1) then q + 1 else q

theorem roundEven_le (q rem half : Nat) : q ≤ roundEven q rem half ∧ roundEven q rem half ≤ q + 1 := by
  unfold roundEven; split <;> omega

theorem roundEven_spec (q rem P H : Nat) (hP : P = 2 * H) (hr : rem < P) :
    RoundsTo (P * q + rem) P H (P * roundEven q rem H) (roundEven q rem H % 2 = 0) := by
  unfold roundEven
  split
  · rw [Nat.mul_add_one]
    exact .add_left hr (by omega) (by omega) (by omega) (by omega)
  · exact .add_left (d := 0) hr (by omega) (by omega) (by omega) (by omega)

theorem round_shift (a sh : Nat) (hsh : 0 < sh) :
    RoundsTo a (2 ^ sh) (2 ^ (sh - 1))
      (roundEven (a / 2 ^ sh) (a % 2 ^ sh) (2 ^ (sh - 1)) * 2 ^ sh)
      (roundEven (a / 2 ^ sh) (a % 2 ^ sh) (2 ^ (sh - 1)) % 2 = 0) := by
  have hP : 2 ^ sh = 2 * 2 ^ (sh - 1) := by
    rw [← Nat.pow_succ', Nat.succ_eq_add_one, Nat.sub_add_cancel hsh]
  have := roundEven_spec (a / 2 ^ sh) (a % 2 ^ sh) _ _ hP (Nat.mod_lt _ (Nat.pow_pos (by decide)))
  rwa [Nat.div_add_mod, Nat.mul_comm] at this

theorem scale_up {a k p : Nat} (hlo : 2 ^ k ≤ a) (hhi : a < 2 ^ (k + 1)) (h : k ≤ p) :
    2 ^ p ≤ a * 2 ^ (p - k) ∧ a * 2 ^ (p - k) < 2 ^ (p + 1) := by
  obtain ⟨d, rfl⟩ := Nat.exists_eq_add_of_le h
  rw [Nat.add_sub_cancel_left, Nat.pow_add, Nat.add_right_comm, Nat.pow_add]
  exact ⟨Nat.mul_le_mul_right _ hlo, Nat.mul_lt_mul_of_pos_right hhi (Nat.pow_pos (by decide))⟩

theorem scale_down {a k p : Nat} (hlo : 2 ^ k ≤ a) (hhi : a < 2 ^ (k + 1)) (h : p ≤ k) :
    2 ^ p ≤ a / 2 ^ (k - p) ∧ a / 2 ^ (k - p) < 2 ^ (p + 1) := by
  obtain ⟨d, rfl⟩ := Nat.exists_eq_add_of_le h
  have hpos : 0 < 2 ^ d := Nat.pow_pos (by decide)
  rw [Nat.add_sub_cancel_left, Nat.le_div_iff_mul_le hpos, Nat.div_lt_iff_lt_mul hpos, ← Nat.pow_add,
    ← Nat.pow_add, Nat.add_right_comm]
  exact ⟨hlo, hhi⟩

/-- the magnitude bits with exponent field `k + 1023` and significand `s` (hidden bit included) -/
def pack (k s : Nat) : Nat := (k + 1023) * 2 ^ 52 + (s - 2 ^ 52)

def withSign (neg : Bool) (N : Nat) : Bits := UInt64.ofNat (if neg then signBit + N else N)

theorem floatFromInt_of_ne {n : Int} (h : n ≠ 0) :
    floatFromInt n = withSign (decide (n < 0)) (encodeMagnitude n.natAbs) := by
  unfold floatFromInt withSign
  rw [if_neg h]
  by_cases hneg : n < 0 <;> simp only [hneg, decide_true, decide_false, if_true, if_false, Bool.false_eq_true]

/-- `encodeMagnitude a` has the exponent of the leading bit `k` and a significand `s` (`2^53` when
    the rounding carries): `a` shifted up when it has at most 53 bits, else `a` with its low
    `k - 52` bits rounded off -/
theorem encodeMagnitude_spec (a k : Nat) (hk : msb 64 a = k) (h1 : 1 ≤ a) (h2 : a < 2 ^ 64) :
    ∃ s, encodeMagnitude a = pack k s ∧ 2 ^ 52 ≤ s ∧ s ≤ 2 ^ 53 ∧
      (k ≤ 52 → s < 2 ^ 53 ∧ s = a * 2 ^ (52 - k)) ∧
      (53 ≤ k → RoundsTo a (2 ^ (k - 52)) (2 ^ (k - 53)) (s * 2 ^ (k - 52)) (s % 2 = 0)) := by
  obtain ⟨hlo, hhi⟩ := msb_spec 64 a h1 h2
  rw [hk] at hlo hhi
  by_cases h : k ≤ 52
  · obtain ⟨l1, l2⟩ := scale_up hlo hhi h
    refine ⟨a * 2 ^ (52 - k), ?_, l1, Nat.le_of_lt l2, fun _ => ⟨l2, rfl⟩,
      fun h' => absurd (Nat.le_trans h' h) (by decide)⟩
    unfold encodeMagnitude
    simp only [hk, h, if_true]
    rfl
  · obtain ⟨l1, l2⟩ := scale_down hlo hhi (p := 52) (Nat.le_of_not_le h)
    have hr := roundEven_le (a / 2 ^ (k - 52)) (a % 2 ^ (k - 52)) (2 ^ (k - 53))
    have hs := round_shift a (k - 52) (Nat.sub_pos_of_lt (Nat.lt_of_not_le h))
    have e : k - 52 - 1 = k - 53 := Nat.sub_sub k 52 1
    rw [e] at hs
    refine ⟨_, ?_, Nat.le_trans l1 hr.1, Nat.le_trans hr.2 l2, fun h' => absurd h' h, fun _ => hs⟩
    unfold encodeMagnitude
    simp only [hk, h, if_false, e]
    rfl

theorem mixedRadix_lt {e m E P : Nat} (he : e < E) (hm : m < P) : e * P + m < E * P :=
  Nat.lt_of_lt_of_le (Nat.add_lt_add_left hm _) (Nat.succ_mul e P ▸ Nat.mul_le_mul_right P he)

/-- the digits of `t` in the mixed radix `(E, P)`, under a leading digit `hi` -/
theorem mixedRadix_div_mod (hi : Nat) {e m E P : Nat} (he : e < E) (hm : m < P) :
    let t := hi * (E * P) + (e * P + m)
    t / P % E = e ∧ t % P = m := by
  intro t
  have hP : 0 < P := Nat.lt_of_le_of_lt (Nat.zero_le _) hm
  have ht : t = m + (hi * E + e) * P := by
    show hi * (E * P) + (e * P + m) = _
    rw [Nat.add_mul, Nat.mul_assoc, ← Nat.add_assoc, Nat.add_comm]
  constructor
  · rw [ht, Nat.add_mul_div_right _ _ hP, Nat.div_eq_of_lt hm, Nat.zero_add, Nat.add_comm,
      Nat.add_mul_mod_self_right, Nat.mod_eq_of_lt he]
  · rw [ht, Nat.add_mul_mod_self_right, Nat.mod_eq_of_lt hm]

theorem fields_withSign (neg : Bool) {N e m : Nat} (hN : N = e * 2 ^ 52 + m) (he : e < 2 ^ 11)
    (hm : m < 2 ^ 52) :
    expField (withSign neg N) = e ∧ mantissa (withSign neg N) = m ∧ sign (withSign neg N) = neg := by
  -- sign, exponent and mantissa are the digits of the pattern in the mixed radix `(2^11, 2^52)`
  subst hN
  have hlt : e * 2 ^ 52 + m < signBit := mixedRadix_lt he hm
  unfold expField mantissa sign
  cases neg
  · obtain ⟨d1, d2⟩ := mixedRadix_div_mod 0 he hm
    rw [Nat.zero_mul, Nat.zero_add] at d1 d2
    rw [show (withSign false (e * 2 ^ 52 + m)).toNat = _ from
      UInt64.toNat_ofNat_of_lt' (Nat.lt_trans hlt (by decide))]
    exact ⟨d1, d2, decide_eq_false (Nat.not_le.2 hlt)⟩
  · obtain ⟨d1, d2⟩ := mixedRadix_div_mod 1 he hm
    rw [show (withSign true (e * 2 ^ 52 + m)).toNat = _ from
      UInt64.toNat_ofNat_of_lt' (Nat.add_lt_add_left hlt signBit)]
    exact ⟨d1, d2, decide_eq_true (Nat.le_add_right _ _)⟩

/-- the pattern with sign `neg`, exponent field `k + 1023` and significand `s` (hidden bit included;
    `s = 2^53` carries into the exponent field) is finite and denotes `± s · 2^(k-52)` -/
theorem value_pack (neg : Bool) (k s : Nat) (hk : k ≤ 1022) (h1 : 2 ^ 52 ≤ s) (h2 : s ≤ 2 ^ 53) :
    let r := withSign neg (pack k s)
    isNaN r = false ∧ isInf r = false ∧ sign r = neg ∧ mantissa r % 2 = s % 2 ∧
    (k ≤ 52 → s < 2 ^ 53 → finiteValue r = (signed neg s, 2 ^ (52 - k))) ∧
    (52 ≤ k → finiteValue r = (signed neg (s * 2 ^ (k - 52)), 1)) := by
  intro r
  -- exponent field `j + 1023` and mantissa `m`: `(k, s - 2^52)`, or `(k + 1, 0)` after a carry
  obtain ⟨j, m, hN, hj, hm, hpar, hlt, hge⟩ : ∃ j m, pack k s = (j + 1023) * 2 ^ 52 + m ∧ j ≤ 1023 ∧
      m < 2 ^ 52 ∧ m % 2 = s % 2 ∧ (s < 2 ^ 53 → j = k ∧ 2 ^ 52 + m = s) ∧
      (52 ≤ k → 52 ≤ j ∧ (2 ^ 52 + m) * 2 ^ (j - 52) = s * 2 ^ (k - 52)) := by
    have e52 : 2 ^ 52 = 2 * 2 ^ 51 := by decide
    have hs := Nat.add_sub_cancel' h1
    rcases Nat.lt_or_ge s (2 ^ 53) with h | h
    · exact ⟨k, s - 2 ^ 52, rfl, Nat.le_succ_of_le hk, Nat.sub_lt_left_of_lt_add h1 h,
        by rw [e52]; exact Nat.sub_mul_mod (e52 ▸ h1), fun _ => ⟨rfl, hs⟩, fun hk => ⟨hk, by rw [hs]⟩⟩
    · obtain rfl : s = 2 ^ 53 := Nat.le_antisymm h2 h
      refine ⟨k + 1, 0, ?_, Nat.succ_le_succ hk, by decide, rfl, fun h' => absurd h' (by decide),
        fun hk => ⟨Nat.le_succ_of_le hk, ?_⟩⟩
      · unfold pack
        rw [Nat.add_right_comm k 1 1023, Nat.add_mul (k + 1023) 1, Nat.one_mul]
      · rw [Nat.sub_add_comm hk, Nat.pow_succ (m := k - 52), Nat.mul_comm _ 2, ← Nat.mul_assoc]
  have hj' : j + 1023 < 2047 := Nat.add_lt_add_right (Nat.lt_succ_of_le hj) 1023
  obtain ⟨fe, fm, fs⟩ : expField r = j + 1023 ∧ mantissa r = m ∧ sign r = neg :=
    fields_withSign neg hN (Nat.lt_succ_of_lt hj') hm
  obtain ⟨hnan, hinf⟩ := (finite_iff r).2 (fe ▸ Nat.ne_of_lt hj')
  refine ⟨hnan, hinf, fs, by rw [fm, hpar], fun hk' hs => ?_, fun hk' => ?_⟩
  · obtain ⟨rfl, hm'⟩ := hlt hs
    rw [finiteValue_of_le (fe ▸ Nat.succ_ne_zero _) (fe ▸ Nat.add_le_add_right hk' 1023), fe, fm, fs, hm',
      ← Nat.add_sub_add_right 52 1023 j]
  · obtain ⟨hj52, hv⟩ := hge hk'
    rw [finiteValue_of_ge (fe ▸ Nat.add_le_add_right hj52 1023), fe, fm, fs, ← hv,
      ← Nat.add_sub_add_right j 1023 52]
/-- `n as f64` for every integer below `2^64` in absolute value: the result is finite with the sign of
    `n`, exact when `|n| ≤ 2^53`, and beyond that `n` rounded to a multiple of `2^(k-52)`, nearest
    with ties to the even significand -/
theorem float_from_int_spec (n : Int) (hn : n.natAbs < 2 ^ 64) :
    let r := floatFromInt n
    let v := finiteValue r
    let k := msb 64 n.natAbs
    isNaN r = false ∧ isInf r = false ∧ sign r = decide (n < 0) ∧
    (n.natAbs ≤ 2 ^ 53 → v.1 = n * v.2) ∧
    (2 ^ 53 < n.natAbs → v.2 = 1 ∧ (v.1 - n).natAbs ≤ 2 ^ (k - 53) ∧
      ((v.1 - n).natAbs = 2 ^ (k - 53) → mantissa r % 2 = 0) ∧
      (n.natAbs % 2 ^ (k - 52) = 0 → v.1 = n)) := by
  by_cases hz : n = 0
  · subst hz
    exact ⟨by decide, by decide, by decide, fun _ => (Int.zero_mul _).symm, fun h => absurd h (by decide)⟩
  · intro r v k
    have ha1 : 1 ≤ n.natAbs := Int.natAbs_pos.2 hz
    obtain ⟨hlo, hhi⟩ : 2 ^ k ≤ n.natAbs ∧ n.natAbs < 2 ^ (k + 1) := msb_spec 64 n.natAbs ha1 hn
    have hk63 : k < 64 := (Nat.pow_lt_pow_iff_right (by decide)).1 (Nat.lt_of_le_of_lt hlo hn)
    obtain ⟨s, henc, s1, s2, hsmall, hbig⟩ := encodeMagnitude_spec n.natAbs k rfl ha1 hn
    have hr : r = withSign (decide (n < 0)) (pack k s) := by
      show floatFromInt n = _
      rw [floatFromInt_of_ne hz, henc]
    have hv : v = finiteValue r := rfl
    have hsn := signed_natAbs n
    -- from here on `n` is `signed neg a`, `r` the assembled pattern and `v` its value
    clear_value r v k
    subst hr
    generalize decide (n < 0) = neg at *
    generalize n.natAbs = a at *
    subst hsn hv
    have hk1022 : k ≤ 1022 := Nat.le_trans (Nat.le_of_lt hk63) (by decide)
    obtain ⟨hnan, hinf, hsign, hpar, hle, hge⟩ := value_pack neg k s hk1022 s1 s2
    refine ⟨hnan, hinf, hsign, fun ha => ?_, fun ha => ?_⟩
    · by_cases hk : k ≤ 52
      · obtain ⟨hlt, rfl⟩ := hsmall hk
        rw [hle hk hlt, signed_mul]
      · -- `2^53 ≤ 2^k ≤ a ≤ 2^53`, a multiple of `2^(k-52)`
        have hk : 53 ≤ k := Nat.lt_of_not_le hk
        have ha' : a = 2 ^ 53 :=
          Nat.le_antisymm ha (Nat.le_trans (Nat.pow_le_pow_right (by decide) hk) hlo)
        have hdvd : a % 2 ^ (k - 52) = 0 := by
          rw [ha']
          exact Nat.mod_eq_zero_of_dvd
            (Nat.pow_dvd_pow 2 (Nat.sub_le_of_le_add (Nat.le_trans (Nat.le_of_lt hk63) (by decide))))
        rw [hge (Nat.le_of_succ_le hk), (hbig hk).exact hdvd]
        exact (Int.mul_one _).symm
    · have hk : 53 ≤ k :=
        Nat.succ_le_succ_iff.1 ((Nat.pow_lt_pow_iff_right (by decide)).1 (Nat.lt_trans ha hhi))
      have R := hbig hk
      rw [hge (Nat.le_of_succ_le hk), natAbs_signed_sub, hpar]
      exact ⟨rfl, R.dist_le, R.even_of_dist, fun h => by rw [R.exact h]⟩

/-! ### floor / ceil / round -/

theorem finiteValue_den_pos (x : Bits) : 0 < (finiteValue x).2 := by
  unfold finiteValue
  simp only
  split
  · exact Nat.two_pow_pos _
  · split
    · exact Nat.one_pos
    · exact Nat.two_pow_pos _

theorem finiteValue_num_small (x : Bits) (he : expField x < 1075) : (finiteValue x).1.natAbs < 2 ^ 53 := by
  have hm := mantissa_lt x
  by_cases h0 : expField x = 0
  · rw [finiteValue_of_zero h0, natAbs_signed]; exact Nat.lt_trans hm (by decide)
  · rw [finiteValue_of_le h0 (Nat.le_of_lt he), natAbs_signed]; exact Nat.add_lt_add_left hm _

theorem natAbs_roundInt_le (mode : Rounding) (n : Int) (d : Nat) (hd : 0 < d) :
    (roundInt mode n d).natAbs ≤ n.natAbs := by
  cases mode
  · exact Int.natAbs_ediv_le_natAbs n d
  · have := Int.natAbs_ediv_le_natAbs (-n) d
    simpa only [roundInt, Int.natAbs_neg] using this
  · -- `(2a + d) / (2d) ≤ a` because `2a + d < 2d (a + 1)`
    have key : ∀ a : Nat, ((2 * (a : Int) + d) / (2 * d)).natAbs ≤ a := fun a => by
      show (2 * a + d) / (2 * d) ≤ a
      have h1 : 2 * a ≤ 2 * d * a :=
        Nat.mul_assoc 2 d a ▸ Nat.mul_le_mul_left 2 (Nat.le_mul_of_pos_left a hd)
      have h2 : d < 2 * d := by omega
      exact Nat.le_of_lt_succ (Nat.div_lt_of_lt_mul (Nat.mul_succ _ _ ▸ Nat.add_lt_add_of_le_of_lt h1 h2))
    simp only [roundInt]
    by_cases hs : n ≥ 0
    · rw [if_pos hs, ← Int.natAbs_of_nonneg hs]
      exact key _
    · rw [if_neg hs, Int.natAbs_neg, ← Int.ofNat_natAbs_of_nonpos (Int.le_of_lt (Int.not_le.1 hs))]
      exact key _

/-! ### the bit-level key -/

theorem xor_signBit (x : Nat) (h : x < 2 ^ 63) : x ^^^ 2 ^ 63 = x + 2 ^ 63 := by
  -- below `2^63` adding the bit is or-ing it in, and or and xor differ only where both have a bit
  have e := Nat.two_pow_add_eq_or_of_lt h 1
  rw [Nat.mul_one] at e
  rw [Nat.add_comm, e]
  apply Nat.eq_of_testBit_eq
  intro i
  rw [Nat.testBit_xor, Nat.testBit_or, Nat.testBit_two_pow]
  by_cases hi : 63 = i
  · subst hi; simp [Nat.testBit_lt_two_pow h]
  · simp [hi]

end Abra.F64
