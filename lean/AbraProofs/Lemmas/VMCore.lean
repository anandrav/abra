import AbraModel.VMCore
/-! Basic facts about the VM core: multi-step closure and bounded runs, the heap only grows, `pop?`,
frame-relative indexing. -/
namespace Abra.VM

/-- reflexive-transitive closure of non-terminal steps -/
inductive Steps (P : Program) : State → State → Prop where
  | refl (s : State) : Steps P s s
  | cons {s s' s'' : State} : VM.step P s = .ok s' → Steps P s' s'' → Steps P s s''

theorem Steps.single {P : Program} {s s' : State} (h : VM.step P s = .ok s') : Steps P s s' :=
  .cons h (.refl _)

theorem Steps.trans {P : Program} {a b c : State} (h1 : Steps P a b) (h2 : Steps P b c) : Steps P a c := by
  induction h1 with
  | refl _ => exact h2
  | cons hs _ ih => exact .cons hs (ih h2)

theorem Steps.snoc {P : Program} {a b c : State} (h1 : Steps P a b) (h2 : VM.step P b = .ok c) : Steps P a c :=
  h1.trans (.single h2)

theorem run_of_steps {P : Program} {a b : State} (h : Steps P a b) :
    ∀ (n : Nat) (r : RunResult), run P n b = r → (∀ s, r ≠ .outOfFuel s) → ∃ m, run P m a = r := by
  induction h with
  | refl _ => intro n r hr _; exact ⟨n, hr⟩
  | cons hs _ ih =>
    intro n r hr hne
    obtain ⟨m, hm⟩ := ih n r hr hne
    exact ⟨m + 1, by simp [run, hs, hm]⟩

theorem run_terminal_stable {P : Program} : ∀ (n m : Nat) (s : State) (r : RunResult),
    VM.run P n s = r → (∀ t, r ≠ .outOfFuel t) → VM.run P m s = r ∨ ∃ t, VM.run P m s = .outOfFuel t := by
  intro n
  induction n with
  | zero => intro m s r h hne; simp only [VM.run] at h; exact absurd h.symm (hne s)
  | succ n ih =>
    intro m s r h hne
    cases m with
    | zero => exact .inr ⟨s, rfl⟩
    | succ m =>
      simp only [VM.run] at h ⊢
      generalize VM.step P s = x at h ⊢
      cases x with
      | ok s' => exact ih m s' r h hne
      | _ => exact .inl h

/-- objects already in the heap never change: on every branch of `step` that continues, the heap is kept or
    appended to -/
theorem step_heap_prefix {P : Program} {s s' : State} (h : VM.step P s = .ok s') : s.heap <+: s'.heap := by
  revert h
  fun_cases VM.step P s
  all_goals
    intro h
    cases h <;> first | exact List.prefix_refl _ | exact List.prefix_append _ _

theorem steps_heap_prefix {P : Program} {s s' : State} (h : Steps P s s') : s.heap <+: s'.heap := by
  induction h with
  | refl _ => exact List.prefix_refl _
  | cons hs _ ih => exact (step_heap_prefix hs).trans ih

@[simp] theorem pop?_snoc (l : List Val) (v : Val) : pop? (l ++ [v]) = some (v, l) := by
  induction l with
  | nil => rfl
  | cons a r ih =>
    cases r with
    | nil => rfl
    | cons b r' =>
      simp only [List.cons_append] at ih ⊢
      simp only [pop?, ih]

theorem pop?_append_append_snoc (X L T : List Val) (v : Val) :
    pop? (X ++ (L ++ (T ++ [v]))) = some (v, X ++ (L ++ T)) := by
  rw [← List.append_assoc L, ← List.append_assoc X]
  exact pop?_snoc _ _

theorem slotIdx_nat (base i : Nat) : slotIdx base (i : Int) = some (base + i) := by
  unfold slotIdx
  have h : (0 : Int) ≤ (base : Int) + (i : Int) := by omega
  simp only [h, if_true]
  rfl

end Abra.VM
