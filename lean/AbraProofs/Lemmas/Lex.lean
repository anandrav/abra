import AbraModel.Lex
import AbraModel.Literals
/-! Lemmas about the lexer model (`Abra.Lex`, `AbraModel/Lex.lean`) and the literal printer
    (`AbraModel/Literals.lean`): character classes, numbers, the decoder `processEscapesAux` on what
    `escape` prints, scanning, the equations of one step (`lexOne`) by the class of its first
    character, and the length of a step. -/
namespace Abra.Lex

theorem char_le_iff (a b : Char) : (a ≤ b) ↔ a.toNat ≤ b.toNat := by
  rw [Char.le_def, UInt32.le_iff_toNat_le]; rfl

theorem digit_not_identStart (c : Char) (hc : isDigit c = true) : isIdentStart c = false := by
  unfold isDigit at hc
  unfold isIdentStart isLower isUpper
  simp only [Bool.and_eq_true, decide_eq_true_eq, char_le_iff] at hc
  have h0 : '0'.toNat = 48 := rfl
  have h9 : '9'.toNat = 57 := rfl
  have ha : 'a'.toNat = 97 := rfl
  have hA : 'A'.toNat = 65 := rfl
  have hu : c ≠ '_' := by
    intro h; subst h; simp [Char.toNat] at hc
  simp [hu, char_le_iff]
  omega

theorem digitsVal_eq (ds : List Char) : digitsVal ds = Nat.ofDigitChars 10 ds 0 := by
  unfold digitsVal digitVal
  rw [Nat.ofDigitChars_eq_foldl]
  generalize 0 = init
  induction ds generalizing init with
  | nil => rfl
  | cons c cs ih => simp only [List.foldl_cons]; rw [Nat.mul_comm]; exact ih _

theorem digitsVal_toDigits (n : Nat) : digitsVal (Nat.toDigits 10 n) = n := by
  rw [digitsVal_eq]; exact Nat.ofDigitChars_ten_toDigits

/-- the character after the literal cannot continue a number -/
def NumEnd (rest : List Char) : Prop := ∀ c r, rest = c :: r → isNumChar c = false ∧ c ≠ '.'

theorem takeWhile_num (sp rest : List Char) (h : sp.all isNumChar = true)
    (hr : ∀ c r, rest = c :: r → isNumChar c = false) :
    (sp ++ rest).takeWhile isNumChar = sp := by
  rw [List.takeWhile_append_of_pos (List.all_eq_true.mp h)]
  cases rest with
  | nil => exact List.append_nil sp
  | cons c r => rw [List.takeWhile_cons_of_neg (ne_true_of_eq_false (hr c r rfl)), List.append_nil]

theorem lexNum_eq {cs run r : List Char} (hrun : cs.takeWhile isNumChar = run) (hr : cs.drop run.length = r) :
    lexNum cs =
      if r.head? = some '.' then
        (.floatLit (run.filter isDigit ++ '.' :: (r.tail.takeWhile isNumChar).filter isDigit),
          run.length + 1 + (r.tail.takeWhile isNumChar).length)
      else (.intLit (run.filter isDigit), run.length) := by
  subst hrun hr
  unfold lexNum
  dsimp only
  generalize cs.drop (cs.takeWhile isNumChar).length = r
  cases r with
  | nil => rfl
  | cons d r =>
    by_cases hd : d = '.'
    · subst hd; rfl
    · rw [List.head?_cons, if_neg (fun h => hd (Option.some.inj h))]
      split
      · next h => exact absurd (List.cons.inj h).1 hd
      · rfl

theorem lexNum_int (sp rest : List Char) (h : sp.all isNumChar = true) (hr : NumEnd rest) :
    lexNum (sp ++ rest) = (.intLit (sp.filter isDigit), sp.length) := by
  rw [lexNum_eq (takeWhile_num sp rest h (fun c r e => (hr c r e).1)) (List.drop_left' rfl), if_neg]
  cases rest with
  | nil => exact fun h => by cases h
  | cons c r => exact fun h => (hr c r rfl).2 (Option.some.inj h)

theorem hexByte_roundtrip : ∀ n : Fin 128,
    hexByte? (hexDigitLower (n.val / 16)) (hexDigitLower (n.val % 16)) = some n.val := by
  decide +kernel

theorem pe_nil (p : Nat) : processEscapesAux p [] = ([], []) := by
  rw [processEscapesAux.eq_def]

theorem pe_plain (p : Nat) (c : Char) (rest : List Char) (h : c ≠ '\\') :
    processEscapesAux p (c :: rest) =
      (c :: (processEscapesAux (p + 1) rest).1, (processEscapesAux (p + 1) rest).2) := by
  rw [processEscapesAux.eq_def]; simp [h]

/-- the two-character escapes `\c2` and the character each stands for -/
inductive IsSimpleEsc : Char → Char → Prop
  | n : IsSimpleEsc 'n' '\n'
  | t : IsSimpleEsc 't' '\t'
  | r : IsSimpleEsc 'r' '\r'
  | dquote : IsSimpleEsc '"' '"'
  | squote : IsSimpleEsc '\'' '\''
  | backslash : IsSimpleEsc '\\' '\\'

theorem pe_simple (p : Nat) (c2 ch : Char) (rest : List Char) (h : IsSimpleEsc c2 ch) :
    processEscapesAux p ('\\' :: c2 :: rest) =
      (ch :: (processEscapesAux (p + 2) rest).1, (processEscapesAux (p + 2) rest).2) := by
  rw [processEscapesAux.eq_def]
  cases h <;> simp

theorem pe_hex (p : Nat) (d2 d3 : Char) (b : Nat) (rest : List Char) (h : hexByte? d2 d3 = some b) :
    processEscapesAux p ('\\' :: 'x' :: d2 :: d3 :: rest) =
      (Char.ofNat b :: (processEscapesAux (p + 4) rest).1, (processEscapesAux (p + 4) rest).2) := by
  rw [processEscapesAux.eq_def]; simp [h]

/-- is `c` spelled as `\xNN` by the printer? -/
def isCtl (c : Char) : Bool := c.toNat < 0x20 || c.toNat = 0x7f

/-- the three shapes of `escapeChar q c`, each with what decoding it and scanning past it need to know -/
inductive EscShape (q : Quote) (c : Char) : List Char → Prop
  | plain : c ≠ '\\' → quoteChar q ≠ c → EscShape q c [c]
  | simple (c2 : Char) : IsSimpleEsc c2 c → EscShape q c ['\\', c2]
  | hex : c.toNat < 128 →
      EscShape q c ['\\', 'x', hexDigitLower (c.toNat / 16), hexDigitLower (c.toNat % 16)]

theorem escapeChar_shape (q : Quote) (c : Char) : EscShape q c (escapeChar q c) := by
  unfold escapeChar
  by_cases h1 : c = '\\'
  · subst h1; rw [if_pos rfl]; exact .simple _ .backslash
  rw [if_neg h1]
  by_cases h2 : c = '"'
  · subst h2
    rw [if_pos rfl]
    by_cases hq : q = .single
    · subst hq; exact .plain h1 (by decide)
    · rw [if_neg hq]; exact .simple _ .dquote
  rw [if_neg h2]
  by_cases h3 : c = '\''
  · subst h3
    rw [if_pos rfl]
    by_cases hq : q = .single
    · rw [if_pos hq]; exact .simple _ .squote
    · rw [if_neg hq]; exact .plain h1 (by cases q <;> first | exact absurd rfl hq | decide)
  rw [if_neg h3]
  by_cases h4 : c = '\n'
  · subst h4; rw [if_pos rfl]; exact .simple _ .n
  rw [if_neg h4]
  by_cases h5 : c = '\t'
  · subst h5; rw [if_pos rfl]; exact .simple _ .t
  rw [if_neg h5]
  by_cases h6 : c = '\r'
  · subst h6; rw [if_pos rfl]; exact .simple _ .r
  rw [if_neg h6]
  by_cases h7 : (c.toNat < 0x20 || c.toNat = 0x7f) = true
  · rw [if_pos h7]
    simp only [Bool.or_eq_true, decide_eq_true_eq] at h7
    exact .hex (by omega)
  · rw [if_neg h7]
    exact .plain h1 (by cases q <;> first | exact Ne.symm h3 | exact Ne.symm h2)

theorem pe_escape (q : Quote) (s : List Char) (p : Nat) :
    processEscapesAux p (escape q s) = (s, []) := by
  induction s generalizing p with
  | nil => exact pe_nil p
  | cons c cs ih =>
    rw [escape]
    have h := escapeChar_shape q c
    generalize escapeChar q c = e at h ⊢
    cases h with
    | plain h1 _ => exact (pe_plain p c (escape q cs) h1).trans (by rw [ih])
    | simple c2 hs => exact (pe_simple p c2 c (escape q cs) hs).trans (by rw [ih])
    | hex hlt =>
      exact (pe_hex p _ _ _ (escape q cs) (hexByte_roundtrip ⟨c.toNat, hlt⟩)).trans
        (by rw [ih, Char.ofNat_toNat])

theorem scanDelim_cons (q c : Char) (cs : List Char) :
    scanDelim [q] (c :: cs) =
      if c = '\\' then (match cs with | [] => none | _ :: cs' => (scanDelim [q] cs').map (· + 2))
      else if q = c then some 0 else (scanDelim [q] cs).map (· + 1) := by
  rw [scanDelim.eq_def]
  simp only [isPrefix]
  by_cases hc : c = '\\'
  · simp only [hc, if_true]; cases cs <;> rfl
  · by_cases hq : q = c <;> simp [hc, hq]

theorem scan_cons_plain (d c : Char) (cs : List Char) (h1 : c ≠ '\\') (h2 : d ≠ c) :
    scanDelim [d] (c :: cs) = (scanDelim [d] cs).map (· + 1) := by
  rw [scanDelim_cons, if_neg h1, if_neg h2]

theorem scan_cons_pair (d c2 : Char) (cs : List Char) :
    scanDelim [d] ('\\' :: c2 :: cs) = (scanDelim [d] cs).map (· + 2) := by
  rw [scanDelim_cons, if_pos rfl]

theorem scan_escapeChar (q : Quote) (c : Char) (rest : List Char) :
    scanDelim [quoteChar q] (escapeChar q c ++ rest) =
      (scanDelim [quoteChar q] rest).map (· + (escapeChar q c).length) := by
  have h := escapeChar_shape q c
  generalize escapeChar q c = e at h ⊢
  cases h with
  | plain h1 h2 => exact scan_cons_plain _ _ _ h1 h2
  | simple c2 _ => exact scan_cons_pair _ _ _
  | hex hlt =>
    have hne : ∀ k : Fin 16, hexDigitLower k.val ≠ '\\' ∧ quoteChar q ≠ hexDigitLower k.val := by
      cases q <;> decide +kernel
    have ha := hne ⟨c.toNat / 16, by omega⟩
    have hb := hne ⟨c.toNat % 16, Nat.mod_lt _ (by decide)⟩
    simp only [List.cons_append, List.nil_append]
    rw [scan_cons_pair, scan_cons_plain _ _ _ ha.1 ha.2, scan_cons_plain _ _ _ hb.1 hb.2]
    cases scanDelim [quoteChar q] rest <;> rfl

/-- the `start_of_ident` branch of the loop of `tokenize_file`, from the word read -/
def identStep (id : List Char) : Step :=
  if id = ['_'] then punct .wildcard 1
  else if keywords.contains (String.ofList id) then punct (.kw (String.ofList id)) id.length
  else if isPolyIdent id then punct (.polyIdent id) id.length
  else punct (.ident id) id.length

theorem identStep_len (id : List Char) : (identStep id).len = id.length := by
  unfold identStep
  split
  · next h => rw [h]; rfl
  · split
    · rfl
    · split <;> rfl

/- `lexOne (c :: rest)` is by definition `if isIdentStart c then … else if isDigit c then … else
   match c with …`: the equations below are that, by `show … (if _ then _ else _)` and `rfl`. -/
theorem lexOne_ident {c : Char} (hid : isIdentStart c = true) (rest : List Char) :
    lexOne (c :: rest) = identStep (c :: rest.takeWhile isIdentMid) := by
  show (if isIdentStart c = true then _ else _) = _
  rw [if_pos hid]; rfl

theorem lexOne_digit {c : Char} (hd : isDigit c = true) (rest : List Char) :
    lexOne (c :: rest) = punct (lexNum (c :: rest)).1 (lexNum (c :: rest)).2 := by
  show (if isIdentStart c = true then _ else if isDigit c = true then _ else _) = _
  rw [if_neg (ne_true_of_eq_false (digit_not_identStart c hd)), if_pos hd]

/-- the step of a `'…'` / `"…"` literal, from what `lexQuoted` returns -/
def quotedStep (r : List Char × Nat × List Nat) : Step :=
  { tok := some (.strLit r.1), len := r.2.1, badEscapes := r.2.2.map (fun p => (p + 1, p + 3)) }

theorem lexOne_dquote (rest : List Char) : lexOne ('"' :: rest) =
    if startsTriple ('"' :: rest) then
      { tok := some (.strLit (lexTriple (rest.drop 2)).1), len := (lexTriple (rest.drop 2)).2.1 + 3,
        badEscapes := (lexTriple (rest.drop 2)).2.2.map (fun (lo, hi) => (lo + 3, hi + 3)) }
    else quotedStep (lexQuoted '"' rest) := rfl

theorem lexOne_squote (rest : List Char) : lexOne ('\'' :: rest) = quotedStep (lexQuoted '\'' rest) := rfl

theorem lexOne_slash (rest : List Char) : lexOne ('/' :: rest) =
    if rest.head? = some '/' then skip (1 + lineCommentLen rest)
    else if rest.head? = some '*' then skip (min (2 + blockCommentEnd (rest.drop 1)) (rest.length + 1))
    else if rest.head? = some '=' then punct .slasheq 2 else punct .slash 1 := rfl

/-- Not an equation like its siblings: for every other first character the step is decided by that
    character and the next one, and is one character long, or two with the second one present. -/
theorem lexOne_punct {c : Char} (hid : ¬isIdentStart c = true) (hd : ¬isDigit c = true)
    (hq : c ≠ '"') (hs : c ≠ '\'') (hsl : c ≠ '/') {rest rest' : List Char} (hh : rest'.head? = rest.head?) :
    lexOne (c :: rest') = lexOne (c :: rest) ∧
      ((lexOne (c :: rest)).len = 1 ∨ (lexOne (c :: rest)).len = 2 ∧ rest ≠ []) := by
  have hne : ∀ {x}, rest.head? = some x → rest ≠ [] := fun h e => by rw [e] at h; cases h
  suffices h : ∀ s, lexOne (c :: rest) = s → lexOne (c :: rest') = s ∧ (s.len = 1 ∨ s.len = 2 ∧ rest ≠ []) from
    h _ rfl
  intro s
  show (if isIdentStart c = true then _ else if isDigit c = true then _ else _) = s →
    (if isIdentStart c = true then _ else if isDigit c = true then _ else _) = s ∧ _
  rw [if_neg hid, if_neg hd, if_neg hid, if_neg hd, hh]
  -- after `hh` the two sides differ only in the alternatives for `"`, `'` and `/`
  split
  all_goals first
    | exact fun h => ⟨h, h ▸ .inl rfl⟩   -- one character, whatever follows
    | exact absurd rfl ‹_ ≠ _›           -- `"`, `'`, `/`
    | (rintro rfl; refine ⟨rfl, ?_⟩; dsimp only; repeat' split)   -- a test of the next character
  all_goals first
    | exact .inl rfl                 -- the branch of length 1
    | exact .inr ⟨rfl, hne ‹_›⟩      -- length 2: the test found a next character

theorem blockCommentEnd_cons (c : Char) (r : List Char) :
    blockCommentEnd (c :: r) = if (c = '*' && r.head? = some '/') then 2 else 1 + blockCommentEnd r := by
  rw [blockCommentEnd]

theorem head_append_ne_nil {u : List Char} (hu : u ≠ []) (Z : List Char) : (u ++ Z).head? = u.head? := by
  cases u with
  | nil => exact absurd rfl hu
  | cons a b => rfl

theorem takeWhile_len_le (p : Char → Bool) (cs : List Char) : (cs.takeWhile p).length ≤ cs.length :=
  (List.takeWhile_sublist p).length_le

theorem lineCommentLen_eq (cs : List Char) : lineCommentLen cs = (cs.takeWhile (· != '\n')).length := by
  induction cs with
  | nil => rfl
  | cons c r ih =>
    rw [lineCommentLen, List.takeWhile_cons]
    by_cases hc : c = '\n'
    · simp [hc]
    · simp [hc, ih, Nat.add_comm]

theorem lineCommentLen_le (cs : List Char) : lineCommentLen cs ≤ cs.length :=
  lineCommentLen_eq cs ▸ takeWhile_len_le _ cs

theorem scanDelim_some (q : Char) (cs : List Char) : ∀ k, scanDelim [q] cs = some k →
    k < cs.length ∧ ∀ W, scanDelim [q] (cs.take (k + 1) ++ W) = some k := by
  fun_induction scanDelim [q] cs with
  | case1 => intro k h; cases h
  | case2 => intro k h; cases h
  | case3 c2 cs' ih =>
    intro k h
    obtain ⟨k', hk', rfl⟩ := Option.map_eq_some_iff.mp h
    obtain ⟨h1, h2⟩ := ih k' hk'
    refine ⟨by simp only [List.length_cons]; omega, fun W => ?_⟩
    rw [List.take_succ_cons, List.take_succ_cons, List.cons_append, List.cons_append, scan_cons_pair, h2]; rfl
  | case4 c cs hc hp =>
    intro k h; cases h
    refine ⟨Nat.succ_pos _, fun W => ?_⟩
    rw [List.take_succ_cons, List.cons_append, scanDelim_cons, if_neg hc, if_pos (by simpa [isPrefix] using hp)]
  | case5 c cs hc hp ih =>
    intro k h
    obtain ⟨k', hk', rfl⟩ := Option.map_eq_some_iff.mp h
    obtain ⟨h1, h2⟩ := ih k' hk'
    refine ⟨by simp only [List.length_cons]; omega, fun W => ?_⟩
    rw [List.take_succ_cons, List.cons_append,
      scan_cons_plain _ _ _ hc (fun e => hp (by simp [isPrefix, e])), h2]; rfl

/-- `lexNum` consumes at least its first run of digits and `_`, and no more than there is -/
theorem lexNum_len (cs : List Char) :
    (cs.takeWhile isNumChar).length ≤ (lexNum cs).2 ∧ (lexNum cs).2 ≤ cs.length := by
  rw [lexNum_eq rfl rfl]
  have h1 := takeWhile_len_le isNumChar cs
  split
  · next h =>
    have h2 := takeWhile_len_le isNumChar (cs.drop (cs.takeWhile isNumChar).length).tail
    have : 0 < (cs.drop (cs.takeWhile isNumChar).length).length :=
      List.length_pos_iff.mpr fun e => by rw [e] at h; cases h
    simp only [List.length_tail, List.length_drop] at *
    omega
  · exact ⟨Nat.le_refl _, h1⟩

theorem startsTriple_len {cs : List Char} (h : startsTriple cs = true) : 3 ≤ cs.length := by
  unfold startsTriple at h
  split at h
  · simp
  · cases h

theorem lexQuoted_len (q : Char) (rest : List Char) :
    1 ≤ (lexQuoted q rest).2.1 ∧ (lexQuoted q rest).2.1 ≤ rest.length + 1 := by
  unfold lexQuoted
  split
  · rename_i k hk
    have := (scanDelim_some q rest k hk).1
    simp only; omega
  · simp only; omega

theorem lexTriple_len_le (afterOpen : List Char) : (lexTriple afterOpen).2.1 ≤ afterOpen.length := by
  unfold lexTriple
  simp only
  omega

theorem lexOne_len (c : Char) (rest : List Char) :
    1 ≤ (lexOne (c :: rest)).len ∧ (lexOne (c :: rest)).len ≤ rest.length + 1 := by
  by_cases hid : isIdentStart c = true
  · rw [lexOne_ident hid, identStep_len, List.length_cons]
    have := takeWhile_len_le isIdentMid rest
    omega
  by_cases hd : isDigit c = true
  · rw [lexOne_digit hd]
    have : 1 ≤ ((c :: rest).takeWhile isNumChar).length := by simp [List.takeWhile, isNumChar, hd]
    exact ⟨Nat.le_trans this (lexNum_len _).1, (lexNum_len _).2⟩
  by_cases hq : c = '"'
  · subst hq
    rw [lexOne_dquote]
    split
    · have := startsTriple_len ‹_›
      have := lexTriple_len_le (rest.drop 2)
      simp only [List.length_cons, List.length_drop] at *
      omega
    · exact lexQuoted_len '"' rest
  by_cases hs : c = '\''
  · subst hs; exact lexQuoted_len '\'' rest
  by_cases hsl : c = '/'
  · subst hsl
    cases rest with
    | nil => exact ⟨Nat.le_refl 1, Nat.le_refl 1⟩
    | cons d r =>
      rw [lexOne_slash]
      have := lineCommentLen_le (d :: r)
      rw [List.length_cons] at this ⊢
      by_cases h1 : (d :: r).head? = some '/'
      · rw [if_pos h1]; simp only [skip]; omega
      rw [if_neg h1]
      by_cases h2 : (d :: r).head? = some '*'
      · rw [if_pos h2]; simp only [skip]; omega
      rw [if_neg h2]
      split <;> (simp only [punct]; omega)
  · rcases (lexOne_punct hid hd hq hs hsl (rfl : rest.head? = rest.head?)).2 with h | ⟨h, hne⟩
    · omega
    · have := List.length_pos_iff.mpr hne; omega

end Abra.Lex
