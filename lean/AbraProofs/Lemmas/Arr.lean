import AbraModel.Lib.Arr
/-! Lemmas for C26: heap access, the bound test, two facts about the last position of a list.

Every in-place operation on an allocated address `a` leaves the heap `h.set a l` for some list `l`, so the
heap side of C26 is the algebra of `List.set` under `Heap.arr`: `arr_set_same`, `arr_set_other`,
`set_arr_self` here, `List.set_set` and `List.length_set` from core. -/
namespace Abra.Lib.Arr

theorem addrOf_ref {h : Heap} {a : Nat} (ha : a < h.length) : addrOf h (.ref a) = .ok a := if_pos ha

theorem arr_eq (h : Heap) (a : Nat) : h.arr a = h[a]?.getD [] := List.getD_eq_getElem?_getD

theorem arr_set_same (h : Heap) (a : Nat) (l : List Val) (ha : a < h.length) : Heap.arr (h.set a l) a = l := by
  rw [arr_eq, List.getElem?_set_self ha]; rfl

theorem arr_set_other (h : Heap) (a b : Nat) (l : List Val) (hb : b ≠ a) : Heap.arr (h.set a l) b = Heap.arr h b := by
  rw [arr_eq, arr_eq, List.getElem?_set_ne (Ne.symm hb)]

theorem set_arr_self (h : Heap) (a : Nat) : h.set a (h.arr a) = h := by
  by_cases ha : a < h.length
  · rw [arr_eq, List.getElem?_eq_getElem ha]; exact List.set_getElem_self ha
  · exact List.set_eq_of_length_le (Nat.le_of_not_lt ha)

theorem lt_length_set {h : Heap} {b : Nat} (hb : b < h.length) (a : Nat) (l : List Val) : b < (h.set a l).length := by
  rw [List.length_set]; exact hb

theorem arr_append_old (h : Heap) (l : List Val) (b : Nat) (hb : b < h.length) : Heap.arr (h ++ [l]) b = Heap.arr h b := by
  rw [arr_eq, arr_eq, List.getElem?_append_left hb]

theorem arr_append_new (h : Heap) (l : List Val) : Heap.arr (h ++ [l]) h.length = l := by
  rw [arr_eq, List.getElem?_append_right (Nat.le_refl _), Nat.sub_self]; rfl

theorem arr_out (h : Heap) (b : Nat) (hb : h.length ≤ b) : Heap.arr h b = [] := by
  rw [arr_eq, List.getElem?_eq_none hb]; rfl

/-- 64-bit signed range -/
def inI64 (i : Int) : Prop := -9223372036854775808 ≤ i ∧ i ≤ 9223372036854775807

theorem inI64_natCast {k : Nat} (hk : k < 9223372036854775808) : inI64 (k : Int) := by
  unfold inI64; omega

theorem natCast_inBounds {k n : Nat} (hk : k < n) : 0 ≤ (k : Int) ∧ (k : Int) < n :=
  ⟨Int.natCast_nonneg k, Int.ofNat_lt.mpr hk⟩

theorem ne_nil_of_inBounds {α} {l : List α} {idx : Int} (hr : 0 ≤ idx ∧ idx < l.length) : l ≠ [] :=
  fun e => by subst e; exact Int.lt_irrefl 0 (Int.lt_of_le_of_lt hr.1 hr.2)

theorem asUsize_of_nonneg {idx : Int} (hi : inI64 idx) (h0 : 0 ≤ idx) : asUsize idx = idx.toNat := by
  rw [asUsize, Int.emod_eq_of_lt h0 (Int.lt_of_le_of_lt hi.2 (by decide))]

theorem outOfBounds_eq {idx : Int} (hi : inI64 idx) (len : Nat) :
    outOfBounds idx len = !decide (0 ≤ idx ∧ idx < len) := by
  by_cases h0 : 0 ≤ idx
  · simp only [outOfBounds, asUsize_of_nonneg hi h0, h0, true_and, ge_iff_le, ← Nat.not_lt, Int.toNat_lt h0, decide_not,
      Int.not_lt.mpr h0, decide_false, Bool.or_false]
  · simp only [outOfBounds, h0, false_and, decide_false, Bool.not_false, Int.not_le.mp h0, decide_true, Bool.or_true]

theorem dropLast_set_of_le {α} {l : List α} {n : Nat} (hn : l.length - 1 ≤ n) (z : α) :
    (l.set n z).dropLast = l.dropLast := by
  rw [List.dropLast_eq_take, List.length_set, List.take_set_of_le hn, List.dropLast_eq_take]

theorem getD_last {α} (l : List α) (hne : l ≠ []) (d : α) : l.getD (l.length - 1) d = l.getLast hne := by
  rw [List.getD_eq_getElem?_getD, ← List.getLast?_eq_getElem?, List.getLast?_eq_some_getLast hne]; rfl

end Abra.Lib.Arr
