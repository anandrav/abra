import AbraProofs.Lemmas.LexSteps
/-!
Locality of the tokenizer model: a step that ends strictly inside a prefix `u` of the input does not
depend on what follows `u` (the lexer looks at most one character past the end of a token).
-/
namespace Abra.Lex

theorem takeWhile_local (p : Char → Bool) (u Z Z' : List Char)
    (h : ((u ++ Z).takeWhile p).length < u.length) :
    (u ++ Z').takeWhile p = (u ++ Z).takeWhile p := by
  rw [List.takeWhile_append] at h ⊢
  rw [List.takeWhile_append]
  split
  · next e => rw [if_pos e, List.length_append] at h; omega
  · rfl

theorem lineCommentLen_local (u Z Z' : List Char) (h : lineCommentLen (u ++ Z) < u.length) :
    lineCommentLen (u ++ Z') = lineCommentLen (u ++ Z) := by
  rw [lineCommentLen_eq] at h
  rw [lineCommentLen_eq, lineCommentLen_eq, takeWhile_local _ u Z Z' h]

theorem blockCommentEnd_local (u Z Z' : List Char) (h : blockCommentEnd (u ++ Z) < u.length) :
    blockCommentEnd (u ++ Z') = blockCommentEnd (u ++ Z) := by
  induction u with
  | nil => simp at h
  | cons c t ih =>
    rw [List.cons_append, blockCommentEnd_cons] at h
    -- the scan looks at the character after `c`, which is still in `u`
    have ht : t ≠ [] := by
      rintro rfl
      simp only [List.length_cons, List.length_nil] at h
      split at h <;> omega
    rw [head_append_ne_nil ht] at h
    rw [List.cons_append, List.cons_append, blockCommentEnd_cons, blockCommentEnd_cons,
      head_append_ne_nil ht, head_append_ne_nil ht]
    split
    · rfl
    · rw [if_neg ‹_›, List.length_cons] at h
      rw [ih (by omega)]

theorem lexQuoted_local (q : Char) (u Z Z' : List Char) (h : (lexQuoted q (u ++ Z)).2.1 ≤ u.length) :
    lexQuoted q (u ++ Z') = lexQuoted q (u ++ Z) := by
  unfold lexQuoted at h ⊢
  cases hs : scanDelim [q] (u ++ Z) with
  | none =>
    rw [hs] at h
    simp only [List.length_append] at h
    omega
  | some k =>
    rw [hs] at h
    simp only at h
    have e : ∀ W, (u ++ W).take (k + 1) = u.take (k + 1) := fun W => List.take_append_of_le_length (by omega)
    have := (scanDelim_some q _ k hs).2 (u.drop (k + 1) ++ Z')
    rw [e, ← List.append_assoc, List.take_append_drop] at this
    rw [this]
    simp only
    rw [List.take_append_of_le_length (by omega), List.take_append_of_le_length (by omega)]

theorem lexNum_local (u Z Z' : List Char) (h : (lexNum (u ++ Z)).2 < u.length) :
    lexNum (u ++ Z') = lexNum (u ++ Z) := by
  -- the first run ends inside `u`, so `u` holds the character after it too
  have hrun := Nat.lt_of_le_of_lt (lexNum_len (u ++ Z)).1 h
  rw [lexNum_eq rfl rfl] at h
  rw [lexNum_eq rfl rfl, lexNum_eq rfl rfl, takeWhile_local isNumChar u Z Z' hrun]
  generalize ((u ++ Z).takeWhile isNumChar).length = m at *
  have hd : ∀ W : List Char, (u ++ W).drop m = u[m] :: (u.drop (m + 1) ++ W) := fun W => by
    rw [List.drop_append_of_le_length (Nat.le_of_lt hrun), List.drop_eq_getElem_cons hrun, List.cons_append]
  simp only [hd, List.head?_cons, List.tail_cons] at h ⊢
  split
  · rw [if_pos ‹_›] at h
    rw [takeWhile_local isNumChar _ Z Z' (by simp only [List.length_drop] at h ⊢; omega)]
  · rfl

theorem lexOne_local (c : Char) (u Z Z' : List Char)
    (hnt : startsTriple (c :: (u ++ Z)) = false) (hnt' : startsTriple (c :: (u ++ Z')) = false)
    (h : (lexOne (c :: (u ++ Z))).len ≤ u.length) :
    lexOne (c :: (u ++ Z')) = lexOne (c :: (u ++ Z)) := by
  by_cases hid : isIdentStart c = true
  · rw [lexOne_ident hid, identStep_len, List.length_cons] at h
    rw [lexOne_ident hid, lexOne_ident hid, takeWhile_local isIdentMid u Z Z' (by omega)]
  by_cases hd : isDigit c = true
  · rw [lexOne_digit hd] at h
    rw [lexOne_digit hd, lexOne_digit hd, ← List.cons_append, ← List.cons_append,
      lexNum_local (c :: u) Z Z' (Nat.lt_succ_of_le h)]
  by_cases hq : c = '"'
  · subst hq
    rw [lexOne_dquote, if_neg (ne_true_of_eq_false hnt)] at h
    rw [lexOne_dquote, lexOne_dquote, if_neg (ne_true_of_eq_false hnt), if_neg (ne_true_of_eq_false hnt'),
      lexQuoted_local '"' u Z Z' h]
  by_cases hs : c = '\''
  · subst hs
    rw [lexOne_squote, lexOne_squote, lexQuoted_local '\'' u Z Z' h]
  have hu : u ≠ [] := by
    intro he; subst he
    have := (lexOne_len c ([] ++ Z)).1
    simp only [List.length_nil] at h
    omega
  have hh := fun W => head_append_ne_nil hu W
  by_cases hsl : c = '/'
  · subst hsl
    rw [lexOne_slash, hh] at h
    rw [lexOne_slash, lexOne_slash, hh, hh]
    by_cases h1 : u.head? = some '/'
    · rw [if_pos h1] at h
      have h' : 1 + lineCommentLen (u ++ Z) ≤ u.length := h
      rw [if_pos h1, if_pos h1, lineCommentLen_local u Z Z' (by omega)]
    rw [if_neg h1, if_neg h1]
    by_cases h2 : u.head? = some '*'
    · rw [if_neg h1, if_pos h2] at h
      have hd1 : ∀ W : List Char, (u ++ W).drop 1 = u.drop 1 ++ W := fun W =>
        List.drop_append_of_le_length (List.length_pos_iff.mpr hu)
      have h' : min (2 + blockCommentEnd (u.drop 1 ++ Z)) (u.length + Z.length + 1) ≤ u.length := by
        rw [← hd1, ← List.length_append]; exact h
      -- the comment closes inside `u`: the cap by the length of the input plays no role
      have hb : 2 + blockCommentEnd (u.drop 1 ++ Z) ≤ u.length := by omega
      rw [if_pos h2, if_pos h2, hd1, hd1, blockCommentEnd_local (u.drop 1) Z Z' (by rw [List.length_drop]; omega),
        List.length_append, List.length_append, Nat.min_eq_left (by omega), Nat.min_eq_left (by omega)]
    · rw [if_neg h2, if_neg h2]
  · exact (lexOne_punct hid hd hq hs hsl ((hh Z').trans (hh Z).symm)).1

end Abra.Lex
