import AbraProofs.Lemmas.Heap
/-! The repaired deep copy (`deepCopyM`, fix 0cb8741): what the map of copies guarantees. -/
namespace Abra.Heap

def Sub (M M' : CopyMap) : Prop := ∀ a c, mlookup M a = some c → mlookup M' a = some c

theorem Sub.refl (M : CopyMap) : Sub M M := fun _ _ h => h
theorem Sub.trans {M1 M2 M3 : CopyMap} (h12 : Sub M1 M2) (h23 : Sub M2 M3) : Sub M1 M3 :=
  fun a c h => h23 a c (h12 a c h)

theorem mlookup_cons (M : CopyMap) (k : Addr) (c : Val) (a : Addr) :
    mlookup ((k, c) :: M) a = if k = a then some c else mlookup M a := rfl

theorem sub_cons (M : CopyMap) (k : Addr) (c : Val) (h : mlookup M k = none) : Sub M ((k, c) :: M) := by
  intro a x hx
  rw [mlookup_cons, if_neg, hx]
  rintro rfl
  rw [h] at hx; cases hx

theorem Sub.cases {M M' : CopyMap} (h : Sub M M') {a : Addr} {c : Val} (hc : mlookup M' a = some c) :
    mlookup M a = none ∨ mlookup M a = some c := by
  cases hm : mlookup M a with
  | none => exact .inl rfl
  | some c0 => exact .inr ((h a c0 hm).symm.trans hc)

/-- image of a value under the map: a scalar is itself, a pointer is its recorded copy -/
def mapVal? (M : CopyMap) (w : Val) : Option Val :=
  match ptr? w with
  | none => some w
  | some a => mlookup M a

def mapList? (M : CopyMap) : List Val → Option (List Val)
  | [] => some []
  | w :: ws =>
    match mapVal? M w, mapList? M ws with
    | some x, some xs => some (x :: xs)
    | _, _ => none

theorem mapVal_scalar {M : CopyMap} {w w' : Val} (hp : ptr? w = none) : mapVal? M w = some w' ↔ w = w' := by
  simp only [mapVal?, hp, Option.some.injEq]

theorem mapVal_ptr {M : CopyMap} {w : Val} {a : Addr} (hp : ptr? w = some a) : mapVal? M w = mlookup M a := by
  simp only [mapVal?, hp]

theorem mapVal_ptr_inv {M : CopyMap} {w w' : Val} {x : Addr} (h : mapVal? M w = some w') (hx : ptr? w' = some x) :
    ∃ a, ptr? w = some a ∧ mlookup M a = some w' := by
  cases hp : ptr? w with
  | none => rw [(mapVal_scalar hp).1 h, hx] at hp; cases hp
  | some a => exact ⟨a, rfl, (mapVal_ptr hp).symm.trans h⟩

theorem mapVal_sub {M M' : CopyMap} (h : Sub M M') (w w' : Val) (hw : mapVal? M w = some w') :
    mapVal? M' w = some w' := by
  cases hp : ptr? w with
  | none => exact (mapVal_scalar hp).2 ((mapVal_scalar hp).1 hw)
  | some a => rw [mapVal_ptr hp] at hw ⊢; exact h a w' hw

theorem mapList_eq_some {M : CopyMap} {ws ws' : List Val} :
    mapList? M ws = some ws' ↔ Forall₂ (fun w w' => mapVal? M w = some w') ws ws' := by
  induction ws generalizing ws' with
  | nil => exact ⟨fun h => Option.some.inj h ▸ .nil, fun h => by cases h; rfl⟩
  | cons w ws ih =>
    unfold mapList?
    constructor
    · intro h
      split at h
      · next x xs h1 h2 => cases h; exact .cons h1 (ih.1 h2)
      · cases h
    · rintro (_ | ⟨h1, h2⟩)
      rw [h1, ih.2 h2]

/-- the copy of `a` recorded as `c` is complete: it holds the image of the source object -/
def Done (S H' : Heaps) (M' : CopyMap) (a : Addr) (c : Val) : Prop :=
  ∃ obj ks a', lookup S a = some obj ∧ ptr? c = some a' ∧ mapList? M' obj.kids = some ks ∧
    lookup H' a' = some (obj.withKids ks) ∧ tagOk c obj = true

theorem Done.src {S H' : Heaps} {M' : CopyMap} {a : Addr} {c : Val} (h : Done S H' M' a c) :
    ∃ obj, lookup S a = some obj := by
  obtain ⟨obj, _, _, h1, _⟩ := h
  exact ⟨obj, h1⟩

theorem Done.ptr {S H' : Heaps} {M' : CopyMap} {a : Addr} {c : Val} (h : Done S H' M' a c) :
    ∃ x, ptr? c = some x ∧ lookup H' x ≠ none := by
  obtain ⟨_, _, x, _, h2, _, h4, _⟩ := h
  exact ⟨x, h2, fun hn => nomatch h4.symm.trans hn⟩

/-- the slots of the copy and the copy, given the source object -/
theorem Done.at {S H' : Heaps} {M' : CopyMap} {a : Addr} {c : Val} {obj : Obj} (h : Done S H' M' a c)
    (hl : lookup S a = some obj) :
    ∃ ks a', ptr? c = some a' ∧ Forall₂ (fun k k' => mapVal? M' k = some k') obj.kids ks ∧
      lookup H' a' = some (obj.withKids ks) ∧ (obj.withKids ks).kids = ks ∧ tagOk c obj = true := by
  obtain ⟨obj', ks, a', d1, d2, d3, d4, d5⟩ := h
  cases hl.symm.trans d1
  have hks := mapList_eq_some.1 d3
  exact ⟨ks, a', d2, hks, d4, kids_withKids obj ks hks.length_eq, d5⟩

/-- a finished copy stays one when the map grows and the heaps keep the copy as it is -/
theorem Done.mono {S H1 H2 : Heaps} {M1 M2 : CopyMap} {a : Addr} {c : Val} (h : Done S H1 M1 a c) (hs : Sub M1 M2)
    (he : ∀ x o, ptr? c = some x → lookup H1 x = some o → lookup H2 x = some o) : Done S H2 M2 a c := by
  obtain ⟨obj, ks, a', h1, h2, h3, h4, h5⟩ := h
  exact ⟨obj, ks, a', h1, h2,
    mapList_eq_some.2 ((mapList_eq_some.1 h3).imp fun w w' _ => mapVal_sub hs w w'), he a' _ h2 h4, h5⟩

/-- distinct source objects have distinct copies -/
def Inj (M : CopyMap) : Prop :=
  ∀ a1 a2 c1 c2 x, mlookup M a1 = some c1 → mlookup M a2 = some c2 → ptr? c1 = some x → ptr? c2 = some x → a1 = a2

/-- every recorded copy is an object of `H` -/
def Live (H : Heaps) (M : CopyMap) : Prop := ∀ a c x, mlookup M a = some c → ptr? c = some x → lookup H x ≠ none

theorem Inj.cons {M : CopyMap} {a x0 : Addr} {c0 : Val} (hinj : Inj M) (hc0 : ptr? c0 = some x0)
    (hold : ∀ b c, mlookup M b = some c → ptr? c ≠ some x0) : Inj ((a, c0) :: M) := by
  intro a1 a2 c1 c2 x h1 h2 hx1 hx2
  rw [mlookup_cons] at h1 h2
  by_cases e1 : a = a1 <;> by_cases e2 : a = a2
  · exact e1.symm.trans e2
  · rw [if_pos e1] at h1; rw [if_neg e2] at h2; cases h1
    cases hc0.symm.trans hx1
    exact absurd hx2 (hold a2 c2 h2)
  · rw [if_neg e1] at h1; rw [if_pos e2] at h2; cases h2
    cases hc0.symm.trans hx2
    exact absurd hx1 (hold a1 c1 h1)
  · rw [if_neg e1] at h1; rw [if_neg e2] at h2
    exact hinj a1 a2 c1 c2 x h1 h2 hx1 hx2

theorem Live.cons {H H0 : Heaps} {M : CopyMap} {a x0 : Addr} {c0 : Val} (hl : Live H M) (he : Ext H H0)
    (hc0 : ptr? c0 = some x0) (hx0 : lookup H0 x0 ≠ none) : Live H0 ((a, c0) :: M) := by
  intro b c x hb hx
  rw [mlookup_cons] at hb
  by_cases hab : a = b
  · rw [if_pos hab] at hb; cases hb
    cases hc0.symm.trans hx
    exact hx0
  · rw [if_neg hab] at hb
    exact fun hn => hl b c x hb hx (he.none hn)

/-- What one (nested) call of `deep_copy_helper` does to heaps and map: both only grow; the entries it adds (`new`)
    are finished copies, objects of thread `t` that did not exist before the call; the map stays injective provided
    its copies were objects of the heaps the call started from — a new copy is allocated, so it is none of them. -/
structure Post (S : Heaps) (t : Nat) (H : Heaps) (M : CopyMap) (H' : Heaps) (M' : CopyMap) : Prop where
  sub : Sub M M'
  ext : Ext H H'
  new : ∀ a c, mlookup M' a = some c → mlookup M a = none →
    Done S H' M' a c ∧ ∀ x, ptr? c = some x → x.tid = t ∧ lookup H x = none
  inj : Live H M → Inj M → Inj M'

theorem Post.refl (S : Heaps) (t : Nat) (H : Heaps) (M : CopyMap) : Post S t H M H M :=
  ⟨Sub.refl M, Ext.refl H, fun _ _ h1 h2 => (nomatch h2.symm.trans h1), fun _ h => h⟩

theorem Post.live {S : Heaps} {t : Nat} {H H' : Heaps} {M M' : CopyMap} (p : Post S t H M H' M')
    (hl : Live H M) : Live H' M' := by
  intro a c x hc hx hn
  rcases p.sub.cases hc with h0 | h0
  · obtain ⟨x', d2, d4⟩ := (p.new a c hc h0).1.ptr
    cases hx.symm.trans d2
    exact d4 hn
  · exact hl a c x h0 hx (p.ext.none hn)

theorem Post.trans {S : Heaps} {t : Nat} {H H1 H2 : Heaps} {M M1 M2 : CopyMap}
    (p1 : Post S t H M H1 M1) (p2 : Post S t H1 M1 H2 M2) : Post S t H M H2 M2 := by
  refine ⟨p1.sub.trans p2.sub, p1.ext.trans p2.ext, fun a c h2 h0 => ?_,
    fun hl hi => p2.inj (p1.live hl) (p1.inj hl hi)⟩
  rcases p2.sub.cases h2 with h1 | h1
  · exact ⟨(p2.new a c h2 h1).1, fun x hx => ((p2.new a c h2 h1).2 x hx).imp_right p1.ext.none⟩
  · exact ⟨(p1.new a c h1 h0).1.mono p2.sub fun x o _ => p2.ext x o, (p1.new a c h1 h0).2⟩

/-- the `for` loop over the children (or over the captures of a `SpawnTask`) -/
theorem copyListM_post (S : Heaps) (t : Nat) (cp : Heaps → CopyMap → Val → Option (Val × Heaps × CopyMap))
    (hcp : ∀ H M w w' H' M', cp H M w = some (w', H', M') → Post S t H M H' M' ∧ mapVal? M' w = some w') :
    ∀ vs H M vs' H' M', copyListM cp H M vs = some (vs', H', M') →
      Post S t H M H' M' ∧ mapList? M' vs = some vs' := by
  intro vs
  induction vs with
  | nil =>
    intro H M vs' H' M' h
    cases h
    exact ⟨Post.refl _ _ _ _, rfl⟩
  | cons v vs ih =>
    intro H M vs' H' M' h
    rw [copyListM] at h
    split at h
    · cases h
    · next v1 H1 M1 h1 =>
      split at h
      · cases h
      · next vs2 H2 M2 h2 =>
        cases h
        obtain ⟨p1, m1⟩ := hcp H M v v1 H1 M1 h1
        obtain ⟨p2, m2⟩ := ih _ _ _ _ _ h2
        exact ⟨p1.trans p2, mapList_eq_some.2 (.cons (mapVal_sub p2.sub v v1 m1) (mapList_eq_some.1 m2))⟩

theorem deepCopyM_post (S : Heaps) (t : Nat) : ∀ f H M v v' H' M',
    deepCopyM f S H M t v = some (v', H', M') → Post S t H M H' M' ∧ mapVal? M' v = some v' := by
  intro f
  induction f with
  | zero => intro H M v v' H' M' h; cases h
  | succ f ih =>
    intro H M v v' H' M' h
    conv at h => lhs; whnf
    split at h
    · next hp =>
      cases h
      exact ⟨Post.refl _ _ _ _, (mapVal_scalar hp).2 rfl⟩
    · next a hp =>
      split at h
      · next c hm =>
        cases h
        exact ⟨Post.refl _ _ _ _, (mapVal_ptr hp).trans hm⟩
      · next hm =>
        split at h
        · cases h
        · next obj hl =>
          split at h
          · next htag =>
            -- `x0`: the placeholder copy in the heaps `H0`, recorded as `retag v x0` before the children are copied
            obtain ⟨x0, H0, hal, hx0t, hx0, hx0', hH0⟩ := alloc_spec H t (obj.withKids (obj.kids.map fun _ => Val.int 0))
            rw [hal] at h
            dsimp only at h
            split at h
            · cases h
            · next ks H2 M2 hc =>
              simp only [Option.some.injEq, Prod.mk.injEq] at h
              obtain ⟨rfl, rfl, rfl⟩ := h
              obtain ⟨p, mk⟩ := copyListM_post S t _ ih obj.kids H0 _ ks H2 M2 hc
              have hc0 : ptr? (retag v x0) = some x0 := ptr_retag x0 hp
              have hkey : mlookup M2 a = some (retag v x0) := p.sub a _ (if_pos rfl)
              -- filling the placeholder changes no other object
              have hput : ∀ y, y ≠ x0 → lookup (putObj H2 x0 (obj.withKids ks)) y = lookup H2 y :=
                fun y hy => by rw [lookup_putObj, if_neg hy]
              -- an entry other than `a` that `M` lacks was added while the children were copied
              have hnew : ∀ b, mlookup M b = none → b ≠ a → mlookup ((a, retag v x0) :: M) b = none :=
                fun b h0 hb => by rw [mlookup_cons, if_neg (Ne.symm hb), h0]
              refine ⟨⟨(sub_cons M a _ hm).trans p.sub, ?_, ?_, ?_⟩, (mapVal_ptr hp).trans hkey⟩
              · intro y o hy
                rw [hput y (by rintro rfl; rw [hx0] at hy; cases hy)]
                exact p.ext y o (hH0 y o hy)
              · intro b c hb h0
                by_cases hba : b = a
                · subst hba
                  cases hkey.symm.trans hb
                  refine ⟨⟨obj, ks, x0, hl, hc0, mk, ?_, (tagOk_retag v x0 obj).trans htag⟩,
                    fun x hx => Option.some.inj (hc0.symm.trans hx) ▸ ⟨hx0t, hx0⟩⟩
                  exact lookup_putObj_self _ _ _ fun hx => nomatch (p.ext x0 _ hx0').symm.trans hx
                · obtain ⟨hd, hf⟩ := p.new b c hb (hnew b h0 hba)
                  refine ⟨hd.mono (Sub.refl _) fun x o hx ho => ?_, fun x hx => (hf x hx).imp_right hH0.none⟩
                  rw [hput x (by rintro rfl; exact nomatch hx0'.symm.trans (hf _ hx).2)]
                  exact ho
              · exact fun hlive hinj => p.inj (hlive.cons hH0 hc0 (by rw [hx0']; nofun))
                  (hinj.cons hc0 fun b c hb hx => hlive b c x0 hb hx hx0)
          · cases h

end Abra.Heap
