import AbraModel.PatCompile
import AbraProofs.Lemmas.PatMatrix
/-!
Lemmas about the pattern part of M8 (`Abra.PatCompile`): the skip-mode machine, label freshness of the
comparison code, correctness of comparison and binding code by structural induction on patterns, then the
`match` and `let` code built from them, and arms that are chains `a | b | c` of or-free alternatives.
-/
namespace Abra.PatCompile
open Abra.PatMatrix

@[simp] theorem run_nil (st : St) : run [] st = some st := rfl

theorem run_cons (i : Instr) (code : List Instr) (st : St) :
    run (i :: code) st = (step st i).bind (run code) := by
  simp only [run, List.foldlM_cons, Option.bind_eq_bind]; rfl

theorem run_append (a b : List Instr) (st : St) : run (a ++ b) st = (run a st).bind (run b) := by
  simp only [run, List.foldlM_append, Option.bind_eq_bind]; rfl

theorem run_append_of {a : List Instr} {st st' : St} (h : run a st = some st') (b : List Instr) :
    run (a ++ b) st = run b st' := by
  rw [run_append, h]; rfl

abbrev mk (stack : List SVal) (locals : List (Nat × SVal)) (taken : Option Nat) (skip : Option Label) : St :=
  { stack := stack, locals := locals, taken := taken, skip := skip }

/-! Straight-line code is executed by rewriting with one equation per instruction, stated for `run` so
that no `Option.bind` is left behind; `step` is unfolded only in `run_skip_cons`.  In skip mode an
instruction is passed over unless it is the awaited label. -/
section
variable (c : List Instr) (s : List SVal) (l : List (Nat × SVal)) (t : Option Nat) (x : SVal) (lab : Label)

@[simp] theorem run_pop : run (.pop :: c) (mk (x :: s) l t none) = run c (mk s l t none) := rfl
@[simp] theorem run_dup : run (.dup :: c) (mk (x :: s) l t none) = run c (mk (x :: x :: s) l t none) := rfl
@[simp] theorem run_pushBool (b : Bool) :
    run (.pushBool b :: c) (mk s l t none) = run c (mk (.bool b :: s) l t none) := rfl
@[simp] theorem run_pushInt (n : Int) :
    run (.pushInt n :: c) (mk s l t none) = run c (mk (.int n :: s) l t none) := rfl
@[simp] theorem run_pushFloat (f : Nat) :
    run (.pushFloat f :: c) (mk s l t none) = run c (mk (.float f :: s) l t none) := rfl
@[simp] theorem run_pushStr (u : List UInt8) :
    run (.pushStr u :: c) (mk s l t none) = run c (mk (.str u :: s) l t none) := rfl
@[simp] theorem run_eqInt (a b : Int) :
    run (.eqInt :: c) (mk (.int b :: .int a :: s) l t none) = run c (mk (.bool (a == b) :: s) l t none) := rfl
@[simp] theorem run_eqFloat (a b : Nat) :
    run (.eqFloat :: c) (mk (.float b :: .float a :: s) l t none) = run c (mk (.bool (a == b) :: s) l t none) := rfl
@[simp] theorem run_eqBool (a b : Bool) :
    run (.eqBool :: c) (mk (.bool b :: .bool a :: s) l t none) = run c (mk (.bool (a == b) :: s) l t none) := rfl
@[simp] theorem run_eqStr (a b : List UInt8) :
    run (.eqStr :: c) (mk (.str b :: .str a :: s) l t none) = run c (mk (.bool (a == b) :: s) l t none) := rfl
@[simp] theorem run_deconStruct (fs : List SVal) :
    run (.deconStruct :: c) (mk (.struct fs :: s) l t none) = run c (mk (fs ++ s) l t none) := rfl
@[simp] theorem run_deconVariant (tag : Nat) :
    run (.deconVariant :: c) (mk (.variant tag x :: s) l t none) = run c (mk (.int tag :: x :: s) l t none) := rfl
@[simp] theorem run_jump : run (.jump lab :: c) (mk s l t none) = run c (mk s l t (some lab)) := rfl
@[simp] theorem run_jumpIf (b : Bool) :
    run (.jumpIf lab :: c) (mk (.bool b :: s) l t none) = run c (mk s l t (if b then some lab else none)) := rfl
@[simp] theorem run_jumpIfFalse (b : Bool) :
    run (.jumpIfFalse lab :: c) (mk (.bool b :: s) l t none) = run c (mk s l t (if b then none else some lab)) := rfl
@[simp] theorem run_label : run (.label lab :: c) (mk s l t none) = run c (mk s l t none) := rfl
@[simp] theorem run_store (n : Nat) :
    run (.store n :: c) (mk (x :: s) l t none) = run c (mk s ((n, x) :: l) t none) := rfl
@[simp] theorem run_enter (k : Nat) :
    run (.enter k :: c) (mk s l t none) = run c (mk s l (some k) none) := rfl

theorem run_skip_cons (i : Instr) :
    run (i :: c) (mk s l t (some lab)) = run c (mk s l t (if i = .label lab then none else some lab)) := by
  rw [run_cons]
  unfold step
  dsimp only
  split <;> rfl

@[simp] theorem run_skip_label : run (.label lab :: c) (mk s l t (some lab)) = run c (mk s l t none) := by
  rw [run_skip_cons, if_pos rfl]

@[simp] theorem run_skip_ne {i : Instr} (h : i ≠ .label lab) :
    run (i :: c) (mk s l t (some lab)) = run c (mk s l t (some lab)) := by
  rw [run_skip_cons, if_neg h]

end

/-- the stack slot(s) a typed value occupies: none for `void` -/
def slot (env : EnumEnv) (ty : Ty) (v : Val) : List SVal := if ty.isVoid then [] else [repr env ty v]

@[simp] theorem reprFields_nil (env : EnumEnv) (vs : List Val) : reprFields env [] vs = [] := by
  cases vs <;> rfl

theorem reprFields_cons (env : EnumEnv) (t : Ty) (ts : List Ty) (v : Val) (vs : List Val) :
    reprFields env (t :: ts) (v :: vs) = slot env t v ++ reprFields env ts vs := by
  unfold slot
  show (if t.isVoid then _ else _) = _
  split <;> rfl

theorem repr_prod (env : EnumEnv) (ty : Ty) (vs : List Val) :
    repr env ty (.prod vs) = .struct (reprFields env (productTys ty) vs) := by
  cases ty <;> rfl

theorem repr_lit (env : EnumEnv) (ty : Ty) :
    (∀ b, repr env ty (.bool b) = .bool b) ∧ (∀ i, repr env ty (.int i) = .int i) ∧
      (∀ f, repr env ty (.float f) = .float f) ∧ (∀ s, repr env ty (.str s) = .str s) :=
  ⟨fun _ => rfl, fun _ => rfl, fun _ => rfl, fun _ => rfl⟩

theorem repr_variant {env : EnumEnv} {e i : Nat} {pl : Val} (hv : hasTy env (.variant i pl) (.enum e) = true) :
    repr env (.enum e) (.variant i pl) =
      .variant i (if (dataTy env e i).isVoid then .nil else repr env (dataTy env e i) pl) := by
  obtain ⟨_, _, h, hs, hpl⟩ := hasTy_enum hv
  cases h
  obtain ⟨fs, hfs⟩ := Option.isSome_iff_exists.1 hs
  rw [dataTy_some hfs] at hpl ⊢
  conv => lhs; unfold repr
  simp only [hfs, Option.getD_some]
  match fs, hpl with
  | [], _ | [t], _ => rfl
  | t :: u :: ts, hpl =>
    obtain ⟨vs, rfl, _⟩ := hasTy_prod_tuple hpl
    simp [dataTyOfFields, Ty.isVoid, repr_prod, payloadOf, productTys]

theorem slot_nonvoid (env : EnumEnv) {ty : Ty} (v : Val) (h : ty.isVoid = false) : slot env ty v = [repr env ty v] := by
  simp [slot, h]

theorem run_popSlot (env : EnumEnv) (ty : Ty) (v : Val) (c : List Instr) (s : List SVal)
    (l : List (Nat × SVal)) (t : Option Nat) :
    run ((if ty.isVoid then [] else [Instr.pop]) ++ c) (mk (slot env ty v ++ s) l t none) = run c (mk s l t none) := by
  unfold slot; split <;> rfl

def labelsOf : List Instr → List Label
  | [] => []
  | .label l :: code => l :: labelsOf code
  | _ :: code => labelsOf code

@[simp] theorem labelsOf_nil : labelsOf [] = [] := rfl

theorem labelsOf_cons (i : Instr) (c : List Instr) :
    labelsOf (i :: c) = (match i with | .label l => [l] | _ => []) ++ labelsOf c := by
  cases i <;> rfl

@[simp] theorem labelsOf_append (a b : List Instr) : labelsOf (a ++ b) = labelsOf a ++ labelsOf b := by
  induction a with
  | nil => rfl
  | cons i a ih => simp [labelsOf_cons, ih]

theorem mem_labelsOf (code : List Instr) (l : Label) : Instr.label l ∈ code ↔ l ∈ labelsOf code := by
  induction code with
  | nil => simp
  | cons i code ih => cases i <;> simp [labelsOf_cons, ih]

theorem labelsOf_ite_pop (c : Prop) [Decidable c] : labelsOf (if c then [] else [Instr.pop]) = [] := by
  split <;> rfl

theorem run_skip {a : List Instr} {lab : Label} (h : lab ∉ labelsOf a) (c : List Instr) (s : List SVal)
    (l : List (Nat × SVal)) (t : Option Nat) :
    run (a ++ c) (mk s l t (some lab)) = run c (mk s l t (some lab)) := by
  induction a with
  | nil => rfl
  | cons i a ih =>
    rw [← mem_labelsOf] at h ih
    rw [List.cons_append, run_skip_ne _ _ _ _ _ (fun e => h (e ▸ List.mem_cons_self ..)),
      ih (fun hm => h (List.mem_cons_of_mem _ hm))]

theorem run_skip_all {a : List Instr} {lab : Label} (h : lab ∉ labelsOf a) (s : List SVal)
    (l : List (Nat × SVal)) (t : Option Nat) : run a (mk s l t (some lab)) = some (mk s l t (some lab)) := by
  simpa using run_skip h [] s l t

@[simp] theorem lblFail_ne_kind (π π' : Path) (k : Nat) :
    lblSuccess π ≠ lblFail π' k ∧ lblEndTuple π ≠ lblFail π' k ∧ lblFail π' k ≠ lblEndTuple π := by
  simp [lblSuccess, lblFail, lblEndTuple]; omega

@[simp] theorem lblFail_ne_num (π π' : Path) (j k : Nat) : lblFail π j ≠ lblFail π' (j + (k + 1)) := by
  simp [lblFail]

@[simp] theorem lblTagFail_ne (π π' : Path) : lblTagFail π ≠ lblEndVariant π' := by
  simp [lblTagFail, lblEndVariant]

@[simp] theorem lblArm_ne_end (k : Nat) : lblArm k ≠ lblEndMatch ∧ lblEndMatch ≠ lblArm k := by
  simp [lblArm, lblEndMatch]; omega

@[simp] theorem lblArm_ne_num (j k : Nat) : lblArm j ≠ lblArm (j + (k + 1)) := by
  simp [lblArm]

theorem failChain_cons (π : Path) (i : Nat) (t : Ty) (ts : List Ty) :
    failChain π i (t :: ts) =
      (if t.isVoid then [] else [Instr.pop]) ++ [.label (lblFail π i)] ++ failChain π (i + 1) ts := rfl

theorem failChain_labels (π : Path) (i : Nat) (tys : List Ty) :
    ∀ l ∈ labelsOf (failChain π i tys), l.path = π ∧ 4 + i ≤ l.kind := by
  induction tys generalizing i with
  | nil => simp [show failChain π i [] = [] from rfl]
  | cons t ts ih =>
    intro l hl
    simp only [failChain_cons, labelsOf_append, labelsOf_ite_pop, labelsOf_cons, labelsOf_nil, List.nil_append,
      List.cons_append, List.mem_cons] at hl
    rcases hl with hl | hl
    · subst hl; exact ⟨rfl, Nat.le_refl _⟩
    · have := ih (i + 1) l hl; exact ⟨this.1, by omega⟩

theorem failChain_noEnd (π : Path) (j : Nat) (tys : List Ty) : lblEndTuple π ∉ labelsOf (failChain π j tys) :=
  fun h => absurd (failChain_labels π j tys _ h).2 (by simp [lblEndTuple]; omega)

theorem prodCode_labels (π : Path) (tys : List Ty) (ps : List Pat) (elems : List Instr)
    (helems : ∀ l ∈ labelsOf elems, π.length < l.path.length) :
    ∀ l ∈ labelsOf (prodCode π tys ps elems), (l.path = π ∧ 2 ≤ l.kind) ∨ π.length < l.path.length := by
  intro l hl
  unfold prodCode at hl
  split at hl
  · simp [labelsOf_cons] at hl
  · simp only [labelsOf_append, labelsOf_cons, labelsOf_nil, List.nil_append, List.cons_append, List.mem_append,
      List.mem_cons, List.mem_nil_iff, or_false] at hl
    rcases hl with (((hl | hl) | hl) | hl)
    · exact Or.inr (helems l hl)
    · rcases hl with hl | hl
      · subst hl; exact Or.inl ⟨rfl, by simp [lblSuccess]⟩
      · subst hl; exact Or.inl ⟨rfl, by simp [lblFail]⟩
    · have := failChain_labels π 1 _ l hl; exact Or.inl ⟨this.1, by omega⟩
    · subst hl; exact Or.inl ⟨rfl, by simp [lblEndTuple]⟩

theorem variantWrap_labels (π : Path) (idx : Nat) (inner : List Instr)
    (hinner : ∀ l ∈ labelsOf inner, π.length ≤ l.path.length) :
    ∀ l ∈ labelsOf (variantWrap π idx inner), π.length ≤ l.path.length := by
  simpa [variantWrap, labelsOf_cons, lblTagFail, lblEndVariant, or_imp, forall_and] using hinner

theorem voidCase_labels (π : Path) (idx : Nat) :
    ∀ l ∈ labelsOf (voidCase π idx), π.length ≤ l.path.length := by
  simp [voidCase, labelsOf_cons, lblTagFail, lblEndVariant]

mutual
  theorem cmp_labels (env : EnumEnv) (π : Path) (ty : Ty) (p : Pat) (D : List Path) :
      ∀ l ∈ labelsOf (cmp env π ty p D), π.length ≤ l.path.length := by
    match p with
    | .wild | .bind _ | .void | .int _ | .float _ | .bool _ | .str _ =>
      simp [cmp, labelsOf_cons, labelsOf_ite_pop]
    | .or a b =>
      intro l hl
      simp only [cmp] at hl
      split at hl
      · have := cmp_labels env (π ++ [1]) ty b D l hl; simp at this; omega
      · have := cmp_labels env (π ++ [0]) ty a D l hl; simp at this; omega
    | .tuple ps | .struct _ ps =>
      intro l hl
      simp only [cmp] at hl
      rcases prodCode_labels π _ ps _ (cmpElems_labels env π 0 _ ps D) l hl with h' | h'
      · rw [h'.1]; exact Nat.le_refl _
      · omega
    | .variant0 _ idx => simp only [cmp]; exact voidCase_labels π idx
    | .variantPos e idx q =>
      simp only [cmp]
      split
      · exact voidCase_labels π idx
      · apply variantWrap_labels
        intro l hl
        have := cmp_labels env (π ++ [0]) _ q D l hl; simp at this; omega
    | .variantNamed e idx ps =>
      simp only [cmp]
      split
      · split
        · exact voidCase_labels π idx
        · apply variantWrap_labels
          intro l hl
          have := cmpFirst_labels env π _ ps D l hl; omega
      · apply variantWrap_labels
        intro l hl
        rcases prodCode_labels π _ ps _ (cmpElems_labels env π 0 _ ps D) l hl with h' | h'
        · rw [h'.1]; exact Nat.le_refl _
        · omega
  theorem cmpFirst_labels (env : EnumEnv) (π : Path) (ty : Ty) (ps : List Pat) (D : List Path) :
      ∀ l ∈ labelsOf (cmpFirst env π ty ps D), π.length < l.path.length := by
    match ps with
    | [] => simp [cmpFirst]
    | p :: _ =>
      intro l hl
      simp only [cmpFirst] at hl
      have := cmp_labels env (π ++ [0]) ty p D l hl; simp at this; omega
  theorem cmpElems_labels (env : EnumEnv) (π : Path) (i : Nat) (tys : List Ty) (ps : List Pat) (D : List Path) :
      ∀ l ∈ labelsOf (cmpElems env π i tys ps D), π.length < l.path.length := by
    match ps with
    | [] => simp [cmpElems]
    | p :: ps =>
      intro l hl
      simp only [cmpElems, labelsOf_append, List.mem_append] at hl
      rcases hl with ((hl | hl) | hl) | hl
      · have := cmp_labels env (π ++ [i]) _ p D l hl; simp at this; omega
      · simp [labelsOf_cons] at hl
      · split at hl <;> simp [labelsOf_cons] at hl
      · exact cmpElems_labels env π (i + 1) _ ps _ l hl
end

theorem tagfail_not_in_cmp (env : EnumEnv) (π : Path) (ty : Ty) (q : Pat) (D : List Path) :
    lblTagFail π ∉ labelsOf (cmp env (π ++ [0]) ty q D) := fun hm => by
  have := cmp_labels env (π ++ [0]) ty q D _ hm
  simp [lblTagFail] at this; omega

theorem tagfail_not_in_prod (env : EnumEnv) (π : Path) (tys : List Ty) (ps : List Pat) (D : List Path) :
    lblTagFail π ∉ labelsOf (prodCode π tys ps (cmpElems env π 0 tys ps D)) := fun hm => by
  rcases prodCode_labels π tys ps _ (cmpElems_labels env π 0 tys ps D) _ hm with h | h <;> simp [lblTagFail] at h

mutual
  theorem bind_nolabels (env : EnumEnv) (p : Pat) (π : Path) (ty : Ty) (D : List Path) :
      labelsOf (bind env π ty p D) = [] := by
    match p with
    | .wild | .bind _ => simp only [bind]; split <;> simp [labelsOf_cons]
    | .void | .bool _ | .int _ | .float _ | .str _ | .variant0 _ _ => simp [bind, labelsOf_cons]
    | .or a b =>
      simp only [bind]
      split
      · exact bind_nolabels env b _ ty D
      · exact bind_nolabels env a _ ty D
    | .tuple ps | .struct _ ps => simp [bind, labelsOf_cons, bindList_nolabels env ps π 0 _ D]
    | .variantPos e idx q =>
      simp only [bind]
      split
      · simp [labelsOf_cons]
      · simp [labelsOf_cons, bind_nolabels env q _ _ D]
    | .variantNamed e idx ps =>
      simp only [bind]
      split
      · split
        · simp [labelsOf_cons]
        · simp [labelsOf_cons, bindList_nolabels env ps π 0 _ D]
      · simp [labelsOf_cons, bindList_nolabels env ps π 0 _ D]
  theorem bindList_nolabels (env : EnumEnv) (ps : List Pat) (π : Path) (i : Nat) (tys : List Ty) (D : List Path) :
      labelsOf (bindList env π i tys ps D) = [] := by
    match ps with
    | [] => simp [bindList]
    | p :: ps => simp [bindList, bind_nolabels env p _ _ D, bindList_nolabels env ps π (i + 1) _ _]
end

mutual
  /-- the pattern whose comparison `cmp` emits (and whose variables `bind` binds) under the decision
      set `D`: an or-pattern is replaced by the alternative the decisions select (sub-patterns the code
      never looks at stay as they are) -/
  def resolveP (env : EnumEnv) : Path → Ty → Pat → List Path → Pat
    | π, ty, .or l r, D =>
      if D.contains π then resolveP env (π ++ [1]) ty r D else resolveP env (π ++ [0]) ty l D
    | π, ty, .tuple ps, D => .tuple (resolveElems env π 0 (productTys ty) ps D)
    | π, ty, .struct id ps, D => .struct id (resolveElems env π 0 (productTys ty) ps D)
    | π, _, .variantPos e idx p, D =>
      if (dataTy env e idx).isVoid then .variantPos e idx p
      else .variantPos e idx (resolveP env (π ++ [0]) (dataTy env e idx) p D)
    | π, _, .variantNamed e idx ps, D =>
      if ps.length == 1 then
        if (((variantFields env e idx).getD []).headD .void).isVoid then .variantNamed e idx ps
        else .variantNamed e idx (resolveElems env π 0 ((variantFields env e idx).getD []) ps D)
      else .variantNamed e idx (resolveElems env π 0 ((variantFields env e idx).getD []) ps D)
    | _, _, .wild, _ => .wild
    | _, _, .bind x, _ => .bind x
    | _, _, .bool b, _ => .bool b
    | _, _, .int i, _ => .int i
    | _, _, .float f, _ => .float f
    | _, _, .str s, _ => .str s
    | _, _, .void, _ => .void
    | _, _, .variant0 e i, _ => .variant0 e i
  def resolveElems (env : EnumEnv) : Path → Nat → List Ty → List Pat → List Path → List Pat
    | _, _, _, [], _ => []
    | π, i, tys, p :: ps, D =>
      resolveP env (π ++ [i]) (tys.headD .void) p D :: resolveElems env π (i + 1) (tys.drop 1) ps D
end

section
variable (env : EnumEnv) (π : Path) (ty : Ty) (e idx : Nat) (q : Pat) (ps : List Pat) (D : List Path)

theorem cmp_variantPos : cmp env π ty (.variantPos e idx q) D =
    if (dataTy env e idx).isVoid then voidCase π idx
    else variantWrap π idx (cmp env (π ++ [0]) (dataTy env e idx) q D) := rfl

theorem cmp_variantNamed : cmp env π ty (.variantNamed e idx ps) D =
    if ps.length == 1 then
      if (((variantFields env e idx).getD []).headD .void).isVoid then voidCase π idx
      else variantWrap π idx (cmpFirst env π (((variantFields env e idx).getD []).headD .void) ps D)
    else variantWrap π idx (prodCode π ((variantFields env e idx).getD []) ps
      (cmpElems env π 0 ((variantFields env e idx).getD []) ps D)) := rfl

theorem resolveP_variantPos : resolveP env π ty (.variantPos e idx q) D =
    if (dataTy env e idx).isVoid then .variantPos e idx q
    else .variantPos e idx (resolveP env (π ++ [0]) (dataTy env e idx) q D) := rfl

theorem resolveP_variantNamed : resolveP env π ty (.variantNamed e idx ps) D =
    if ps.length == 1 then
      if (((variantFields env e idx).getD []).headD .void).isVoid then .variantNamed e idx ps
      else .variantNamed e idx (resolveElems env π 0 ((variantFields env e idx).getD []) ps D)
    else .variantNamed e idx (resolveElems env π 0 ((variantFields env e idx).getD []) ps D) := rfl

theorem bind_variantPos : bind env π ty (.variantPos e idx q) D =
    if (dataTy env e idx).isVoid then [.pop]
    else [.deconVariant, .pop] ++ bind env (π ++ [0]) (dataTy env e idx) q D := rfl

theorem bind_variantNamed : bind env π ty (.variantNamed e idx ps) D =
    if ps.length == 1 then
      if (((variantFields env e idx).getD []).headD .void).isVoid then [.pop]
      else [.deconVariant, .pop] ++ bindList env π 0 ((variantFields env e idx).getD []) ps D
    else [.deconVariant, .pop, .deconStruct] ++ bindList env π 0 ((variantFields env e idx).getD []) ps D := rfl
end

theorem resolveElems_length (env : EnumEnv) (π : Path) (i : Nat) (tys : List Ty) (ps : List Pat) (D : List Path) :
    (resolveElems env π i tys ps D).length = ps.length := by
  induction ps generalizing i tys D with
  | nil => simp [resolveElems]
  | cons p ps ih => simp [resolveElems, ih]

theorem patsTyped_length {env : EnumEnv} {ps : List Pat} {ts : List Ty} (h : patsTyped env ps ts = true) :
    ps.length = ts.length :=
  Pointwise.length (r := patTyped env) ⟨rfl, fun _ _ _ _ => rfl, fun _ _ => rfl, fun _ _ => rfl⟩ h

theorem patsTyped_one {env : EnumEnv} {q : Pat} {fs : List Ty} (h : patsTyped env [q] fs = true) :
    ∃ t, fs = [t] := by
  match fs, h with
  | [t], _ => exact ⟨t, rfl⟩
  | [], h | _ :: _ :: _, h => simp [patsTyped] at h

theorem patsTyped_two {env : EnumEnv} {q q' : Pat} {qs : List Pat} {fs : List Ty}
    (h : patsTyped env (q :: q' :: qs) fs = true) : ∃ t t' ts, fs = t :: t' :: ts := by
  match fs, h with
  | t :: t' :: ts, _ => exact ⟨t, t', ts, rfl⟩
  | [], h | [_], h => simp [patsTyped] at h

/-- index of the first component pattern that does not match -/
def elemsFail : List Pat → List Val → Option Nat
  | [], _ => none
  | p :: ps, v :: vs => if pmatch p v then (elemsFail ps vs).map (· + 1) else some 0
  | _ :: _, [] => some 0

theorem elemsFail_isNone (ps : List Pat) (vs : List Val) (h : ps.length = vs.length) :
    (elemsFail ps vs).isNone = pmatchAll ps vs := by
  induction ps generalizing vs with
  | nil => cases vs <;> simp_all [elemsFail, pmatchAll]
  | cons p ps ih =>
    cases vs with
    | nil => simp at h
    | cons v vs =>
      simp only [elemsFail, pmatchAll]
      cases hp : pmatch p v <;> simp [ih vs (by simpa using h)]

theorem elemsFail_lt {ps : List Pat} {vs : List Val} {k : Nat} (h : elemsFail ps vs = some k) : k < ps.length := by
  induction ps generalizing vs k with
  | nil => simp [elemsFail] at h
  | cons p ps ih =>
    cases vs with
    | nil =>
      simp [elemsFail] at h
      subst h
      simp
    | cons v vs =>
      simp only [elemsFail] at h
      split at h
      · simp only [Option.map_eq_some_iff] at h
        obtain ⟨k', hk', rfl⟩ := h
        have := ih hk'; simp; omega
      · simp at h
        subst h
        simp

theorem failChain_run (env : EnumEnv) (π : Path) (j : Nat) (tys : List Ty) (vs : List Val)
    (hlen : tys.length = vs.length) (c : List Instr) (stk : List SVal) (locs : List (Nat × SVal)) (tk : Option Nat) :
    run (failChain π j tys ++ c) (mk (reprFields env tys vs ++ stk) locs tk none) = run c (mk stk locs tk none) := by
  induction tys generalizing j vs with
  | nil => cases vs <;> rfl
  | cons t ts ih =>
    cases vs with
    | nil => simp at hlen
    | cons v vs =>
      rw [failChain_cons, reprFields_cons, List.append_assoc, List.append_assoc, List.append_assoc, run_popSlot,
        List.singleton_append, run_label, ih _ _ (Nat.succ.inj hlen)]

/-- skipping to the failure label of component `k` (counted from the label the chain starts with): the
    components after it are popped -/
theorem failChain_skip (env : EnumEnv) (π : Path) (c : List Instr) (stk : List SVal) (locs : List (Nat × SVal))
    (tk : Option Nat) (k j : Nat) (tys : List Ty) (vs : List Val) (hlen : tys.length = vs.length)
    (hk : k ≤ tys.length) :
    run (.label (lblFail π j) :: (failChain π (j + 1) tys ++ c))
      (mk (reprFields env (tys.drop k) (vs.drop k) ++ stk) locs tk (some (lblFail π (j + k)))) =
      run c (mk stk locs tk none) := by
  induction k generalizing j tys vs with
  | zero => simpa using failChain_run env π (j + 1) tys vs hlen c stk locs tk
  | succ k ih =>
    match tys, vs, hlen, hk with
    | t :: ts, v :: vs, hlen, hk =>
      have := ih (j + 1) ts vs (Nat.succ.inj hlen) (Nat.le_of_succ_le_succ hk)
      rw [run_skip_ne _ _ _ _ _ (by simp), failChain_cons, List.append_assoc, List.append_assoc,
        run_skip (by split <;> simp [labelsOf_cons])]
      rwa [Nat.add_right_comm j 1 k] at this

theorem prodCode_ok (env : EnumEnv) (π : Path) (ts : List Ty) (ps : List Pat) (D : List Path) (vs : List Val)
    (stk : List SVal) (locs : List (Nat × SVal)) (tk : Option Nat)
    (ht : patsTyped env ps ts = true) (hvs : hasTys env vs ts = true)
    (helems : ps ≠ [] → run (cmpElems env π 0 ts ps D) (mk (reprFields env ts vs ++ stk) locs tk none) =
      some (match elemsFail (resolveElems env π 0 ts ps D) vs with
        | none => mk stk locs tk (some (lblSuccess π))
        | some k => mk (reprFields env (ts.drop (k + 1)) (vs.drop (k + 1)) ++ stk) locs tk
            (some (lblFail π (0 + k))))) :
    run (prodCode π ts ps (cmpElems env π 0 ts ps D)) (mk (.struct (reprFields env ts vs) :: stk) locs tk none) =
      some (mk (.bool (pmatchAll (resolveElems env π 0 ts ps D) vs) :: stk) locs tk none) := by
  have hlen := hasTys_length hvs
  have hps := patsTyped_length ht
  have hrl := resolveElems_length env π 0 ts ps D
  generalize resolveElems env π 0 ts ps D = rps at *
  generalize cmpElems env π 0 ts ps D = elems at *
  unfold prodCode
  match ps, rps, ts, vs, hlen, hps, hrl with
  | [], [], [], [], _, _, _ => simp [pmatchAll]
  | p :: ps, rps, t :: ts, v :: vs, hlen, hps, hrl =>
    rw [← elemsFail_isNone rps _ (by omega)]
    simp only [List.isEmpty_cons, Bool.false_eq_true, if_false, List.append_assoc, List.cons_append, List.nil_append,
      run_deconStruct]
    rw [run_append_of (helems (List.cons_ne_nil p ps))]
    cases hf : elemsFail rps (v :: vs) with
    | none => simp [run_skip (failChain_noEnd π 1 ts)]
    | some k =>
      have := failChain_skip env π [.pushBool false, .label (lblEndTuple π)] stk locs tk k 0 ts vs
        (Nat.succ.inj hlen.symm) (by have := elemsFail_lt hf; simp at hps hrl; omega)
      simp at this; simp [this]

theorem variantWrap_ok (π : Path) (idx tag : Nat) (plv : SVal) (inner : List Instr) (b : Bool)
    (stk : List SVal) (locs : List (Nat × SVal)) (tk : Option Nat)
    (hlab : lblTagFail π ∉ labelsOf inner)
    (hinner : tag = idx → run inner (mk (plv :: stk) locs tk none) = some (mk (.bool b :: stk) locs tk none)) :
    run (variantWrap π idx inner) (mk (.variant tag plv :: stk) locs tk none) =
      some (mk (.bool (idx == tag && b) :: stk) locs tk none) := by
  unfold variantWrap
  by_cases ht : tag = idx
  · simp [ht, run_append_of (hinner ht)]
  · simp [Int.natCast_inj, ht, Ne.symm ht, run_skip hlab]

theorem voidCase_ok (π : Path) (idx tag : Nat) (plv : SVal)
    (stk : List SVal) (locs : List (Nat × SVal)) (tk : Option Nat) :
    run (voidCase π idx) (mk (.variant tag plv :: stk) locs tk none) =
      some (mk (.bool (idx == tag) :: stk) locs tk none) := by
  have := variantWrap_ok π idx tag plv [.pop, .pushBool true] true stk locs tk (by simp [labelsOf_cons]) (fun _ => rfl)
  rwa [Bool.and_true] at this

theorem pmatch_of_isVoid {env : EnumEnv} {T : Ty} {q : Pat} {pl : Val} (hT : T.isVoid = true)
    (hq : patTyped env q T = true) (hpl : hasTy env pl T = true) : pmatch q pl = true := by
  rw [isVoid_eq hT] at hq hpl
  rw [hasTy_void hpl]; exact pmatch_void q hq

theorem isVoid_false_of_ne {T : Ty} (h : T ≠ .void) : T.isVoid = false := by
  cases T <;> simp_all [Ty.isVoid]

theorem pmatchNamed_tuple {rps : List Pat} (h : 2 ≤ rps.length) (pl : Val) :
    pmatchNamed rps pl = pmatch (.tuple rps) pl := by
  match rps, h with
  | _ :: _ :: _, _ => cases pl <;> simp [pmatchNamed, pmatch]

/-- a single named field is the positional payload: same code, same alternative, same meaning -/
theorem cmp_named_one {env : EnumEnv} {e idx : Nat} {t : Ty} (hfs : variantFields env e idx = some [t])
    (π : Path) (ty : Ty) (q : Pat) (D : List Path) :
    cmp env π ty (.variantNamed e idx [q]) D = cmp env π ty (.variantPos e idx q) D := by
  simp [cmp_variantNamed, cmp_variantPos, cmpFirst, hfs, dataTy_some hfs, dataTyOfFields]

theorem resolveP_named_one {env : EnumEnv} {e idx : Nat} {t : Ty} (hfs : variantFields env e idx = some [t])
    (π : Path) (ty : Ty) (q : Pat) (D : List Path) :
    ∃ q', resolveP env π ty (.variantNamed e idx [q]) D = .variantNamed e idx [q'] ∧
      resolveP env π ty (.variantPos e idx q) D = .variantPos e idx q' := by
  simp only [resolveP_variantNamed, resolveP_variantPos, resolveElems, hfs, dataTy_some hfs, dataTyOfFields,
    List.length_singleton, beq_self_eq_true,
    if_true, Option.getD_some, List.headD_cons]
  split <;> exact ⟨_, rfl, rfl⟩

theorem pmatch_named_one (e idx : Nat) (q : Pat) (v : Val) :
    pmatch (.variantNamed e idx [q]) v = pmatch (.variantPos e idx q) v := by
  cases v <;> simp [pmatch, pmatchNamed]

theorem variantWrap_repr (env : EnumEnv) (e idx i : Nat) (pl : Val) (π : Path) (inner : List Instr) (b : Bool)
    (stk : List SVal) (locs : List (Nat × SVal)) (tk : Option Nat)
    (hv : hasTy env (.variant i pl) (.enum e) = true) (hnv : (dataTy env e idx).isVoid = false)
    (hlab : lblTagFail π ∉ labelsOf inner)
    (hinner : i = idx → run inner (mk (repr env (dataTy env e idx) pl :: stk) locs tk none) =
      some (mk (.bool b :: stk) locs tk none)) :
    run (variantWrap π idx inner) (mk (repr env (.enum e) (.variant i pl) :: stk) locs tk none) =
      some (mk (.bool (idx == i && b) :: stk) locs tk none) := by
  rw [repr_variant hv]
  refine variantWrap_ok π idx i _ inner b stk locs tk hlab fun hi => ?_
  subst hi
  rw [hnv]
  exact hinner rfl

mutual
  /-- **what a pattern binds** (specification side, no decisions): every variable gets the
      representation of the component it stands for, left to right; an or-pattern binds through its
      first alternative that matches; nothing is stored for a `void` component -/
  def bindingsOf (env : EnumEnv) : Ty → Pat → Val → List (Nat × SVal)
    | ty, .bind x, v => if ty.isVoid then [] else [(x, repr env ty v)]
    | ty, .tuple ps, .prod vs => bindingsList env (productTys ty) ps vs
    | ty, .struct _ ps, .prod vs => bindingsList env (productTys ty) ps vs
    | _, .variantPos e idx q, .variant _ pl => bindingsOf env (dataTy env e idx) q pl
    | _, .variantNamed e idx ps, .variant _ pl => bindingsNamed env ((variantFields env e idx).getD []) ps pl
    | ty, .or l r, v => if pmatch l v then bindingsOf env ty l v else bindingsOf env ty r v
    | _, _, _ => []
  def bindingsList (env : EnumEnv) : List Ty → List Pat → List Val → List (Nat × SVal)
    | t :: ts, p :: ps, v :: vs => bindingsOf env t p v ++ bindingsList env ts ps vs
    | _, _, _ => []
  def bindingsNamed (env : EnumEnv) : List Ty → List Pat → Val → List (Nat × SVal)
    | [t], [p], v => bindingsOf env t p v
    | t :: u :: ts, ps, .prod vs => bindingsList env (t :: u :: ts) ps vs
    | _, _, _ => []
end

theorem bindingsOf_void {env : EnumEnv} : ∀ (p : Pat) (v : Val), patTyped env p .void = true →
    bindingsOf env .void p v = []
  | .wild, _, _ | .bind _, _, _ | .void, _, _ => by simp [bindingsOf, Ty.isVoid]
  | .or l r, v, h => by
    simp only [patTyped, Bool.and_eq_true] at h
    simp only [bindingsOf]
    split
    · exact bindingsOf_void l v h.1
    · exact bindingsOf_void r v h.2
  | .bool _, _, h | .int _, _, h | .float _, _, h | .str _, _, h | .tuple _, _, h | .struct _ _, _, h
  | .variant0 _ _, _, h | .variantPos _ _ _, _, h | .variantNamed _ _ _, _, h => by simp [patTyped] at h

theorem bindingsOf_of_isVoid {env : EnumEnv} {T : Ty} {q : Pat} (pl : Val) (hT : T.isVoid = true)
    (hq : patTyped env q T = true) : bindingsOf env T q pl = [] := by
  rw [isVoid_eq hT] at hq ⊢; exact bindingsOf_void q pl hq

theorem bind_named_one {env : EnumEnv} {e idx : Nat} {t : Ty} (hfs : variantFields env e idx = some [t])
    (π : Path) (ty : Ty) (q : Pat) (D : List Path) :
    bind env π ty (.variantNamed e idx [q]) D = bind env π ty (.variantPos e idx q) D := by
  simp [bind_variantNamed, bind_variantPos, bindList, hfs, dataTy_some hfs, dataTyOfFields]

theorem bindingsOf_named_one {env : EnumEnv} {e idx : Nat} {t : Ty} (hfs : variantFields env e idx = some [t])
    (ty : Ty) (q : Pat) (v : Val) :
    bindingsOf env ty (.variantNamed e idx [q]) v = bindingsOf env ty (.variantPos e idx q) v := by
  cases v <;> simp [bindingsOf, bindingsNamed, hfs, dataTy_some hfs, dataTyOfFields]

/-- the step for a positional payload pattern, `ih` being the statement for the payload: it serves
    `.variantPos` and a single named field alike -/
theorem variantPos_ok (env : EnumEnv) (e idx : Nat) (q : Pat) (π : Path) (D : List Path) (v : Val)
    (stk : List SVal) (locs : List (Nat × SVal)) (tk : Option Nat)
    (hq : patTyped env q (dataTy env e idx) = true) (hv : hasTy env v (.enum e) = true)
    (ih : ∀ pl, hasTy env pl (dataTy env e idx) = true →
      run (cmp env (π ++ [0]) (dataTy env e idx) q D) (mk (slot env (dataTy env e idx) pl ++ stk) locs tk none) =
        some (mk (.bool (pmatch (resolveP env (π ++ [0]) (dataTy env e idx) q D) pl) :: stk) locs tk none) ∧
      (pmatch (resolveP env (π ++ [0]) (dataTy env e idx) q D) pl = true →
        run (bind env (π ++ [0]) (dataTy env e idx) q D)
            (mk (slot env (dataTy env e idx) pl ++ stk) locs tk none) =
          some (mk stk ((bindingsOf env (dataTy env e idx)
            (resolveP env (π ++ [0]) (dataTy env e idx) q D) pl).reverse ++ locs) tk none))) :
    run (cmp env π (.enum e) (.variantPos e idx q) D) (mk (slot env (.enum e) v ++ stk) locs tk none) =
      some (mk (.bool (pmatch (resolveP env π (.enum e) (.variantPos e idx q) D) v) :: stk) locs tk none) ∧
    (pmatch (resolveP env π (.enum e) (.variantPos e idx q) D) v = true →
      run (bind env π (.enum e) (.variantPos e idx q) D) (mk (slot env (.enum e) v ++ stk) locs tk none) =
        some (mk stk ((bindingsOf env (.enum e) (resolveP env π (.enum e) (.variantPos e idx q) D) v).reverse
          ++ locs) tk none)) := by
  obtain ⟨i, pl, rfl, -, hpl⟩ := hasTy_enum hv
  rw [slot_nonvoid env _ (show (Ty.enum e).isVoid = false from rfl), List.singleton_append, repr_variant hv,
    cmp_variantPos, bind_variantPos, resolveP_variantPos]
  split
  · rename_i hvoid
    refine ⟨?_, fun _ => by simp [bindingsOf, bindingsOf_of_isVoid pl hvoid hq]⟩
    rw [voidCase_ok, pmatch]
    by_cases hi : idx = i
    · subst hi; simp [pmatch_of_isVoid hvoid hq hpl]
    · simp [hi]
  · rename_i hvoid
    have hnv : (dataTy env e idx).isVoid = false := by simpa using hvoid
    refine ⟨?_, fun hm => ?_⟩
    · rw [pmatch]
      refine variantWrap_ok π idx i _ _ _ stk locs tk (tagfail_not_in_cmp env π _ q D) fun hi => ?_
      subst hi
      simpa [slot_nonvoid env pl hnv, hnv] using (ih pl hpl).1
    · simp only [pmatch, Bool.and_eq_true, beq_iff_eq] at hm
      obtain ⟨rfl, hm⟩ := hm
      simpa [slot_nonvoid env pl hnv, hnv, bindingsOf] using (ih pl hpl).2 hm

mutual
  /-- **`translate_pat_comparison` and `handle_pat_binding` are correct**: with a value of the pattern's type
      on top (nothing for `void`), the comparison code leaves `matches (the alternative the decisions select) v`
      there instead and touches nothing else — also when the comparison fails in the middle of a product;
      on a value that the selected alternative matches, the binding code consumes exactly the value's slot
      and stores, for every variable, the representation of the component it stands for -/
  theorem pat_ok (env : EnumEnv) (p : Pat) (π : Path) (ty : Ty) (D : List Path) (v : Val)
      (stk : List SVal) (locs : List (Nat × SVal)) (tk : Option Nat)
      (ht : patTyped env p ty = true) (hv : hasTy env v ty = true) :
      run (cmp env π ty p D) (mk (slot env ty v ++ stk) locs tk none) =
        some (mk (.bool (pmatch (resolveP env π ty p D) v) :: stk) locs tk none) ∧
      (pmatch (resolveP env π ty p D) v = true →
        run (bind env π ty p D) (mk (slot env ty v ++ stk) locs tk none) =
          some (mk stk ((bindingsOf env ty (resolveP env π ty p D) v).reverse ++ locs) tk none)) := by
    match p with
    | .wild =>
      simp only [cmp, bind, resolveP, pmatch, bindingsOf]
      exact ⟨run_popSlot env ty v _ stk locs tk, fun _ => by simpa using run_popSlot env ty v [] stk locs tk⟩
    | .bind x =>
      simp only [cmp, bind, resolveP, pmatch, bindingsOf]
      refine ⟨run_popSlot env ty v _ stk locs tk, fun _ => ?_⟩
      unfold slot; split <;> rfl
    | .void =>
      cases ty <;> simp [patTyped] at ht
      cases hasTy_void hv
      simp [cmp, bind, resolveP, pmatch, bindingsOf, slot, Ty.isVoid]
    | .bool _ | .int _ | .float _ | .str _ =>
      cases ty <;> simp [patTyped] at ht
      cases v <;> simp [hasTy] at hv
      simp [cmp, bind, resolveP, pmatch, bindingsOf, slot, Ty.isVoid, repr_lit, BEq.comm]
    | .or a b =>
      simp only [patTyped, Bool.and_eq_true] at ht
      simp only [cmp, bind, resolveP]
      split
      · exact pat_ok env b (π ++ [1]) ty D v stk locs tk ht.2 hv
      · exact pat_ok env a (π ++ [0]) ty D v stk locs tk ht.1 hv
    | .tuple ps =>
      cases ty <;> simp [patTyped] at ht
      obtain ⟨vs, rfl, hvs⟩ := hasTy_prod_tuple hv
      have ih := pats_ok env ps π 0 _ D vs stk locs tk ht hvs
      rw [slot_nonvoid env _ (by rfl), repr_prod]
      simp only [cmp, bind, resolveP, pmatch, bindingsOf, productTys, List.singleton_append, run_deconStruct]
      exact ⟨prodCode_ok env π _ ps D vs stk locs tk ht hvs ih.1, ih.2⟩
    | .struct _ ps =>
      cases ty <;> simp [patTyped] at ht
      obtain ⟨vs, rfl, hvs⟩ := hasTy_prod_struct hv
      have ih := pats_ok env ps π 0 _ D vs stk locs tk ht.2 hvs
      rw [slot_nonvoid env _ (by rfl), repr_prod]
      simp only [cmp, bind, resolveP, pmatch, bindingsOf, productTys, List.singleton_append, run_deconStruct]
      exact ⟨prodCode_ok env π _ ps D vs stk locs tk ht.2 hvs ih.1, ih.2⟩
    | .variant0 e idx =>
      cases ty <;> simp [patTyped] at ht
      obtain ⟨i, pl, rfl, -, -⟩ := hasTy_enum hv
      rw [slot_nonvoid env _ (by rfl), repr_variant hv]
      simp only [cmp, bind, resolveP, pmatch, bindingsOf]
      exact ⟨voidCase_ok π idx i _ stk locs tk, fun _ => rfl⟩
    | .variantPos e idx q =>
      cases ty <;> simp [patTyped] at ht
      obtain ⟨⟨rfl, -⟩, hq⟩ := ht
      exact variantPos_ok env e idx q π D v stk locs tk hq hv
        (fun pl hpl => pat_ok env q (π ++ [0]) _ D pl stk locs tk hq hpl)
    | .variantNamed e idx ps =>
      cases ty <;> simp [patTyped] at ht
      obtain ⟨⟨⟨rfl, hs⟩, hps⟩, hne⟩ := ht
      obtain ⟨fs, hfs⟩ := Option.isSome_iff_exists.1 hs
      rw [hfs, Option.getD_some] at hps
      match ps, hps, hne with
      | [q], hps, _ =>
        obtain ⟨t, rfl⟩ := patsTyped_one hps
        have hq : patTyped env q (dataTy env e idx) = true := by
          simpa [patsTyped, dataTy_some hfs, dataTyOfFields] using hps
        obtain ⟨q', h1, h2⟩ := resolveP_named_one hfs π (.enum e) q D
        rw [cmp_named_one hfs, bind_named_one hfs, h1, pmatch_named_one, bindingsOf_named_one hfs, ← h2]
        exact variantPos_ok env e idx q π D v stk locs tk hq hv
          (fun pl hpl => pat_ok env q (π ++ [0]) _ D pl stk locs tk hq hpl)
      | q :: q' :: qs, hps, _ =>
        -- several named fields: the payload is the tuple of them, compiled at the path of the variant itself
        obtain ⟨t, t', ts, rfl⟩ := patsTyped_two hps
        have hd : dataTy env e idx = .tuple (t :: t' :: ts) := dataTy_some hfs
        obtain ⟨i, pl, rfl, -, hpl⟩ := hasTy_enum hv
        rw [slot_nonvoid env _ (by rfl), List.singleton_append]
        have hlen : ((q :: q' :: qs).length == 1) = false := rfl
        simp only [cmp, bind, resolveP, pmatch, bindingsOf, hfs, Option.getD_some, hlen, Bool.false_eq_true, if_false,
          Bool.and_eq_true, beq_iff_eq]
        refine ⟨?_, fun hm => ?_⟩
        · refine variantWrap_repr env e idx i pl π _ _ stk locs tk hv (by rw [hd]; rfl)
            (tagfail_not_in_prod env π _ _ D) fun hi => ?_
          subst hi
          rw [hd] at hpl ⊢
          obtain ⟨vs, rfl, hvs⟩ := hasTy_prod_tuple hpl
          rw [repr_prod, pmatchNamed_tuple (by simp [resolveElems_length]), pmatch]
          exact prodCode_ok env π _ _ D vs stk locs tk hps hvs (pats_ok env _ π 0 _ D vs stk locs tk hps hvs).1
        · obtain ⟨rfl, hm⟩ := hm
          rw [hd] at hpl
          obtain ⟨vs, rfl, hvs⟩ := hasTy_prod_tuple hpl
          rw [pmatchNamed_tuple (by simp [resolveElems_length]), pmatch] at hm
          rw [repr_variant hv, hd]
          simpa [Ty.isVoid, repr_prod, productTys, bindingsNamed] using
            (pats_ok env _ π 0 _ D vs stk locs tk hps hvs).2 hm
      | [], _, hne => exact absurd rfl hne
  /-- the element loop of `translate_product_pat_comparison` ends skipping to `success` when every
      element matches, otherwise skipping to the failure label of the first element that does not,
      with exactly the later elements still on the stack; the binding code of the elements binds them
      left to right -/
  theorem pats_ok (env : EnumEnv) (ps : List Pat) (π : Path) (i : Nat) (tys : List Ty) (D : List Path)
      (vs : List Val) (stk : List SVal) (locs : List (Nat × SVal)) (tk : Option Nat)
      (ht : patsTyped env ps tys = true) (hvs : hasTys env vs tys = true) :
      (ps ≠ [] → run (cmpElems env π i tys ps D) (mk (reprFields env tys vs ++ stk) locs tk none) =
        some (match elemsFail (resolveElems env π i tys ps D) vs with
          | none => mk stk locs tk (some (lblSuccess π))
          | some k => mk (reprFields env (tys.drop (k + 1)) (vs.drop (k + 1)) ++ stk) locs tk
              (some (lblFail π (i + k))))) ∧
      (pmatchAll (resolveElems env π i tys ps D) vs = true →
        run (bindList env π i tys ps D) (mk (reprFields env tys vs ++ stk) locs tk none) =
          some (mk stk ((bindingsList env tys (resolveElems env π i tys ps D) vs).reverse ++ locs) tk none)) := by
    match ps, tys, vs, ht, hvs with
    | [], [], [], _, _ => exact ⟨fun h => absurd rfl h, fun _ => by simp [bindList, resolveElems, bindingsList]⟩
    | p :: ps', t :: ts, v :: vs', ht, hvs =>
      simp only [patsTyped, Bool.and_eq_true] at ht
      simp only [hasTys, Bool.and_eq_true] at hvs
      simp only [cmpElems, bindList, resolveElems, List.headD_cons, List.drop_succ_cons, List.drop_zero, elemsFail,
        pmatchAll, bindingsList, reprFields_cons, List.append_assoc, List.reverse_append, Bool.and_eq_true]
      refine ⟨fun _ => ?_, fun hm => ?_⟩
      · rw [run_append_of (pat_ok env p (π ++ [i]) t D v _ locs tk ht.1 hvs.1).1]
        cases hb : pmatch (resolveP env (π ++ [i]) t p D) v
        · -- this element fails: the rest of the loop is skipped
          have hl : lblFail π i ∉ labelsOf (cmpElems env π (i + 1) ts ps' D) := fun hm => by
            have := cmpElems_labels env π (i + 1) ts ps' D _ hm; simp [lblFail] at this
          cases ps' <;> simp [run_skip_all hl]
        · match ps', ts, vs', ht.2, hvs.2 with
          | [], [], [], _, _ => simp [cmpElems, resolveElems, elemsFail]
          | q :: qs, ts, vs', ht', hvs' =>
            simp [(pats_ok env (q :: qs) π (i + 1) ts D vs' stk locs tk ht' hvs').1 (List.cons_ne_nil q qs)]
            cases elemsFail (resolveElems env π (i + 1) ts (q :: qs) D) vs' with
            | none => rfl
            | some k => simp only [Option.map_some, Nat.add_assoc, Nat.add_comm 1 k]
      · rw [run_append_of ((pat_ok env p (π ++ [i]) t D v _ locs tk ht.1 hvs.1).2 hm.1),
          (pats_ok env ps' π (i + 1) ts _ vs' stk _ tk ht.2 hvs.2).2 hm.2]
    | [], _ :: _, _, ht, _ | _ :: _, [], _, ht, _ => simp [patsTyped] at ht
    | [], [], _ :: _, _, hvs | _ :: _, _ :: _, [], _, hvs => simp [hasTys] at hvs
end

theorem cmpElems_ok (env : EnumEnv) (ps : List Pat) (π : Path) (i : Nat) (tys : List Ty) (D : List Path)
    (vs : List Val) (stk : List SVal) (locs : List (Nat × SVal)) (tk : Option Nat)
    (ht : patsTyped env ps tys = true) (hvs : hasTys env vs tys = true) (hne : ps ≠ []) :
    run (cmpElems env π i tys ps D) (mk (reprFields env tys vs ++ stk) locs tk none) =
      some (match elemsFail (resolveElems env π i tys ps D) vs with
        | none => mk stk locs tk (some (lblSuccess π))
        | some k => mk (reprFields env (tys.drop (k + 1)) (vs.drop (k + 1)) ++ stk) locs tk
            (some (lblFail π (i + k)))) :=
  (pats_ok env ps π i tys D vs stk locs tk ht hvs).1 hne

theorem bindList_ok (env : EnumEnv) (ps : List Pat) (π : Path) (i : Nat) (tys : List Ty) (D : List Path)
    (vs : List Val) (stk : List SVal) (locs : List (Nat × SVal)) (tk : Option Nat)
    (ht : patsTyped env ps tys = true) (hvs : hasTys env vs tys = true)
    (hm : pmatchAll (resolveElems env π i tys ps D) vs = true) :
    run (bindList env π i tys ps D) (mk (reprFields env tys vs ++ stk) locs tk none) =
      some (mk stk ((bindingsList env tys (resolveElems env π i tys ps D) vs).reverse ++ locs) tk none) :=
  (pats_ok env ps π i tys D vs stk locs tk ht hvs).2 hm

mutual
  /-- without or-patterns the decision set plays no role -/
  theorem orfree_resolve (env : EnumEnv) (p : Pat) (π : Path) (ty : Ty) (D : List Path) (h : orCount p = 0) :
      resolveP env π ty p D = p ∧ traverse env π p D = [] := by
    match p with
    | .wild | .bind _ | .void | .bool _ | .int _ | .float _ | .str _ | .variant0 _ _ => simp [resolveP, traverse]
    | .or a b => simp [orCount] at h
    | .tuple ps | .struct _ ps =>
      simp only [orCount] at h
      obtain ⟨h2, h3⟩ := orfree_resolveElems env ps π 0 (productTys ty) D h
      exact ⟨by simp [resolveP, h2], by simp [traverse, h3]⟩
    | .variantPos e idx q =>
      simp only [orCount] at h
      obtain ⟨h2, h3⟩ := orfree_resolve env q (π ++ [0]) (dataTy env e idx) D h
      simp only [resolveP, traverse]
      split <;> simp [h2, h3]
    | .variantNamed e idx ps =>
      simp only [orCount] at h
      obtain ⟨h2, h3⟩ := orfree_resolveElems env ps π 0 ((variantFields env e idx).getD []) D h
      simp only [resolveP, traverse]
      split
      · split <;> simp [h2, h3]
      · simp [h2, h3]
  theorem orfree_resolveElems (env : EnumEnv) (ps : List Pat) (π : Path) (i : Nat) (tys : List Ty) (D : List Path)
      (h : orCountList ps = 0) :
      resolveElems env π i tys ps D = ps ∧ traverseList env π i ps D = [] := by
    match ps with
    | [] => simp [resolveElems, traverseList]
    | p :: ps =>
      simp only [orCountList] at h
      obtain ⟨h2, h3⟩ := orfree_resolve env p (π ++ [i]) (tys.headD .void) D (by omega)
      obtain ⟨g2, g3⟩ := orfree_resolveElems env ps π (i + 1) (tys.drop 1) D (by omega)
      simp only [resolveElems, traverseList]
      rw [h2, h3, g2, g3]; simp
end

abbrev Pass := Nat × List Path × List Instr

/-- the passes are numbered from `pass`; each holds the comparison code of its arm under its own
    decision set -/
def wfPasses (env : EnumEnv) (ty : Ty) (arms : List Pat) : Nat → List Pass → Prop
  | _, [] => True
  | pass, (a, D, code) :: rest =>
    code = [Instr.dup] ++ cmp env [a] ty (arms.getD a .wild) D ++ [.jumpIf (lblArm pass)] ∧
      wfPasses env ty arms (pass + 1) rest

theorem wfPasses_append (env : EnumEnv) (ty : Ty) (arms : List Pat) (pass : Nat) (P Q : List Pass) :
    wfPasses env ty arms pass (P ++ Q) ↔
      wfPasses env ty arms pass P ∧ wfPasses env ty arms (pass + P.length) Q := by
  induction P generalizing pass with
  | nil => simp [wfPasses]
  | cons x P ih => simp [wfPasses, ih, and_assoc, Nat.add_assoc, Nat.add_comm 1]

theorem armPasses_wf (env : EnumEnv) (ty : Ty) (arms : List Pat) (a fuel pass : Nat) (D : List Path) :
    wfPasses env ty arms pass ((armPasses env ty a (arms.getD a .wild) fuel pass D).map (fun c => (a, c))) := by
  induction fuel generalizing pass D with
  | zero => trivial
  | succ fuel ih =>
    simp only [armPasses]
    split
    · exact ⟨rfl, trivial⟩
    · exact ⟨rfl, ih _ _⟩

theorem allPasses_wf (env : EnumEnv) (ty : Ty) (arms : List Pat) (ps : List Pat) (a pass : Nat)
    (hps : ∀ j, j < ps.length → arms.getD (a + j) .wild = ps.getD j .wild) :
    wfPasses env ty arms pass (allPasses env ty a ps pass) := by
  induction ps generalizing a pass with
  | nil => trivial
  | cons p ps ih =>
    have h0 : arms.getD a .wild = p := by simpa using hps 0 (by simp)
    subst h0
    rw [allPasses, wfPasses_append, List.length_map]
    refine ⟨armPasses_wf env ty arms a _ pass [], ih _ _ fun j hj => ?_⟩
    simpa [Nat.add_assoc, Nat.add_comm 1 j] using hps (j + 1) (by simpa using hj)

theorem wfPasses_labels (env : EnumEnv) (ty : Ty) (arms : List Pat) (pass : Nat) (P : List Pass)
    (h : wfPasses env ty arms pass P) (k : Nat) : lblArm k ∉ labelsOf (P.flatMap (fun x => x.2.2)) := by
  induction P generalizing pass with
  | nil => simp
  | cons x P ih =>
    obtain ⟨a, D', code⟩ := x
    obtain ⟨rfl, hrest⟩ := h
    intro hl
    simp only [List.flatMap_cons, labelsOf_append, labelsOf_cons, labelsOf_nil, List.nil_append, List.append_nil,
      List.mem_append] at hl
    rcases hl with hl | hl
    · simpa [lblArm] using cmp_labels env [a] ty _ D' _ hl
    · exact ih _ hrest hl

/-- the alternative pass `x` compares (and binds) -/
def passPat (env : EnumEnv) (ty : Ty) (arms : List Pat) (x : Pass) : Pat :=
  resolveP env [x.1] ty (arms.getD x.1 .wild) x.2.1

theorem passPat_mk (env : EnumEnv) (ty : Ty) (arms : List Pat) (a : Nat) (D : List Path) (c : List Instr) :
    passPat env ty arms (a, D, c) = resolveP env [a] ty (arms.getD a .wild) D := rfl

theorem getD_typed {env : EnumEnv} {ty : Ty} {arms : List Pat} (harms : ∀ p ∈ arms, patTyped env p ty = true)
    (a : Nat) : patTyped env (arms.getD a .wild) ty = true := by
  rw [List.getD_eq_getElem?_getD]
  cases h : arms[a]? with
  | none => simp [patTyped]
  | some p => exact harms p (List.mem_of_getElem? h)

/-- comparison phase: ends skipping to the label of the first pass whose alternative matches -/
theorem comparePhase (env : EnumEnv) (ty : Ty) (arms : List Pat) (v : Val) (hv : hasTy env v ty = true)
    (hnv : ty.isVoid = false) (harms : ∀ p ∈ arms, patTyped env p ty = true)
    (P : List Pass) (pass : Nat) (hwf : wfPasses env ty arms pass P)
    (stk : List SVal) (locs : List (Nat × SVal)) (tk : Option Nat) :
    run (P.flatMap (fun x => x.2.2)) (mk (repr env ty v :: stk) locs tk none) =
      some (match P.findIdx? (fun x => pmatch (passPat env ty arms x) v) with
        | some r => mk (repr env ty v :: stk) locs tk (some (lblArm (pass + r)))
        | none => mk (repr env ty v :: stk) locs tk none) := by
  induction P generalizing pass with
  | nil => rfl
  | cons x P ih =>
    obtain ⟨a, D', code⟩ := x
    obtain ⟨hcode, hrest⟩ := hwf
    have hc : run (cmp env [a] ty (arms.getD a .wild) D') (mk (slot env ty v ++ repr env ty v :: stk) locs tk none) =
        some (mk (.bool (pmatch (passPat env ty arms (a, D', code)) v) :: repr env ty v :: stk) locs tk none) :=
      (pat_ok env _ [a] ty D' v _ locs tk (getD_typed harms a) hv).1
    rw [slot_nonvoid env v hnv, List.singleton_append] at hc
    rw [List.flatMap_cons, List.findIdx?_cons]
    -- dup, compare, jumpIf: fall through to the next pass, or start skipping to the body of this one
    generalize pmatch (passPat env ty arms (a, D', code)) v = b at hc ⊢
    simp only [hcode, List.append_assoc, List.cons_append, List.nil_append, run_dup, run_append_of hc, run_jumpIf]
    cases b
    · rw [if_neg Bool.false_ne_true, if_neg Bool.false_ne_true, ih (pass + 1) hrest]
      cases P.findIdx? (fun x => pmatch (passPat env ty arms x) v) with
      | none => rfl
      | some r => simp only [Option.map_some, Nat.add_assoc, Nat.add_comm 1 r]
    · exact run_skip_all (wfPasses_labels env ty arms _ P hrest pass) ..

theorem bodies_labels (env : EnumEnv) (ty : Ty) (arms : List Pat) (pass : Nat) (L : List Pass) :
    lblEndMatch ∉ labelsOf (bodies env ty arms pass L) := by
  induction L generalizing pass with
  | nil => simp [bodies]
  | cons x L ih =>
    obtain ⟨a, D, c⟩ := x
    rw [bodies]; cases L <;> simp [labelsOf_cons, bind_nolabels, ih]

/-- body phase: skipping to `lblArm (pass + r)` reaches the body of pass `r`, which binds through the
    alternative that pass compared and leaves through `endmatch` -/
theorem bodiesPhase (env : EnumEnv) (ty : Ty) (arms : List Pat) (v : Val) (hv : hasTy env v ty = true)
    (hnv : ty.isVoid = false) (harms : ∀ p ∈ arms, patTyped env p ty = true)
    (P : List Pass) (pass : Nat)
    (r : Nat) (x : Pass) (hx : P[r]? = some x) (hm : pmatch (passPat env ty arms x) v = true)
    (stk : List SVal) (locs : List (Nat × SVal)) (tk : Option Nat) :
    run (bodies env ty arms pass P ++ [.label lblEndMatch])
      (mk (repr env ty v :: stk) locs tk (some (lblArm (pass + r)))) =
      some (mk stk ((bindingsOf env ty (passPat env ty arms x) v).reverse ++ locs) (some (pass + r)) none) := by
  induction P generalizing pass r with
  | nil => simp at hx
  | cons y P ih =>
    obtain ⟨a, D', code⟩ := y
    simp only [bodies, List.append_assoc, List.cons_append, List.nil_append]
    cases r with
    | zero =>
      cases Option.some.inj hx
      have hb := (pat_ok env (arms.getD a .wild) [a] ty D' v stk locs tk (getD_typed harms a) hv).2 hm
      rw [slot_nonvoid env v hnv, List.singleton_append] at hb
      simp only [Nat.add_zero, run_skip_label, run_append_of hb]
      match P with
      | [] => simp [bodies, passPat_mk]
      | _ :: _ => simp [passPat_mk, run_skip (bodies_labels env ty arms _ _)]
    | succ r =>
      have := ih (pass + 1) r (by simpa using hx)
      rw [Nat.add_assoc, Nat.add_comm 1 r] at this
      cases P <;> simp [run_skip, bind_nolabels, this]

/-- **the whole match, as the code is**: the body entered is that of the first pass (in emission order)
    whose selected alternative matches the value; it binds through that alternative; the stack below
    the scrutinee is untouched -/
theorem runMatch_general (env : EnumEnv) (ty : Ty) (arms : List Pat) (v : Val) (stk : List SVal)
    (hnv : ty.isVoid = false) (harms : ∀ p ∈ arms, patTyped env p ty = true) (hv : hasTy env v ty = true)
    (r : Nat) (x : Pass)
    (hr : (allPasses env ty 0 arms 0).findIdx? (fun x => pmatch (passPat env ty arms x) v) = some r)
    (hx : (allPasses env ty 0 arms 0)[r]? = some x) :
    runMatch env ty arms v stk =
      some (some x.1, some r, (bindingsOf env ty (passPat env ty arms x) v).reverse, stk) := by
  have hwf := allPasses_wf env ty arms arms 0 0 (fun j _ => by simp)
  obtain ⟨hrlt, hrm, -⟩ := List.findIdx?_eq_some_iff_getElem.1 hr
  cases Option.some.inj ((List.getElem?_eq_getElem hrlt).symm.trans hx)
  have h1 := comparePhase env ty arms v hv hnv harms _ 0 hwf stk [] none
  have h2 := bodiesPhase env ty arms v hv hnv harms _ 0 r _ hx hrm stk [] none
  rw [hr] at h1
  simp only [Nat.zero_add] at h1 h2
  simp [runMatch, matchCode, hnv, run_append_of h1, h2, hx]

/-! ## `let` / `var` / `for` after D103: bind under the first combination that matches -/

theorem armPasses_ne_nil (env : EnumEnv) (ty : Ty) (a : Nat) (p : Pat) (fuel pass : Nat) (D : List Path)
    (h : 1 ≤ fuel) : armPasses env ty a p fuel pass D ≠ [] := by
  cases fuel with
  | zero => omega
  | succ f => simp only [armPasses]; split <;> simp

theorem letBodies_labels (env : EnumEnv) (ty : Ty) (p : Pat) (k : Nat) (L : List (List Path × List Instr)) :
    lblEndMatch ∉ labelsOf (letBodies env ty p k L) := by
  induction L generalizing k with
  | nil => simp [letBodies]
  | cons x L ih => simp [letBodies, labelsOf_cons, bind_nolabels, ih]

/-- entering the bodies in running mode (after the untested last combination was bound): leave -/
theorem letBodies_running (env : EnumEnv) (ty : Ty) (p : Pat) (k : Nat) (L : List (List Path × List Instr))
    (stk : List SVal) (locs : List (Nat × SVal)) (tk : Option Nat) :
    run (letBodies env ty p k L ++ [.label lblEndMatch]) (mk stk locs tk none) = some (mk stk locs tk none) := by
  cases L with
  | nil => rfl
  | cons x L => simp [letBodies, run_skip, bind_nolabels, letBodies_labels]

/-- skipping to `bind_r`: bind under combination `r`, then leave -/
theorem letBodies_skip (env : EnumEnv) (ty : Ty) (p : Pat) (v : Val) (ht : patTyped env p ty = true)
    (hv : hasTy env v ty = true) (hnv : ty.isVoid = false) (L : List (List Path × List Instr)) (k r : Nat)
    (D : List Path) (c : List Instr) (hx : L[r]? = some (D, c)) (hm : pmatch (resolveP env [0] ty p D) v = true)
    (stk : List SVal) (locs : List (Nat × SVal)) (tk : Option Nat) :
    run (letBodies env ty p k L ++ [.label lblEndMatch])
      (mk (repr env ty v :: stk) locs tk (some (lblArm (k + r)))) =
      some (mk stk ((bindingsOf env ty (resolveP env [0] ty p D) v).reverse ++ locs) tk none) := by
  induction L generalizing k r with
  | nil => simp at hx
  | cons y L ih =>
    simp only [letBodies, List.append_assoc, List.cons_append, List.nil_append]
    cases r with
    | zero =>
      cases Option.some.inj hx
      have hb := (pat_ok env p [0] ty D v stk locs tk ht hv).2 hm
      rw [slot_nonvoid env v hnv, List.singleton_append] at hb
      simp [run_append_of hb, letBodies_running]
    | succ r =>
      have := ih (k + 1) r (by simpa using hx)
      rw [Nat.add_assoc, Nat.add_comm 1 r] at this
      simp [run_skip, bind_nolabels, this]

/-- **`bind_irrefutable_pat`**: the variables are bound under the first combination of or-pattern
    alternatives that matches the value (combinations in the order of the arm loop), the value is
    consumed and nothing else is touched -/
theorem runLet_general (env : EnumEnv) (ty : Ty) (p : Pat) (v : Val) (stk : List SVal)
    (hnv : ty.isVoid = false) (ht : patTyped env p ty = true) (hv : hasTy env v ty = true)
    (r : Nat) (D : List Path) (c : List Instr)
    (hr : (armPasses env ty 0 p (2 ^ orCount p) 0 []).findIdx? (fun x => pmatch (resolveP env [0] ty p x.1) v) = some r)
    (hx : (armPasses env ty 0 p (2 ^ orCount p) 0 [])[r]? = some (D, c)) :
    runLet env ty p v stk = some ((bindingsOf env ty (resolveP env [0] ty p D) v).reverse, stk) := by
  have hne := armPasses_ne_nil env ty 0 p (2 ^ orCount p) 0 [] Nat.one_le_two_pow
  have hwf := armPasses_wf env ty [p] 0 (2 ^ orCount p) 0 []
  have hb : ∀ D, pmatch (resolveP env [0] ty p D) v = true →
      run (bind env [0] ty p D) (mk (repr env ty v :: stk) [] none none) =
        some (mk stk ((bindingsOf env ty (resolveP env [0] ty p D) v).reverse ++ []) none none) := fun D hm => by
    simpa [slot_nonvoid env v hnv] using (pat_ok env p [0] ty D v stk [] none ht hv).2 hm
  have hm : pmatch (resolveP env [0] ty p D) v = true := by
    obtain ⟨hrlt, hrm, -⟩ := List.findIdx?_eq_some_iff_getElem.1 hr
    rwa [Option.some.inj ((List.getElem?_eq_getElem hrlt).symm.trans hx)] at hrm
  simp only [List.getD_cons_zero] at hwf
  unfold runLet letCode
  simp only [hnv, Bool.false_eq_true, if_false, Bool.or_false]
  generalize armPasses env ty 0 p (2 ^ orCount p) 0 [] = P at *
  rcases List.eq_nil_or_concat P with hnil | ⟨init, ⟨Dl, cl⟩, rfl⟩
  · exact absurd hnil hne
  rw [List.concat_eq_append] at *
  rw [List.map_append, wfPasses_append] at hwf
  -- the comparison passes of all combinations but the last
  have hcmp : run (init.flatMap (·.2)) (mk (repr env ty v :: stk) [] none none) =
      some (match init.findIdx? (fun x => pmatch (resolveP env [0] ty p x.1) v) with
        | some r => mk (repr env ty v :: stk) [] none (some (lblArm r))
        | none => mk (repr env ty v :: stk) [] none none) := by
    simpa [List.flatMap_map, List.findIdx?_map, Function.comp_def, passPat] using
      comparePhase env ty [p] v hv hnv (by simpa using ht) (init.map ((0 : Nat), ·)) 0 hwf.1 stk [] none
  rw [List.findIdx?_append] at hr
  cases hfi : init.findIdx? (fun x => pmatch (resolveP env [0] ty p x.1) v) with
  | some r' =>
    -- one of the tested combinations: its body binds
    obtain ⟨hlt, -, -⟩ := List.findIdx?_eq_some_iff_getElem.1 hfi
    rw [hfi, Option.some_or] at hr
    cases Option.some.inj hr
    rw [List.getElem?_append_left hlt] at hx
    have hi : init ≠ [] := by rintro rfl; simp at hlt
    have := letBodies_skip env ty p v ht hv hnv init 0 r D c hx hm stk [] none
    simp only [hfi] at hcmp
    simp only [Nat.zero_add] at this
    simp [hi, run_append_of hcmp, run_skip, bind_nolabels, this]
  | none =>
    -- the untested last one
    simp only [hfi] at hcmp
    have hrl : r = init.length := by
      by_cases h : pmatch (resolveP env [0] ty p Dl) v = true
      · simp [hfi, List.findIdx?_cons, h] at hr; omega
      · simp [hfi, List.findIdx?_cons, h] at hr
    subst hrl
    obtain ⟨rfl, rfl⟩ : Dl = D ∧ cl = c := by simpa using hx
    by_cases hi : init = []
    · simp [hi, hb _ hm]
    · simp [hi, run_append_of hcmp, run_append_of (hb _ hm), letBodies_running]

/-! ## Or-chains `a | b | c` of or-free alternatives -/

/-- the alternatives of a right-nested or-chain (the parser builds `a | (b | c)`) -/
def alts : Pat → List Pat
  | .or l r => l :: alts r
  | .wild => [.wild]
  | .bind x => [.bind x]
  | .bool b => [.bool b]
  | .int i => [.int i]
  | .float f => [.float f]
  | .str s => [.str s]
  | .void => [.void]
  | .tuple ps => [.tuple ps]
  | .struct id ps => [.struct id ps]
  | .variant0 e i => [.variant0 e i]
  | .variantPos e i p => [.variantPos e i p]
  | .variantNamed e i ps => [.variantNamed e i ps]

def isChain (p : Pat) : Prop := ∀ q ∈ alts p, orCount q = 0

/-- induction along a right-nested or-chain: a pattern that is not an or-pattern is its own only
    alternative -/
theorem alts_induction {motive : Pat → Prop} (leaf : ∀ p, alts p = [p] → motive p)
    (or : ∀ l r, motive r → motive (.or l r)) : ∀ p, motive p
  | .or l r => or l r (alts_induction leaf or r)
  | .wild | .bind _ | .bool _ | .int _ | .float _ | .str _ | .void | .tuple _ | .struct _ _ | .variant0 _ _
  | .variantPos _ _ _ | .variantNamed _ _ _ => leaf _ rfl

@[simp] theorem alts_or (l r : Pat) : alts (.or l r) = l :: alts r := rfl

theorem orCount_or (l r : Pat) : orCount (.or l r) = 1 + orCount l + orCount r := rfl

theorem alts_length_pos (p : Pat) : 0 < (alts p).length := by
  induction p using alts_induction with
  | leaf p hp => simp [hp]
  | or l r _ => simp

theorem alts_orfree {p : Pat} (h : orCount p = 0) : alts p = [p] := by
  induction p using alts_induction with
  | leaf p hp => exact hp
  | or l r _ => rw [orCount_or] at h; omega

theorem isChain_orfree {p : Pat} (h : orCount p = 0) : isChain p := by
  intro q hq
  rw [alts_orfree h, List.mem_singleton] at hq
  rwa [hq]

theorem isChain_or {l r : Pat} (h : isChain (.or l r)) : orCount l = 0 ∧ isChain r :=
  ⟨h l (by simp), fun q hq => h q (by simp [hq])⟩

theorem isChain_leaf {p : Pat} (h : isChain p) (hp : alts p = [p]) : orCount p = 0 :=
  h p (hp ▸ List.mem_singleton_self p)

theorem pmatch_alts (p : Pat) (v : Val) : pmatch p v = (alts p).any (fun q => pmatch q v) := by
  induction p using alts_induction with
  | leaf p hp => simp [hp]
  | or l r ih => simp [pmatch, ih]

theorem bindingsOf_alts (env : EnumEnv) (ty : Ty) (p : Pat) (v : Val) (i : Nat) (q : Pat)
    (hi : (alts p).findIdx? (fun q => pmatch q v) = some i) (hq : (alts p)[i]? = some q) :
    bindingsOf env ty p v = bindingsOf env ty q v := by
  induction p using alts_induction generalizing i with
  | leaf p hp =>
    rw [hp] at hi hq
    obtain ⟨-, rfl⟩ : pmatch p v = true ∧ 0 = i := by simpa [List.findIdx?_cons] using hi
    rw [Option.some.inj hq]
  | or l r ih =>
    simp only [alts_or, List.findIdx?_cons] at hi
    simp only [bindingsOf]
    by_cases hl : pmatch l v = true
    · simp only [hl, if_true, Option.some.injEq] at hi ⊢
      subst hi
      simp at hq
      subst hq
      rfl
    · have hl' : pmatch l v = false := by simpa using hl
      simp only [hl', Bool.false_eq_true, if_false, Option.map_eq_some_iff] at hi ⊢
      obtain ⟨i', hi', rfl⟩ := hi
      exact ih i' hi' (by simpa using hq)

/-- path of the k-th or-node of a chain rooted at `π` -/
def node (π : Path) (k : Nat) : Path := π ++ List.replicate k 1

theorem node_zero (π : Path) : node π 0 = π := by simp [node]

theorem node_succ (π : Path) (k : Nat) : node (π ++ [1]) k = node π (k + 1) := by
  simp [node, List.replicate_succ]

theorem node_inj (π : Path) (k k' : Nat) : node π k = node π k' ↔ k = k' :=
  ⟨fun h => by simpa [node] using congrArg List.length h, fun h => h ▸ rfl⟩

/-- the or-nodes of a chain that a walk reaches when the first `i` of them are decided right -/
def reached (π : Path) (n i : Nat) : List Path :=
  (List.range (if i + 1 < n then i + 1 else n - 1)).map (node π)

theorem reached_lt {π : Path} {n i : Nat} (h : i + 1 < n) :
    reached π n i = (List.range i).map (node π) ++ [node π i] := by
  simp [reached, h, List.range_succ]

theorem reached_ge {π : Path} {n i : Nat} (h : ¬ i + 1 < n) : reached π n i = (List.range (n - 1)).map (node π) := by
  simp [reached, h]

theorem reached_succ (π : Path) (n i : Nat) (hn : 1 ≤ n) :
    π :: reached (π ++ [1]) n i = reached π (n + 1) (i + 1) := by
  unfold reached
  have hc : (if i + 1 + 1 < n + 1 then i + 1 + 1 else n + 1 - 1) = (if i + 1 < n then i + 1 else n - 1) + 1 := by
    split <;> split <;> omega
  rw [hc, List.range_succ_eq_map, List.map_cons, node_zero, List.map_map]
  congr 1
  apply List.map_congr_left
  intro k _
  simp [node_succ]

/-- pass `i` of a chain: it compiles alternative `i` and reaches the or-nodes `0 … min(i, n-2)` -/
theorem chain_pass (env : EnumEnv) (ty : Ty) (p : Pat) (hchain : isChain p) (π : Path) (D : List Path) (i : Nat)
    (hi : i < (alts p).length) (hD : ∀ k, D.contains (node π k) = true ↔ k < i) :
    resolveP env π ty p D = (alts p)[i] ∧ traverse env π p D = reached π (alts p).length i := by
  induction p using alts_induction generalizing π i with
  | leaf p hp =>
    obtain ⟨g2, g3⟩ := orfree_resolve env p π ty D (isChain_leaf hchain hp)
    obtain rfl : i = 0 := by simpa [hp] using hi
    simp [g2, g3, hp, reached]
  | or l r ih =>
    obtain ⟨hl, hr⟩ := isChain_or hchain
    have h2 := alts_length_pos r
    have hlen : (alts (Pat.or l r)).length = (alts r).length + 1 := by simp
    have hc0 := hD 0
    rw [node_zero] at hc0
    cases i with
    | zero =>
      have hnc : D.contains π = false := by
        cases hc : D.contains π with
        | false => rfl
        | true => exact absurd (hc0.1 hc) (by omega)
      obtain ⟨g2, g3⟩ := orfree_resolve env l (π ++ [0]) ty D hl
      simp only [resolveP, traverse, hnc, Bool.false_eq_true, if_false, g2, g3]
      refine ⟨by simp, ?_⟩
      unfold reached
      rw [if_pos (by omega)]
      simp [node_zero]
    | succ i =>
      have hc : D.contains π = true := hc0.2 (by omega)
      obtain ⟨g1, g3⟩ := ih hr (π ++ [1]) i (by omega)
        (fun k => by rw [node_succ]; exact (hD (k + 1)).trans (by omega))
      simp only [resolveP, traverse, hc, if_true, g1, g3]
      refine ⟨by simp, ?_⟩
      rw [hlen]
      exact reached_succ π _ i (by omega)

theorem lastLeft_none {L D : List Path} (h : ∀ x ∈ L, D.contains x = true) : lastLeft L D = none := by
  induction L with
  | nil => rfl
  | cons x L ih => simp only [lastLeft, ih fun y hy => h y (List.mem_cons_of_mem _ hy), h x (List.mem_cons_self ..), if_true]

theorem lastLeft_concat {L D : List Path} {x : Path} (hx : D.contains x = false) :
    lastLeft (L ++ [x]) D = some L.length := by
  induction L with
  | nil => simp only [List.nil_append, lastLeft, hx, Bool.false_eq_true, if_false, List.length_nil]
  | cons y L ih => simp only [List.cons_append, lastLeft, ih, List.length_cons]

/-- the passes of a chain arm compile its alternatives in order: with the or-nodes below `i` decided, pass `i`
    reaches the nodes up to `i`, of which only the last is undecided (the counter moves it right and has nothing
    later to reset), or — at the last alternative — only decided ones (the loop ends) -/
theorem armPasses_chain (env : EnumEnv) (ty : Ty) (arms : List Pat) (a : Nat) (p : Pat)
    (hp : arms.getD a .wild = p) (hchain : isChain p) :
    ∀ (m i pass fuel : Nat) (D : List Path), i + m = (alts p).length → 1 ≤ m → m ≤ fuel →
      (∀ k, D.contains (node [a] k) = true ↔ k < i) →
      ((armPasses env ty a p fuel pass D).map (fun c => passPat env ty arms (a, c))) = (alts p).drop i := by
  intro m
  induction m with
  | zero => intro i pass fuel D _ h1; omega
  | succ m ih =>
    intro i pass fuel D him _ hfuel hD
    have hi : i < (alts p).length := by omega
    obtain ⟨g1, g3⟩ := chain_pass env ty p hchain [a] D i hi hD
    obtain ⟨f, rfl⟩ : ∃ f, fuel = f + 1 := ⟨fuel - 1, by omega⟩
    have hpp : passPat env ty arms (a, D, [Instr.dup] ++ cmp env [a] ty p D ++ [.jumpIf (lblArm pass)]) =
        (alts p)[i] := by rw [passPat_mk, hp]; exact g1
    rw [List.drop_eq_getElem_cons hi]
    by_cases hlast : i + 1 < (alts p).length
    · have hni : D.contains (node [a] i) = false := by
        cases h : D.contains (node [a] i) with
        | false => rfl
        | true => exact absurd ((hD i).1 h) (Nat.lt_irrefl i)
      have hnext : nextDecisions ((List.range i).map (node [a]) ++ [node [a] i]) i D = node [a] i :: D := by
        have hd : ((List.range i).map (node [a]) ++ [node [a] i]).drop (i + 1) = [] :=
          List.drop_eq_nil_of_le (by simp)
        simp [nextDecisions, hd, List.getD_eq_getElem?_getD]
      simp only [armPasses, g3, reached_lt hlast, lastLeft_concat hni, List.length_map, List.length_range, hnext,
        List.map_cons, hpp]
      rw [ih (i + 1) (pass + 1) f (node [a] i :: D) (by omega) (by omega) (by omega)
        (fun k => by rw [List.contains_cons, Bool.or_eq_true, beq_iff_eq, node_inj, hD]; omega)]
    · have hall : ∀ x ∈ (List.range ((alts p).length - 1)).map (node [a]), D.contains x = true := by
        intro x hx
        obtain ⟨k, hk, rfl⟩ := List.mem_map.1 hx
        exact (hD k).2 (by have := List.mem_range.1 hk; omega)
      simp only [armPasses, g3, reached_ge hlast, lastLeft_none hall, List.map_cons, List.map_nil, hpp]
      rw [List.drop_eq_nil_of_le (by omega)]

theorem orCount_chain {p : Pat} (h : isChain p) : orCount p + 1 = (alts p).length := by
  induction p using alts_induction with
  | leaf p hp => simp [hp, isChain_leaf h hp]
  | or l r ih =>
    obtain ⟨hl, hr⟩ := isChain_or h
    have := ih hr
    simp only [orCount_or, alts_or, List.length_cons]; omega

theorem armPasses_chain_all (env : EnumEnv) (ty : Ty) (arms : List Pat) (a : Nat) (p : Pat)
    (hp : arms.getD a .wild = p) (hchain : isChain p) (pass : Nat) :
    (armPasses env ty a p (2 ^ orCount p) pass []).map (fun c => passPat env ty arms (a, c)) = alts p := by
  have h2 : orCount p < 2 ^ orCount p := Nat.lt_two_pow_self
  have hlen := alts_length_pos p
  exact armPasses_chain env ty arms a p hp hchain (alts p).length 0 pass (2 ^ orCount p) [] (by simp) hlen
    (by have := orCount_chain hchain; omega) (by intro k; simp)

theorem getElem_of_map_eq {α β : Type} {f : α → β} {A : List α} {B : List β} (h : A.map f = B) {i : Nat}
    (hi : i < B.length) : ∃ hA : i < A.length, f A[i] = B[i] := by
  subst h
  exact ⟨by simpa using hi, by simp⟩

theorem alts_findIdx?_isSome (p : Pat) (v : Val) :
    ((alts p).findIdx? (fun q => pmatch q v)).isSome = pmatch p v := by
  rw [pmatch_alts, List.findIdx?_isSome]

/-- the first pass that matches belongs to the first arm that matches and compares its first matching
    alternative -/
theorem allPasses_first (env : EnumEnv) (ty : Ty) (arms : List Pat) (v : Val) :
    ∀ (ps : List Pat) (a pass k : Nat),
      (∀ j, j < ps.length → arms.getD (a + j) .wild = ps.getD j .wild) → (∀ p ∈ ps, isChain p) →
      ps.findIdx? (fun p => pmatch p v) = some k →
      ∃ r x, (allPasses env ty a ps pass).findIdx? (fun x => pmatch (passPat env ty arms x) v) = some r ∧
        (allPasses env ty a ps pass)[r]? = some x ∧ x.1 = a + k ∧
        bindingsOf env ty (passPat env ty arms x) v = bindingsOf env ty (ps.getD k .wild) v := by
  intro ps
  induction ps with
  | nil => intro a pass k _ _ h; simp at h
  | cons p ps ih =>
    intro a pass k harms hch h
    have hp : arms.getD a .wild = p := by simpa using harms 0 (by simp)
    have hmap := armPasses_chain_all env ty arms a p hp (hch p (List.mem_cons_self ..)) pass
    simp only [allPasses]
    generalize armPasses env ty a p (2 ^ orCount p) pass [] = A at hmap ⊢
    have hfind : (A.map (fun c => (a, c))).findIdx? (fun x => pmatch (passPat env ty arms x) v) =
        (alts p).findIdx? (fun q => pmatch q v) := by
      rw [← hmap, List.findIdx?_map, List.findIdx?_map]; rfl
    simp only [List.findIdx?_append, hfind, List.length_map]
    rw [List.findIdx?_cons] at h
    cases hpm : pmatch p v with
    | true =>
      obtain rfl : 0 = k := by simpa [hpm] using h
      obtain ⟨i, hf⟩ := Option.isSome_iff_exists.1 ((alts_findIdx?_isSome p v).trans hpm)
      obtain ⟨hi, -, -⟩ := List.findIdx?_eq_some_iff_getElem.1 hf
      obtain ⟨hiA, hpi⟩ := getElem_of_map_eq hmap hi
      refine ⟨i, (a, A[i]), by simp [hf], ?_, rfl, ?_⟩
      · rw [List.getElem?_append_left (by simpa using hiA)]; simp [hiA]
      · rw [hpi]; exact (bindingsOf_alts env ty p v i _ hf (by simp [hi])).symm
    | false =>
      obtain ⟨k', hk', rfl⟩ : ∃ k', ps.findIdx? (fun p => pmatch p v) = some k' ∧ k' + 1 = k := by
        simpa [hpm] using h
      obtain ⟨r, x, h1, h2, h3, h4⟩ := ih (a + 1) (pass + A.length) k'
        (fun j hj => by simpa [Nat.add_assoc, Nat.add_comm 1 j] using harms (j + 1) (by simpa using hj))
        (fun q hq => hch q (List.mem_cons_of_mem _ hq)) hk'
      have hno := Option.not_isSome_iff_eq_none.1 (ne_true_of_eq_false ((alts_findIdx?_isSome p v).trans hpm))
      refine ⟨r + A.length, x, by simp [hno, h1], ?_, by omega, by simpa using h4⟩
      rw [List.getElem?_append_right (by simp)]
      simpa using h2

theorem runMatch_chain (env : EnumEnv) (ty : Ty) (arms : List Pat) (v : Val) (stk : List SVal)
    (hnv : ty.isVoid = false) (harms : ∀ p ∈ arms, patTyped env p ty = true) (hch : ∀ p ∈ arms, isChain p)
    (hv : hasTy env v ty = true) (k : Nat) (hk : arms.findIdx? (fun p => pmatch p v) = some k) :
    ∃ r, runMatch env ty arms v stk =
      some (some k, some r, (bindingsOf env ty (arms.getD k .wild) v).reverse, stk) := by
  obtain ⟨r, x, h1, h2, h3, h4⟩ := allPasses_first env ty arms v arms 0 0 k (fun j _ => by simp) hch hk
  exact ⟨r, by rw [runMatch_general env ty arms v stk hnv harms hv r x h1 h2, h3, h4, Nat.zero_add]⟩

theorem runLet_chain (env : EnumEnv) (ty : Ty) (p : Pat) (v : Val) (stk : List SVal)
    (hnv : ty.isVoid = false) (ht : patTyped env p ty = true) (hch : isChain p)
    (hv : hasTy env v ty = true) (hm : pmatch p v = true) :
    runLet env ty p v stk = some ((bindingsOf env ty p v).reverse, stk) := by
  have hmap := armPasses_chain_all env ty [p] 0 p rfl hch 0
  obtain ⟨i, hf⟩ := Option.isSome_iff_exists.1 ((alts_findIdx?_isSome p v).trans hm)
  obtain ⟨hi, _, _⟩ := List.findIdx?_eq_some_iff_getElem.1 hf
  obtain ⟨hi', hres⟩ := getElem_of_map_eq hmap hi
  have hfp : (armPasses env ty 0 p (2 ^ orCount p) 0 []).findIdx?
      (fun x => pmatch (resolveP env [0] ty p x.1) v) = some i := by
    rw [← hf, ← hmap, List.findIdx?_map]; rfl
  replace hres : resolveP env [0] ty p (armPasses env ty 0 p (2 ^ orCount p) 0 [])[i].1 = (alts p)[i] := hres
  rw [runLet_general env ty p v stk hnv ht hv i (armPasses env ty 0 p (2 ^ orCount p) 0 [])[i].1
      (armPasses env ty 0 p (2 ^ orCount p) 0 [])[i].2 hfp (List.getElem?_eq_getElem hi'), hres,
    bindingsOf_alts env ty p v i _ hf (List.getElem?_eq_getElem hi)]

end Abra.PatCompile
