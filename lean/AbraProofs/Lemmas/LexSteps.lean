import AbraProofs.Lemmas.Lex
/-! `stepLen` (at least one character, never past the end of the input), `tokenizeAux` unfolded by one
    `lexOne` step, fuel irrelevance, the kind stream `kindsFrom`. -/
namespace Abra.Lex

/-- characters consumed by one step (at least one) -/
def stepLen (cs : List Char) : Nat := max (lexOne cs).len 1

def stepErrs (pos : Nat) (cs : List Char) : List LexError :=
  (if (lexOne cs).unrecognized then [LexError.unrecognized pos (pos + 1)] else []) ++
    (lexOne cs).badEscapes.map (fun (lo, hi) => LexError.badEscape (pos + lo) (pos + hi))

theorem stepLen_pos (cs : List Char) : 1 ≤ stepLen cs := by simp only [stepLen]; omega

theorem stepLen_le (c : Char) (rest : List Char) : stepLen (c :: rest) ≤ (c :: rest).length := by
  have := lexOne_len c rest
  simp only [stepLen, List.length_cons]; omega

theorem tokenizeAux_cons (f pos : Nat) (c : Char) (rest : List Char) :
    tokenizeAux (f + 1) pos (c :: rest) =
      let r := tokenizeAux f (pos + stepLen (c :: rest)) ((c :: rest).drop (stepLen (c :: rest)))
      match (lexOne (c :: rest)).tok with
      | some k => (⟨k, pos, pos + stepLen (c :: rest)⟩ :: r.1, stepErrs pos (c :: rest) ++ r.2)
      | none => (r.1, stepErrs pos (c :: rest) ++ r.2) := by
  rw [tokenizeAux]
  simp only [stepLen, stepErrs]
  cases h : (lexOne (c :: rest)).tok <;> simp [List.append_assoc]

theorem tokenizeAux_nil (f pos : Nat) : tokenizeAux (f + 1) pos [] = ([⟨.eof, pos, pos⟩], []) := by
  rw [tokenizeAux]

theorem drop_stepLen_length_lt (c : Char) (rest : List Char) :
    ((c :: rest).drop (stepLen (c :: rest))).length < (c :: rest).length := by
  have := stepLen_pos (c :: rest)
  simp only [List.length_drop, List.length_cons]; omega

theorem tokenizeAux_fuel : ∀ (f g pos : Nat) (cs : List Char), cs.length < f → cs.length < g →
    tokenizeAux f pos cs = tokenizeAux g pos cs := by
  intro f
  induction f with
  | zero => intro g pos cs h; omega
  | succ f ih =>
    intro g pos cs hf hg
    cases g with
    | zero => omega
    | succ g =>
      cases cs with
      | nil => rw [tokenizeAux_nil, tokenizeAux_nil]
      | cons c rest =>
        rw [tokenizeAux_cons, tokenizeAux_cons]
        have hlen := drop_stepLen_length_lt c rest
        rw [ih g _ _ (by omega) (by omega)]

/-- token kinds from a given remaining input (positions do not matter for kinds) -/
def kindsFrom (cs : List Char) : List TokenKind := (tokenizeAux (cs.length + 1) 0 cs).1.map (·.kind)

theorem kinds_pos_irrelevant : ∀ (f pos pos' : Nat) (cs : List Char),
    (tokenizeAux f pos cs).1.map (·.kind) = (tokenizeAux f pos' cs).1.map (·.kind) := by
  intro f
  induction f with
  | zero => intro pos pos' cs; simp [tokenizeAux]
  | succ f ih =>
    intro pos pos' cs
    cases cs with
    | nil => simp [tokenizeAux_nil]
    | cons c rest =>
      rw [tokenizeAux_cons, tokenizeAux_cons]
      have := ih (pos + stepLen (c :: rest)) (pos' + stepLen (c :: rest))
        ((c :: rest).drop (stepLen (c :: rest)))
      cases h : (lexOne (c :: rest)).tok <;> simp [this]

theorem kindsFrom_nil : kindsFrom [] = [.eof] := by simp [kindsFrom, tokenizeAux_nil]

theorem kindsFrom_cons (c : Char) (rest : List Char) :
    kindsFrom (c :: rest) =
      (match (lexOne (c :: rest)).tok with | some k => [k] | none => []) ++
        kindsFrom ((c :: rest).drop (stepLen (c :: rest))) := by
  have hlen : _ < rest.length + 1 := drop_stepLen_length_lt c rest
  unfold kindsFrom
  rw [List.length_cons, tokenizeAux_cons]
  generalize (c :: rest).drop (stepLen (c :: rest)) = D at hlen ⊢
  have hf := tokenizeAux_fuel (rest.length + 1) (D.length + 1) (0 + stepLen (c :: rest)) D hlen
    (Nat.lt_succ_self _)
  have hp := kinds_pos_irrelevant (D.length + 1) (0 + stepLen (c :: rest)) 0 D
  rw [hf]
  cases h : (lexOne (c :: rest)).tok with
  | none => simp only [List.nil_append]; exact hp
  | some k => simp only [List.map_cons, List.singleton_append]; rw [hp]

theorem kinds_eq_kindsFrom (src : List Char) (h : shebangLen src = 0) : kinds src = kindsFrom src := by
  simp [kinds, tokenize, h, kindsFrom]

theorem kindsFrom_skip (cs : List Char) (n : Nat) (hne : cs ≠ []) (h : lexOne cs = skip n) (hn : 1 ≤ n) :
    kindsFrom cs = kindsFrom (cs.drop n) := by
  cases cs with
  | nil => exact absurd rfl hne
  | cons c rest =>
    rw [kindsFrom_cons, stepLen, h]
    simp only [skip, List.nil_append]
    rw [Nat.max_eq_left hn]

end Abra.Lex
