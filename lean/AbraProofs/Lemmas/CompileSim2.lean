import AbraProofs.Lemmas.CompileSim
/-!
What a successful compilation says about its input (one inversion theorem per compile function); the slot
counter is monotone; the interpreter's equations for the operators (`binop_arith`, `binop_cmp`, `evalE_strict`,
`evalS_compound`, `asg_arith`) and the VM side of them (`out_intOp`, `strictOp_sound`).
-/
namespace Abra.Compile
open Abra.Sem Abra.VM

/-! ### inversion of the compile functions -/

/-- Every binary operator compiles both operands; what differs is stated as functions of the operator: the right
    operand of `and`/`or` runs at the depth of the whole (the jump has consumed the left one), that of a strict
    operator one deeper; `or` jumps on `true` and yields `true` when it short-cuts, `and` on `false`.  The emitted
    code is given right-nested, the form in which `codeAt_resolve_append`/`_cons` take it apart. -/
theorem compE_inv {Γ : TEnv} {next d : Nat} {e : Expr} {code : Code} {τ : Ty} {n' : Nat} :
    compE Γ next d e = some (code, τ, n') →
    match e with
    | .int k => code = [.pushInt k] ∧ τ = .int ∧ n' = next
    | .bool b => code = [.pushBool b] ∧ τ = .bool ∧ n' = next
    | .unit => code = [] ∧ τ = .unit ∧ n' = next
    | .var x => ∃ s, Γ.find x = some (s, τ) ∧ n' = next ∧ (τ ≠ .unit → code = [.load s])
    | .un .neg a => ∃ ca, compE Γ next (d + 1) a = some (ca, .int, n') ∧ τ = .int ∧
        code = .pushInt 0 :: (ca ++ [.intOp .sub .top .top .top])
    | .un .not a => ∃ ca, compE Γ next d a = some (ca, .bool, n') ∧ τ = .bool ∧ code = ca ++ [.not .top .top]
    | .bin op a b => ∃ ca ta n1 cb tb, compE Γ next d a = some (ca, ta, n1) ∧
        compE Γ n1 (if op = .and ∨ op = .or then d else d + 1) b = some (cb, tb, n') ∧
        (op = .and ∨ op = .or → ta = .bool ∧ tb = .bool ∧ τ = .bool ∧
          code = ca ++ (if decide (op = .or) then .jumpIf (.rel (cb.length + 1)) else .jumpIfFalse (.rel (cb.length + 1)))
            :: (cb ++ [.jump (.rel 1), .pushBool (decide (op = .or))])) ∧
        (op ≠ .and → op ≠ .or → ∃ is, strictOp op ta tb = some (is, τ) ∧ code = ca ++ cb ++ is)
    | .ite c t f => ∃ cc n1 ct n2 cf, compE Γ next d c = some (cc, .bool, n1) ∧ compE Γ n1 d t = some (ct, τ, n2) ∧
        compE Γ n2 d f = some (cf, τ, n') ∧
        code = cc ++ .jumpIfFalse (.rel (ct.length + 1)) :: (ct ++ .jump (.rel cf.length) :: cf)
    | .block ss => compSs Γ next d true ss = some (code, τ, n')
    | .print a => ∃ ca ta, compE Γ next d a = some (ca, ta, n') ∧ τ = .unit ∧
        ((ta = .int ∧ code = ca ++ [.print .int]) ∨ (ta = .bool ∧ code = ca ++ [.print .bool]))
    | _ => False := by
  fun_cases compE Γ next d e <;> intro h <;> first | cases h | skip
  · exact ⟨rfl, rfl, rfl⟩
  · exact ⟨rfl, rfl, rfl⟩
  · exact ⟨rfl, rfl, rfl⟩
  · exact ⟨_, ‹_›, rfl, fun hne => absurd rfl hne⟩
  · exact ⟨_, ‹_›, rfl, fun _ => rfl⟩
  · exact ⟨_, ‹_›, rfl, rfl⟩
  · exact ⟨_, ‹_›, rfl, rfl⟩
  · refine ⟨_, _, _, _, _, ‹_›, ‹_›, fun _ => ⟨rfl, rfl, rfl, ?_⟩, fun _ hne => absurd rfl hne⟩
    simp only [List.append_assoc, List.cons_append, List.nil_append]; rfl
  · refine ⟨_, _, _, _, _, ‹_›, ‹_›, fun _ => ⟨rfl, rfl, rfl, ?_⟩, fun hne => absurd rfl hne⟩
    simp only [List.append_assoc, List.cons_append, List.nil_append]; rfl
  · have hso : ¬(_ = BinOp.and ∨ _ = BinOp.or) := fun e => e.elim ‹_ = BinOp.and → False› ‹_ = BinOp.or → False›
    exact ⟨_, _, _, _, _, ‹_›, by rw [if_neg hso]; assumption, fun e => (hso e).elim, fun _ _ => ⟨_, ‹_›, rfl⟩⟩
  · exact ⟨_, _, _, _, _, ‹_›, ‹_›, ‹_›, by simp only [List.append_assoc, List.cons_append, List.nil_append]⟩
  · exact h
  · exact ⟨_, _, ‹_›, rfl, .inl ⟨rfl, rfl⟩⟩
  · exact ⟨_, _, ‹_›, rfl, .inr ⟨rfl, rfl⟩⟩

theorem compS_inv {Γ : TEnv} {next d : Nat} {il : Bool} {s : Stmt} {code : Code} {τ : Ty} {Γ' : TEnv} {n' : Nat} :
    compS Γ next d il s = some (code, τ, Γ', n') →
    match s with
    | .let_ (.bind x) e => ∃ ce t, compE Γ (next + 1) d e = some (ce, t, n') ∧ t ≠ .unit ∧
        code = ce ++ [.store next] ∧ τ = .unit ∧ Γ' = (x, next, t) :: Γ
    | .assign x op e => ∃ sl t ce, Γ.find x = some (sl, t) ∧
        compE Γ next (if op = .set then d else d + 1) e = some (ce, t, n') ∧ τ = .unit ∧ Γ' = Γ ∧
        (op = .set → t ≠ .unit ∧ code = ce ++ [.store sl]) ∧
        (op ≠ .set → t = .int ∧ ∃ o, asgOp op = some o ∧ code = .load sl :: (ce ++ [.intOp o .top .top .top, .store sl]))
    | .expr e => ∃ ce t, compE Γ next d e = some (ce, t, n') ∧
        code = (if !il && t != .unit then ce ++ [.pop] else ce) ∧ τ = (if il then t else .unit) ∧ Γ' = Γ
    | .while_ c body => ∃ cc n1 cb tb, compE Γ next d c = some (cc, .bool, n1) ∧
        compSs Γ n1 0 false body = some (cb, tb, n') ∧ τ = .unit ∧ Γ' = Γ ∧
        code = cc ++ .jumpIfFalse (.rel (cb.length + 1)) :: (closeBody (cc.length + 1) cb.length 0 cb
          ++ [.jump (.rel (-((cc.length : Int) + 1 + cb.length + 1)))])
    | .break_ => code = List.replicate d .pop ++ [.jump .brk] ∧ τ = .unit ∧ Γ' = Γ ∧ n' = next
    | .continue_ => code = List.replicate d .pop ++ [.jump .cont] ∧ τ = .unit ∧ Γ' = Γ ∧ n' = next
    | _ => False := by
  fun_cases compS Γ next d il s <;> intro h <;> first | cases h | skip
  · exact ⟨_, _, ‹_›, ‹_›, rfl, rfl, rfl⟩
  · rename_i htt _
    obtain ⟨rfl, hne⟩ := htt
    exact ⟨_, _, _, ‹_›, ‹_›, rfl, rfl, fun _ => ⟨hne, rfl⟩, fun hne => absurd rfl hne⟩
  · have hop : _ ≠ AsgOp.set := ‹_ = AsgOp.set → False›
    exact ⟨_, _, _, ‹_›, by rw [if_neg hop]; assumption, rfl, rfl, fun e => absurd e hop, fun _ => ⟨rfl, _, ‹_›, rfl⟩⟩
  · exact ⟨_, _, ‹_›, rfl, rfl, rfl⟩
  · exact ⟨_, _, _, _, ‹_›, ‹_›, rfl, rfl, by simp only [List.append_assoc, List.cons_append, List.nil_append]⟩
  · exact ⟨rfl, rfl, rfl, rfl⟩
  · exact ⟨rfl, rfl, rfl, rfl⟩

theorem compSs_inv {Γ : TEnv} {next d : Nat} {blk : Bool} {ss : Stmts} {code : Code} {τ : Ty} {n' : Nat} :
    compSs Γ next d blk ss = some (code, τ, n') →
    match ss with
    | .nil => code = [] ∧ τ = .unit ∧ n' = next
    | .cons s .nil => ∃ Γ', compS Γ next d blk s = some (code, τ, Γ', n')
    | .cons s rest => ∃ c t0 Γ1 n1 cr, compS Γ next d false s = some (c, t0, Γ1, n1) ∧
        compSs Γ1 n1 d blk rest = some (cr, τ, n') ∧ code = c ++ cr := by
  fun_cases compSs Γ next d blk ss <;> intro h <;> cases h
  · exact ⟨rfl, rfl, rfl⟩
  · exact ⟨_, ‹_›⟩
  · rename_i s rest hne c t fst n1 hS ce hSs
    cases rest with
    | nil => exact (hne rfl).elim
    | cons s2 r => exact ⟨_, _, _, _, _, ‹_›, ‹_›, rfl⟩

mutual
theorem compE_mono : ∀ (e : Expr) {Γ : TEnv} {next d : Nat} {c : Code} {τ : Ty} {n' : Nat},
    compE Γ next d e = some (c, τ, n') → next ≤ n'
  | e, Γ, next, d, c, τ, n', h => by
    have hi := compE_inv h
    cases e with
    | int _ | bool _ | unit => exact Nat.le_of_eq hi.2.2.symm
    | var _ => obtain ⟨_, _, rfl, _⟩ := hi; exact Nat.le_refl _
    | un op a =>
      cases op <;> (obtain ⟨_, h1, _⟩ := hi; exact compE_mono a h1)
    | bin op a b =>
      obtain ⟨_, _, _, _, _, h1, h2, _⟩ := hi
      exact Nat.le_trans (compE_mono a h1) (compE_mono b h2)
    | ite cnd t f =>
      obtain ⟨_, _, _, _, _, h1, h2, h3, _⟩ := hi
      exact Nat.le_trans (compE_mono cnd h1) (Nat.le_trans (compE_mono t h2) (compE_mono f h3))
    | block ss => exact compSs_mono ss hi
    | print a => obtain ⟨_, _, h1, _⟩ := hi; exact compE_mono a h1
    | _ => exact hi.elim

theorem compS_mono : ∀ (s : Stmt) {Γ : TEnv} {next d : Nat} {il : Bool} {c : Code} {τ : Ty} {Γ' : TEnv} {n' : Nat},
    compS Γ next d il s = some (c, τ, Γ', n') → next ≤ n'
  | s, Γ, next, d, il, c, τ, Γ', n', h => by
    have hi := compS_inv h
    cases s with
    | let_ p e =>
      cases p with
      | bind x => obtain ⟨_, _, h1, _⟩ := hi; exact Nat.le_of_succ_le (compE_mono e h1)
      | _ => exact hi.elim
    | assign x op e => obtain ⟨_, _, _, _, h1, _⟩ := hi; exact compE_mono e h1
    | expr e => obtain ⟨_, _, h1, _⟩ := hi; exact compE_mono e h1
    | while_ cnd body =>
      obtain ⟨_, _, _, _, h1, h2, _⟩ := hi
      exact Nat.le_trans (compE_mono cnd h1) (compSs_mono body h2)
    | break_ | continue_ => exact Nat.le_of_eq hi.2.2.2.symm
    | _ => exact hi.elim

theorem compSs_mono : ∀ (ss : Stmts) {Γ : TEnv} {next d : Nat} {blk : Bool} {c : Code} {τ : Ty} {n' : Nat},
    compSs Γ next d blk ss = some (c, τ, n') → next ≤ n'
  | ss, Γ, next, d, blk, c, τ, n', h => by
    have hi := compSs_inv h
    cases ss with
    | nil => exact Nat.le_of_eq hi.2.2.symm
    | cons s rest =>
      cases rest with
      | nil => obtain ⟨_, h1⟩ := hi; exact compS_mono s h1
      | cons s2 r =>
        obtain ⟨_, _, _, _, _, h1, h2, _⟩ := hi
        exact Nat.le_trans (compS_mono s h1) (compSs_mono (.cons s2 r) h2)
end

/-! ### arithmetic and the strict operators -/

/-- an `intOp` on two ints on top of the stack, reached by `hst`: the value replaces them, or the VM stops with the
    error `I64.apply` reports -/
theorem out_intOp {W : World} {lc : Nat × Nat} {d pos0 p : Nat} {L0 L T : List VM.Val} {out0 : List String}
    {o : IntOp} {x y : Int} {s : St} {ok sg : List VM.Val → Env → Prop}
    (h : W.P[p]? = some (.intOp o .top .top .top))
    (hst : Steps W.P (W.cfg pos0 L0 T out0) (W.cfg p L (T ++ [.int x] ++ [.int y]) s.out))
    (henv : ok L s.env) (hl : L.length = L0.length) :
    Out W lc d pos0 (p + 1) L0 T out0 (fun v => pushed v .int) ok sg (fun v => HasTy v .int)
      (ofOut (I64.apply o.toI64 x y) s) := by
  have hs := step_intOp W h L T x y s.out
  cases hv : I64.apply o.toI64 x y <;> rw [hv] at hs
  case val c => exact ⟨L, hst.snoc hs, henv, hl, .int c⟩
  all_goals exact ⟨_, _, hst, hs, rfl⟩

theorem binop_arith {op : BinOp} {o : IntOp} (h : arithOp op = some o) (m : Nat) (x y : Int) (s : St) :
    binop (m + 1) op (.int x) (.int y) s = ofOut (I64.apply o.toI64 x y) s := by
  cases op <;> cases h <;> rfl

theorem binop_cmp {op : BinOp} {o : CmpOp} (h : cmpOp op = some o) (m : Nat) (x y : Int) (s : St) :
    binop (m + 1) op (.int x) (.int y) s = .ok (.bool (o.eval x y)) s := by
  cases op <;> cases h <;> rfl

/-- the instructions of a strict operator, run on both operand values (reached by `hst`), give what `binop` gives -/
theorem strictOp_sound {W : World} {lc : Nat × Nat} {d pos0 p : Nat} {L0 L T : List VM.Val} {out0 : List String}
    {op : BinOp} {ta tb τ : Ty} {is : Code} {va vb : Sem.Val} {s : St} {ok sg : List VM.Val → Env → Prop}
    (hs : strictOp op ta tb = some (is, τ)) (ha : HasTy va ta) (hb : HasTy vb tb) (m : Nat)
    (hcode : codeAt W.P p (resolveAt p lc is))
    (hst : Steps W.P (W.cfg pos0 L0 T out0) (W.cfg p L (T ++ [encV va] ++ [encV vb]) s.out))
    (henv : ok L s.env) (hl : L.length = L0.length) :
    Out W lc d pos0 (p + is.length) L0 T out0 (fun v => pushed v τ) ok sg (fun v => HasTy v τ)
      (binop (m + 1) op va vb s) := by
  revert hs
  fun_cases strictOp op ta tb <;> intro hs <;> cases hs <;> cases ha <;> cases hb
  · exact ⟨L, hst.snoc (step_intCmp W (codeAt_head hcode) L T _ _ s.out), henv, hl, .bool _⟩
  · obtain ⟨h0, h1⟩ := codeAt_resolve_cons hcode
    exact ⟨L, (hst.snoc (step_intCmp W h0 L T _ _ s.out)).snoc (step_not W (codeAt_head h1) L T _ s.out), henv, hl, .bool _⟩
  · exact ⟨L, hst.snoc (step_eqBool W (codeAt_head hcode) L T _ _ s.out), henv, hl, .bool _⟩
  · obtain ⟨h0, h1⟩ := codeAt_resolve_cons hcode
    exact ⟨L, (hst.snoc (step_eqBool W h0 L T _ _ s.out)).snoc (step_not W (codeAt_head h1) L T _ s.out), henv, hl, .bool _⟩
  · rw [binop_arith ‹_›]; exact out_intOp (codeAt_head hcode) hst henv hl
  · rw [binop_cmp ‹_›]
    exact ⟨L, hst.snoc (step_intCmp W (codeAt_head hcode) L T _ _ s.out), henv, hl, .bool _⟩

theorem strictOp_ne_unit {op : BinOp} {ta tb : Ty} {r : Code × Ty} (h : strictOp op ta tb = some r) :
    ta ≠ .unit ∧ tb ≠ .unit := by
  unfold strictOp at h
  split at h <;> first | exact ⟨by decide, by decide⟩ | cases h

theorem evalE_strict (Pg : Prog) (n : Nat) {op : BinOp} (h1 : op ≠ .and) (h2 : op ≠ .or) (a b : Expr) (st : St) :
    evalE (n + 1) Pg st (.bin op a b) =
      (evalE n Pg st a).bind fun va s1 => (evalE n Pg s1 b).bind fun vb s2 => binop n op va vb s2 := by
  cases op <;> first | rfl | exact absurd rfl h1 | exact absurd rfl h2

theorem evalS_compound (Pg : Prog) (n : Nat) {op : AsgOp} (hop : op ≠ .set) (x : String) (e : Expr) (st : St) :
    evalS (n + 1) Pg st (.assign x op e) =
      match lookup st.env x, asgBin op with
      | some old, some bop =>
        (evalE n Pg st e).bind fun v s1 => (binop n bop old v s1).bind fun r s2 => assignVar s2 x r
      | _, _ => .stuck ("assign unbound " ++ x) := by
  cases op <;> first | rfl | exact absurd rfl hop

theorem asg_arith {op : AsgOp} {o : IntOp} (h : asgOp op = some o) : ∃ bop, asgBin op = some bop ∧ arithOp bop = some o := by
  cases op <;> cases h <;> exact ⟨_, rfl, rfl⟩

end Abra.Compile
