import AbraProofs.Properties.C06
import AbraProofs.Lemmas.GCPacingBound
/-!
# C07 — unreachable memory is reclaimed; a dropped runtime frees everything

Model: `Abra.GC` (M5) for reclamation, `Abra.GCP` (M5p: object sizes and the counters `heap_size`,
`last_gc_heap_size`, `gc_debt` on top of M5) for the byte arithmetic of the pacing and the heap bound, and an
allocation ledger for `Drop`.
-/
namespace Abra.GC

/-- A run inside one collection cycle, carrying the ghost set "reachable when the cycle started, or
    allocated since".  Collector increments are taken only while a cycle is in progress (a new cycle
    is a new statement); mutator steps are arbitrary contract-abiding VM instructions. -/
inductive CycleRun : (Nat → Prop) → St → (Nat → Prop) → St → Prop
  | refl (L : Nat → Prop) (σ : St) : CycleRun L σ L σ
  | gc {L L' : Nat → Prop} {σ σ' : St} :
      CycleRun L σ L' σ' → σ'.phase ≠ .idle → CycleRun L σ L' (gcStep σ')
  | mutator {L L' : Nat → Prop} {σ σ' σ'' : St} {new pushed : List Nat} :
      CycleRun L σ L' σ' → MutatorOK σ' σ'' new pushed →
      CycleRun L σ (fun a => L' a ∨ a ∈ new) σ''

theorem cycleRun_inv {L L' : Nat → Prop} {σ σ' : St} (r : CycleRun L σ L' σ') (hi : Inv σ)
    (hl : InvL σ L) (hidle0 : σ.phase = .idle → ∀ a ∈ σ.heap, L a) :
    Inv σ' ∧ InvL σ' L' ∧ (σ'.phase = .idle → ∀ a ∈ σ'.heap, L' a) := by
  induction r with
  | refl => exact ⟨hi, hl, hidle0⟩
  | gc _ hne ih =>
    obtain ⟨i1, l1, _⟩ := ih hi hl hidle0
    exact ⟨gcStep_inv i1, gcStep_invL i1 l1 hne⟩
  | mutator _ m ih =>
    obtain ⟨i1, l1, id1⟩ := ih hi hl hidle0
    refine ⟨mutator_inv i1 m, mutator_invL i1 m l1, fun hid a ha => ?_⟩
    rw [m.heap] at ha
    exact (List.mem_append.1 ha).imp_left (id1 (m.phase ▸ hid) a)

/-- **C07, reclamation.** Start a collection cycle in any idle state and let it run to completion under
    any interleaving with the program: every object still allocated when the collector is idle again
    was reachable when the cycle started or was allocated during the cycle.  Hence an object that is
    unreachable when a cycle starts is reclaimed by that cycle, and garbage created during a cycle
    survives at most until the end of the next one. -/
theorem C07_cycle_complete {σ0 σ : St} {L' : Nat → Prop} (h0 : Inv σ0) (hp : σ0.phase = .idle)
    (r : CycleRun (Reach σ0) (gcStart σ0) L' σ) (hidle : σ.phase = .idle) :
    ∀ a ∈ σ.heap, L' a := by
  have hphase : (gcStart σ0).phase ≠ .idle := by rw [gcStart_idle hp]; exact fun h => Phase.noConfusion h
  exact (cycleRun_inv r (gcStart_inv h0) (gcStart_invL h0 hp) (fun h => absurd h hphase)).2.2 hidle

/-- the quiet case: if the program does nothing, a full cycle leaves only objects that were reachable at its start -/
theorem C07_quiet_cycle_leaves_only_reachable {σ0 σ : St} (h0 : Inv σ0) (hp : σ0.phase = .idle)
    (r : CycleRun (Reach σ0) (gcStart σ0) (Reach σ0) σ) (hidle : σ.phase = .idle) :
    ∀ a ∈ σ.heap, Reach σ0 a :=
  C07_cycle_complete h0 hp r hidle

/-- `n` collector increments in a row (the program is quiet) -/
def gcIter : Nat → St → St
  | 0, σ => σ
  | n + 1, σ => gcIter n (gcStep σ)

/-- **C07, progress.** While a cycle is running, every collector increment strictly decreases the
    remaining work `mu` (marking: 2·white + gray + heap + 2; sweeping: unswept + 1). -/
theorem C07_collector_progress {σ : St} (h : Inv σ) (hne : σ.phase ≠ .idle) :
    mu (gcStep σ) < mu σ :=
  gcStep_measure h hne

/-- **C07, a cycle terminates.** From any state of a running cycle, at most `mu σ` increments
    (≤ 3·heap + gray + 2) bring the collector back to Idle when the program does not allocate. -/
theorem C07_quiet_cycle_terminates : ∀ (k : Nat) (σ : St), Inv σ → mu σ ≤ k →
    ∃ n, n ≤ mu σ ∧ (gcIter n σ).phase = .idle := by
  intro k
  induction k with
  | zero =>
    intro σ _ hk
    refine ⟨0, Nat.zero_le _, ?_⟩
    show σ.phase = .idle
    cases hp : σ.phase with
    | idle => rfl
    | marking => rw [mu_marking hp] at hk; exact absurd hk (Nat.not_succ_le_zero _)
    | sweeping => rw [mu_sweeping hp] at hk; exact absurd hk (Nat.not_succ_le_zero _)
  | succ k ih =>
    intro σ hi hk
    by_cases hp : σ.phase = .idle
    · exact ⟨0, Nat.zero_le _, hp⟩
    · have hlt := gcStep_measure hi hp
      obtain ⟨n, hn, hidle⟩ := ih (gcStep σ) (gcStep_inv hi) (Nat.le_of_lt_succ (Nat.lt_of_lt_of_le hlt hk))
      exact ⟨n + 1, Nat.succ_le_of_lt (Nat.lt_of_le_of_lt hn hlt), hidle⟩

/-! ### the allocation ledger and `Drop` -/

/-- who owns the allocations of one runtime: each green thread owns its `heap_list`; the shared
    read-only part owns the static strings -/
structure Ledger where
  threads : List (List Nat)
  statics : List Nat

def Ledger.live (l : Ledger) : List Nat := l.threads.flatten ++ l.statics

/-- `Drop for VmGreenThread` deallocates every `heap_list` entry; `Drop for VmSharedReadonly`
    deallocates every static string; dropping the runtime drops all of them -/
def dropRuntime (l : Ledger) : List Nat × Ledger :=
  (l.threads.flatten ++ l.statics, { threads := [], statics := [] })

/-- **C07, drop.** Dropping a runtime frees every allocation it owned exactly once and leaves none. -/
theorem C07_drop_frees_all (l : Ledger) :
    (dropRuntime l).1 = l.live ∧ (dropRuntime l).2.live = [] := by
  simp [dropRuntime, Ledger.live]

/-- non-vacuity: a cycle run exists (start, and one increment) -/
example : CycleRun (Reach init) (gcStart init) (Reach init) (gcStep (gcStart init)) :=
  CycleRun.gc (CycleRun.refl _ _) (by decide)

end Abra.GC

/-! ## The pacing: when cycles start, how much an increment does, hence the peak heap -/
namespace Abra.GCP
open Abra.GC

/-- **C07, the debt covers the heap.** `heap_size ≤ gc_debt` (with `heap_size` the sum of the object sizes, a
    duplicate-free gray stack and the invariant of M5) holds for a fresh thread and is preserved by every call
    of `maybe_gc` (whatever the budget charge `leak`) and by every VM instruction that respects the contract. -/
theorem C07_debt_covers_heap :
    PInv pinit ∧ (∀ p leak, PInv p → PInv (maybeGc p leak)) ∧
    (∀ p p' new pushed, PInv p → PMutatorOK p p' new pushed → PInv p') ∧
    (∀ p, PInv p → p.heapBytes = sumSize p.size p.g.heap ∧ p.heapBytes ≤ p.debt) :=
  ⟨pinit_pinv, fun _ leak h => maybeGc_pinv leak h, fun _ _ _ _ h m => pmut_pinv h m,
   fun _ h => ⟨h.acct, h.debt⟩⟩

/-- **C07, one increment covers the heap.** Under the invariant (debt ≥ heap), with no foreign charge or one
    that leaves the slice above the heap size: a marking increment runs `process_gray` until the gray stack is
    empty — and enters the sweep phase unless the root rescan finds a root that is still unmarked; a sweeping
    increment reaches the end of the heap list: the collector is idle again and `last_gc_heap_size` is the new
    `heap_size`, the sum of the sizes of the survivors.  (Objects of size 0 and the saturating subtraction do
    not matter: the slice `2 * gc_debt` exceeds the bytes of all gray and white objects together.) -/
theorem C07_increment_covers_heap {p : PSt} {leak : Nat} (h : PInv p) (hl : LeakOK p leak) :
    (p.g.phase = .marking →
      (markLoop p.size (markFuel p.g) (stepFactor * p.debt - leak) p.g).gray = [] ∧
      ((∀ r ∈ p.g.roots, (markLoop p.size (markFuel p.g) (stepFactor * p.debt - leak) p.g).marked r = true) →
        (maybeGc p leak).g.phase = .sweeping) ∧
      (maybeGc p leak).g.phase ≠ .idle ∧ (maybeGc p leak).heapBytes = p.heapBytes) ∧
    (p.g.phase = .sweeping →
      (maybeGc p leak).g.phase = .idle ∧ (maybeGc p leak).lastGc = (maybeGc p leak).heapBytes ∧
      (maybeGc p leak).heapBytes = sumSize (maybeGc p leak).size (maybeGc p leak).g.heap ∧
      (maybeGc p leak).heapBytes ≤ p.heapBytes) := by
  refine ⟨fun hp => ?_, fun hp => ?_⟩
  · rw [maybeGc_marking leak hp]
    obtain ⟨_, _, h3, _, hcov⟩ := markIncr_spec leak h hp (invL_top _)
    have h1 := hcov (leak_cover h (ne_idle_of_marking hp) hl)
    refine ⟨h1.1, fun hr => finishMark_sweeps h1.1 fun r hr' => hr r ((markLoop_ext ..).roots ▸ hr'),
      h3, rfl⟩
  · rw [maybeGc_sweeping leak hp]
    obtain ⟨h1, _, h3, h4, h5, _⟩ := sweepIncr_spec h hp (invL_top _)
    exact ⟨h3, h4, h1.acct, h5⟩

/-- A run inside one collection cycle of the pacing model, counting the calls of `maybe_gc` (each with an
    acceptable foreign charge) and carrying the ghost set; mutator steps are arbitrary contract-abiding VM
    instructions (and host calls). -/
inductive PCycleRun : (Nat → Prop) → PSt → (Nat → Prop) → PSt → Nat → Prop
  | refl (L : Nat → Prop) (p : PSt) : PCycleRun L p L p 0
  | gc {L L' : Nat → Prop} {p q : PSt} {n : Nat} (leak : Nat) :
      PCycleRun L p L' q n → q.g.phase ≠ .idle → LeakOK q leak → PCycleRun L p L' (maybeGc q leak) (n + 1)
  | mutator {L L' : Nat → Prop} {p q q' : PSt} {n : Nat} {new pushed : List Nat} :
      PCycleRun L p L' q n → PMutatorOK q q' new pushed →
      PCycleRun L p (fun a => L' a ∨ a ∈ new) q' n

theorem pcycleRun_inv {L L' : Nat → Prop} {ps q : PSt} {n c : Nat} (r : PCycleRun L ps L' q n)
    (h1 : PInv ps) (h2 : InvL ps.g L) (h3 : rho ps L ≤ c) (h4 : ps.g.phase ≠ .idle) :
    PInv q ∧ InvL q.g L' ∧ n + rho q L' ≤ c ∧ (q.g.phase = .idle → ∀ a ∈ q.g.heap, L' a) := by
  induction r with
  | refl => exact ⟨h1, h2, by rwa [Nat.zero_add], fun hid => absurd hid h4⟩
  | gc leak _ hne hl ih =>
    obtain ⟨i1, i2, i3, _⟩ := ih h1 h2 h3 h4
    obtain ⟨g1, g2, g3, _, _, g6⟩ := gc_cycle_step i1 hne i2 hl
    refine ⟨g1, g2, ?_, fun hid => (g6 hid).2.2⟩
    rw [Nat.add_assoc, Nat.add_comm 1]; exact Nat.le_trans (Nat.add_le_add_left g3 _) i3
  | mutator _ m ih =>
    obtain ⟨i1, i2, i3, i4⟩ := ih h1 h2 h3 h4
    refine ⟨pmut_pinv i1 m, mutator_invL i1.inv m.graph i2, Nat.le_trans (Nat.add_le_add_left (pmut_rho _ m) _) i3,
      fun hid a ha => ?_⟩
    rw [m.graph.heap] at ha
    exact (List.mem_append.1 ha).imp_left (i4 (m.graph.phase ▸ hid) a)

/-- **C07, a cycle spans a bounded number of VM steps.** If the call of `maybe_gc` before step `t` starts a
    cycle in state `p0`, then under any interleaving with the program at most `reachCount p0 + 2` further calls
    are made while the collector is not idle (one marking increment per white object that was reachable at the
    start and that the program moves onto the stack behind the collector's back, plus the increment that ends
    marking, plus one sweep increment): the collector is idle again by step `t + reachCount p0 + 3` at the
    latest.  Moreover what is then allocated was reachable at the start or allocated since.  (The three-call
    case is the separate theorem `C07_quiet_cycle_three_steps`, proved for collector calls with no program
    step in between.) -/
theorem C07_cycle_spans_k_steps {p0 q : PSt} {L' : Nat → Prop} {n leak0 : Nat} (h0 : PInv p0)
    (hp : p0.g.phase = .idle) (hgt : p0.heapBytes > p0.lastGc * pauseFactor)
    (r : PCycleRun (Reach p0.g) (maybeGc p0 leak0) L' q n) :
    n + rho q L' ≤ reachCount p0 + 2 ∧ (q.g.phase ≠ .idle → n ≤ reachCount p0 + 1) ∧
    (q.g.phase = .idle → ∀ a ∈ q.g.heap, L' a) := by
  have hs := gc_start_step leak0 h0 hp hgt
  have key := pcycleRun_inv r hs.1 hs.2.2.1 hs.2.2.2.2.2.2 (ne_idle_of_marking hs.2.1)
  exact ⟨key.2.2.1, fun hne => Nat.le_of_succ_le_succ
    (Nat.le_trans (Nat.add_le_add_left (rho_pos L' hne) n) key.2.2.1), key.2.2.2⟩

/-- **C07, the common case: three calls.** When the threshold is exceeded in an idle state and the program does
    not run in between, the cycle is: start, one marking increment, one sweeping increment — the collector is
    idle again after three calls of `maybe_gc`.  (With program steps in between the same holds as long as no
    unmarked root appears; that generalisation is NOT proved here, it is what the harness observes: 1261 of
    1290 real cycles.) -/
theorem C07_quiet_cycle_three_steps {p : PSt} (h : PInv p) (hp : p.g.phase = .idle)
    (hgt : p.heapBytes > p.lastGc * pauseFactor) :
    (maybeGc (maybeGc (maybeGc p 0) 0) 0).g.phase = .idle ∧
    (maybeGc (maybeGc (maybeGc p 0) 0) 0).lastGc = (maybeGc (maybeGc (maybeGc p 0) 0) 0).heapBytes := by
  obtain ⟨hs1, hs2, _⟩ := gc_start_step 0 h hp hgt
  have h1 := (C07_increment_covers_heap (leak := 0) hs1 (Or.inl rfl)).1 hs2
  -- the call that starts the cycle has just marked every root
  have hroots : ∀ r ∈ (maybeGc p 0).g.roots, (maybeGc p 0).g.marked r = true := by
    rw [maybeGc_start 0 hp hgt]
    show ∀ r ∈ (gcStart p.g).roots, (gcStart p.g).marked r = true
    rw [gcStart_idle hp]
    intro r (hr : r ∈ (markAll p.g p.g.roots).roots)
    show (markAll p.g p.g.roots).marked r = true
    rw [markAll_marked]; simp [((markAll_ext p.g p.g.roots).roots ▸ hr : r ∈ p.g.roots)]
  have h2 := h1.2.1 fun r hr => (markLoop_ext ..).mono r (hroots r hr)
  have h3 := (C07_increment_covers_heap (leak := 0) (maybeGc_pinv 0 hs1) (Or.inl rfl)).2 h2
  exact ⟨h3.1, h3.2.1⟩

/-- From any observed state that satisfies the run invariant (e.g. a thread created with a copied heap, whose
    bytes count as allocated before its first call): the invariant is preserved by both kinds of steps and
    implies the bound.  The remaining calls of a cycle are bounded by the white objects of the ghost set (`rho`). -/
theorem C07_bounded_heap_from {R A N : Nat} :
    (∀ p s leak, RInv R A (N + 3) p s (rho p) → (StartsCycle p → reachBytes p ≤ R ∧ reachCount p ≤ N) →
      LeakOK p leak → RInv R A (N + 3) (maybeGc p leak) 0 (rho (maybeGc p leak))) ∧
    (∀ p p' s new pushed, RInv R A (N + 3) p s (rho p) → PMutatorOK p p' new pushed →
      s + (p'.heapBytes - p.heapBytes) ≤ A → RInv R A (N + 3) p' (s + (p'.heapBytes - p.heapBytes)) (rho p')) ∧
    (∀ p s, RInv R A (N + 3) p s (rho p) → p.heapBytes ≤ boundB R A N) ∧
    (∀ p s, PInv p → p.g.phase = .idle → p.heapBytes ≤ 2 * p.lastGc + s → s ≤ A → p.lastGc ≤ R + (N + 3) * A →
      RInv R A (N + 3) p s (rho p)) := by
  refine ⟨fun p s leak h hstart hl => ?_,
    fun _ _ _ _ _ h m hA => rinv_mut h m hA fun L hp _ => ⟨pmut_rho L m, rho_pos _ (m.graph.phase ▸ hp)⟩,
    fun _ _ h => by rw [boundB_eq]; exact rinv_bound (Nat.le_add_left 1 _) h,
    fun _ _ h hp hi hs hl => ⟨h, hs, hl, fun _ => hi, fun hne => absurd hp hne⟩⟩
  refine rinv_gc leak h hl (fun hs => ?_) fun L hp hL hq =>
    ⟨(gc_cycle_step h.pinv hp hL hl).2.2.1, rho_pos L hq⟩
  obtain ⟨_, h2, _, _, _, _, h7⟩ := gc_start_step leak h.pinv hs.1 hs.2
  obtain ⟨hR, hN⟩ := hstart hs
  exact ⟨hR, Nat.succ_le_succ (Nat.le_trans h7 (Nat.add_le_add_right hN 2)), rho_pos _ (ne_idle_of_marking h2)⟩

/-- Runs of one green thread under the real pacing, from a fresh thread: calls of `maybe_gc` (constructor `gc`)
    interleaved with contract-abiding mutator steps (`mutator`: VM instructions and host calls).  The second index
    is the number of bytes allocated since the last call of `maybe_gc`.  The hypotheses of the bound are the
    premises of the constructors: whenever a call of `maybe_gc` starts a cycle the reachable objects have at most
    `R` bytes and are at most `N`, a foreign budget charge is acceptable (`LeakOK`), and at most `A` bytes are
    allocated between two calls (one VM instruction, plus the host call it may trigger). -/
inductive BRun (R A N : Nat) : PSt → Nat → Prop
  | init : BRun R A N pinit 0
  | gc {p : PSt} {s : Nat} (leak : Nat) : BRun R A N p s →
      (StartsCycle p → reachBytes p ≤ R ∧ reachCount p ≤ N) → LeakOK p leak → BRun R A N (maybeGc p leak) 0
  | mutator {p p' : PSt} {s : Nat} {new pushed : List Nat} : BRun R A N p s → PMutatorOK p p' new pushed →
      s + (p'.heapBytes - p.heapBytes) ≤ A → BRun R A N p' (s + (p'.heapBytes - p.heapBytes))

theorem brun_rinv {R A N : Nat} {p : PSt} {s : Nat} (r : BRun R A N p s) : RInv R A (N + 3) p s (rho p) := by
  induction r with
  | init => exact rinv_init R A (N + 3) _
  | gc leak _ hRN hl ih => exact C07_bounded_heap_from.1 _ _ leak ih hRN hl
  | mutator _ m hA ih => exact C07_bounded_heap_from.2.1 _ _ _ _ _ ih m hA

/-- **C07, bounded heap.** If, whenever a cycle starts, the reachable objects have at most `R` bytes and are at
    most `N`, and at most `A` bytes are allocated between two calls of `maybe_gc`, then at every point of every
    run `heap_size ≤ 2·R + (3·N + 9)·A`; moreover `heap_size ≤ gc_debt`, and `last_gc_heap_size ≤ R + (N + 3)·A`.
    (With positive object sizes `N` may be taken as `R`: `C07_reach_count_le_bytes`.) -/
theorem C07_bounded_heap {R A N : Nat} {p : PSt} {s : Nat} (r : BRun R A N p s) :
    p.heapBytes ≤ boundB R A N ∧ p.heapBytes ≤ p.debt ∧ p.lastGc ≤ R + (N + 3) * A :=
  ⟨C07_bounded_heap_from.2.2.1 _ _ (brun_rinv r), (brun_rinv r).pinv.debt, (brun_rinv r).last⟩

/-- The same runs, with the number of calls per cycle bounded through the program's behaviour instead of the
    number of reachable objects: the third index counts, in the running cycle, the marking increments that stayed
    in Marking — by `C07_increment_covers_heap` that happens only when the root rescan finds an unmarked root,
    i.e. when the program has moved a not yet marked object from the heap onto the stack since the last scan
    (consecutive pops of nested containers) — and every call keeps that count at most `M`. -/
inductive BRunH (R A M : Nat) : PSt → Nat → Nat → Prop
  | init : BRunH R A M pinit 0 0
  | gc {p : PSt} {s hc : Nat} (leak : Nat) : BRunH R A M p s hc → (StartsCycle p → reachBytes p ≤ R) →
      LeakOK p leak → hitsAfter p leak hc ≤ M → BRunH R A M (maybeGc p leak) 0 (hitsAfter p leak hc)
  | mutator {p p' : PSt} {s hc : Nat} {new pushed : List Nat} : BRunH R A M p s hc →
      PMutatorOK p p' new pushed → s + (p'.heapBytes - p.heapBytes) ≤ A →
      BRunH R A M p' (s + (p'.heapBytes - p.heapBytes)) hc

theorem brunH_rinv {R A M : Nat} {p : PSt} {s hc : Nat} (r : BRunH R A M p s hc) :
    RInv R A (M + 3) p s (fun _ => rhoH M p hc) := by
  induction r with
  | init => exact rinv_init R A (M + 3) _
  | gc leak _ hR hl hM ih => exact rinvH_gc leak ih hl hR hM
  | mutator _ m hA ih => exact rinvH_mut ih m hA

/-- **C07, bounded heap, sharp form.** If the reachable objects have at most `R` bytes whenever a cycle starts,
    at most `A` bytes are allocated between two calls of `maybe_gc`, and in every cycle at most `M` marking
    increments end with an unmarked root on the stack (`M = 0` for a program that never pops nested containers in
    consecutive instructions), then at every point of every run `heap_size ≤ 2·R + (3·M + 9)·A`.  (That a cycle
    then takes at most `M + 3` calls is the internal invariant `brunH_rinv` of the proof, not part of this
    statement; the bound on `M` is a hypothesis carried by `BRunH`, measured on real runs, not proved for any
    program.) -/
theorem C07_bounded_heap_hits {R A M : Nat} {p : PSt} {s hc : Nat} (r : BRunH R A M p s hc) :
    p.heapBytes ≤ boundB R A M ∧ p.heapBytes ≤ p.debt ∧ p.lastGc ≤ R + (M + 3) * A := by
  refine ⟨?_, (brunH_rinv r).pinv.debt, (brunH_rinv r).last⟩
  rw [boundB_eq]
  exact rinv_bound (Nat.le_add_left 1 _) (brunH_rinv r)

/-- with positive object sizes the object-count hypothesis follows from the byte hypothesis (`N := R`) -/
theorem C07_reach_count_le_bytes {p : PSt} {R : Nat} (h : ∀ a ∈ p.g.heap, 1 ≤ p.size a)
    (hR : reachBytes p ≤ R) : reachCount p ≤ R :=
  Nat.le_trans (reachCount_le_bytes h) hR

/-- **Tie to the driver.** If the executable contract check accepts a before/after pair of pacing states
    observed on the real VM, the pair satisfies the contract of the theorems; with the invariant in the
    before-state it holds in the after-state. -/
theorem C07_checked_pacing_step {p p' : PSt} {fuel : Nat} (h : PInv p) (hb : pmutatorOKb p p' fuel = true) :
    PMutatorOK p p' (p'.g.todo.drop p.g.todo.length) (p'.g.gray.take (p'.g.gray.length - p.g.gray.length)) ∧
    PInv p' :=
  ⟨pmutatorOKb_sound hb, pmut_pinv h (pmutatorOKb_sound hb)⟩

/-! ### non-vacuity: a loop that allocates garbage -/

namespace Example
/-- strings only: no children; `ms` lists the marked addresses -/
def st (ms done todo roots gray : List Nat) (ph : Phase) : St :=
  { obj := fun a => ⟨[], ms.contains a⟩, done := done, todo := todo, roots := roots, gray := gray, phase := ph }
def sz (a : Nat) : Nat := if a = 4 then 40 else 10

/-- after the first instruction: string 1 allocated and on the stack -/
def e1 : PSt := { g := st [] [] [1] [1] [] .idle, size := sz, heapBytes := 10, lastGc := 0, debt := 10 }
/-- (cycle 1 started) string 2 allocated while marking, string 1 dropped -/
def e2 : PSt := { g := st [1, 2] [] [1, 2] [2] [2, 1] .marking, size := sz, heapBytes := 20, lastGc := 0, debt := 20 }
/-- string 3 allocated while sweeping, string 2 dropped -/
def e3 : PSt := { g := st [1, 2, 3] [] [1, 2, 3] [3] [] .sweeping, size := sz, heapBytes := 30, lastGc := 0, debt := 30 }
/-- (cycle 1 over: everything survived, `last_gc_heap_size = 30`) a 40-byte string 4 allocated, 3 dropped -/
def e4 : PSt := { g := st [] [] [1, 2, 3, 4] [4] [] .idle, size := sz, heapBytes := 70, lastGc := 30, debt := 70 }
/-- (cycle 2 started: 70 > 2·30) string 5 allocated while marking, 4 dropped -/
def e5 : PSt := { g := st [4, 5] [] [1, 2, 3, 4, 5] [5] [5, 4] .marking, size := sz, heapBytes := 80, lastGc := 30, debt := 80 }

/-- a call of `maybe_gc` with no foreign charge, for both kinds of run at once: the set `S` bounds what is reachable -/
theorem gcB {R A N M : Nat} {p : PSt} {s hc : Nat} (S : List Nat) (r : BRun R A N p s ∧ BRunH R A M p s hc)
    (h : reachBoundB p S R N = true) (hM : hitsAfter p 0 hc ≤ M) :
    BRun R A N (maybeGc p 0) 0 ∧ BRunH R A M (maybeGc p 0) 0 (hitsAfter p 0 hc) :=
  ⟨.gc 0 r.1 (fun _ => reachBoundB_sound h) (.inl rfl), .gc 0 r.2 (fun _ => (reachBoundB_sound h).1) (.inl rfl) hM⟩

/-- a VM instruction that the executable contract accepts, for both kinds of run at once -/
theorem mutB {R A N M : Nat} {p : PSt} {s hc : Nat} (p' : PSt) (r : BRun R A N p s ∧ BRunH R A M p s hc)
    (h : pmutatorOKb p p' 10 = true) (hA : s + (p'.heapBytes - p.heapBytes) ≤ A) :
    BRun R A N p' (s + (p'.heapBytes - p.heapBytes)) ∧ BRunH R A M p' (s + (p'.heapBytes - p.heapBytes)) hc :=
  ⟨.mutator r.1 (pmutatorOKb_sound h) hA, .mutator r.2 (pmutatorOKb_sound h) hA⟩

/-- the seven steps, every check evaluated once -/
theorem runs : ∃ hc, BRun 40 40 1 (maybeGc (maybeGc e5 0) 0) 0 ∧ BRunH 40 40 0 (maybeGc (maybeGc e5 0) 0) 0 hc := by
  have r0 : BRun 40 40 1 pinit 0 ∧ BRunH 40 40 0 pinit 0 0 := ⟨.init, .init⟩
  have r1 := mutB e1 (gcB [] r0 (by decide +kernel) (by decide +kernel)) (by decide +kernel) (by decide +kernel)
  have r2 := mutB e2 (gcB [1] r1 (by decide +kernel) (by decide +kernel)) (by decide +kernel) (by decide +kernel)
  have r3 := mutB e3 (gcB [2] r2 (by decide +kernel) (by decide +kernel)) (by decide +kernel) (by decide +kernel)
  have r4 := mutB e4 (gcB [3] r3 (by decide +kernel) (by decide +kernel)) (by decide +kernel) (by decide +kernel)
  have r5 := mutB e5 (gcB [4] r4 (by decide +kernel) (by decide +kernel)) (by decide +kernel) (by decide +kernel)
  exact ⟨_, gcB [5] (gcB [5] r5 (by decide +kernel) (by decide +kernel)) (by decide +kernel) (by decide +kernel)⟩

/-- seven VM steps of `while true { s = "…" }` with bounded live data (R = 40 bytes, N = 1 object, A = 40):
    two complete cycles, the second one reclaims the garbage of the first -/
theorem run : BRun 40 40 1 (maybeGc (maybeGc e5 0) 0) 0 :=
  let ⟨_, h⟩ := runs; h.1

/-- the same seven steps as a run without rescan hits (`M = 0`: every cycle takes three calls) -/
theorem runH : ∃ hc, BRunH 40 40 0 (maybeGc (maybeGc e5 0) 0) 0 hc :=
  let ⟨hc, h⟩ := runs; ⟨hc, h.2⟩
end Example

/-- non-vacuity of `C07_bounded_heap`: the run above satisfies every hypothesis; the peak was 80 bytes, and the
    second cycle has reclaimed strings 1, 2, 3 (heap list `[5, 4]`, 50 bytes), within the bound 560 -/
example : (maybeGc (maybeGc Example.e5 0) 0).heapBytes = 50 ∧
    (maybeGc (maybeGc Example.e5 0) 0).g.heap = [5, 4] ∧
    (maybeGc (maybeGc Example.e5 0) 0).g.phase = .idle ∧ boundB 40 40 1 = 560 ∧
    (maybeGc (maybeGc Example.e5 0) 0).heapBytes ≤ boundB 40 40 1 :=
  ⟨by decide +kernel, by decide +kernel, by decide +kernel, by decide +kernel, (C07_bounded_heap Example.run).1⟩

/-- non-vacuity of `C07_bounded_heap_hits`: the sharp bound for the example is 2·40 + 9·40 = 440 -/
example : (maybeGc (maybeGc Example.e5 0) 0).heapBytes ≤ boundB 40 40 0 ∧ boundB 40 40 0 = 440 := by
  obtain ⟨hc, r⟩ := Example.runH
  exact ⟨(C07_bounded_heap_hits r).1, by decide +kernel⟩

/-- non-vacuity of `C07_cycle_spans_k_steps` and `C07_increment_covers_heap`: the second cycle of the example
    (started from `e4`) is a `PCycleRun` of two increments -/
example : PCycleRun (Reach Example.e4.g) (maybeGc Example.e4 0) (Reach Example.e4.g)
    (maybeGc (maybeGc (maybeGc Example.e4 0) 0) 0) 2 :=
  PCycleRun.gc 0 (PCycleRun.gc 0 (PCycleRun.refl _ _) (by decide +kernel) (Or.inl rfl)) (by decide +kernel) (Or.inl rfl)

end Abra.GCP
