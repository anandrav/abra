import AbraProofs.Properties.C12
/-!
# C13 — an arm is reported redundant exactly when no value can reach it

`check` returns one `useful` flag per arm (`match_expr_exhaustive_check` reports the arms whose flag
is `false` as redundant).  Both directions are read off the invariant `compute_good`
(Lemmas/PatMatrix.lean): the flag of arm `i` is `true` iff some well-typed value reaches arm `i`
first.  Float literal constructors carry the parsed bit pattern (the repaired behaviour of D15), so
`1.0` and `1.00` are the same constructor (the same `Pat.float bits` in the model).
-/
namespace Abra.PatMatrix

/-- **Reported redundant ⇒ unreachable**: every value the arm matches is matched by an earlier arm. -/
theorem C13_useless_sound {env : EnumEnv} (hinh : Inhabited' env) {fuel : Nat} {ty : Ty} {arms : List Pat}
    (htyped : ∀ p ∈ arms, patTyped env p ty = true) {flags : List Bool} {wits : List DPat}
    (h : check env fuel ty arms = some (flags, wits)) (i : Nat) (hi : i < arms.length)
    (hflag : flags.getD i false = false) :
    ∀ v, hasTy env v ty = true → pmatch arms[i] v = true → ∃ j, ∃ hj : j < i, pmatch (arms[j]'(by omega)) v = true := by
  intro v hv hm
  have G := check_good hinh htyped h
  -- some arm matches, so there is a first one; it is not `i`, because `i` is not flagged
  cases hf : arms.findIdx? (fun p => pmatch p v) with
  | none =>
    have := List.findIdx?_eq_none_iff.1 hf arms[i] (List.getElem_mem hi)
    simp [hm] at this
  | some k =>
    obtain ⟨hk, hpk, hmin⟩ := List.findIdx?_eq_some_iff_getElem.1 hf
    have hki : k ≤ i := by
      rcases Nat.lt_or_ge i k with h' | h'
      · exact absurd hm (by simpa using hmin i h')
      · exact h'
    rcases Nat.lt_or_eq_of_le hki with hlt | heq
    · exact ⟨k, hlt, hpk⟩
    · subst heq
      have := (G.useful k hi).2 ⟨v, hv, hf⟩
      rw [hflag] at this; exact absurd this (by simp)

/-- **Not reported ⇒ reachable**: a useful arm has a well-typed value that it matches and no earlier
    arm matches. -/
theorem C13_useful_complete {env : EnumEnv} (hinh : Inhabited' env) {fuel : Nat} {ty : Ty} {arms : List Pat}
    (htyped : ∀ p ∈ arms, patTyped env p ty = true) {flags : List Bool} {wits : List DPat}
    (h : check env fuel ty arms = some (flags, wits)) (i : Nat) (hi : i < arms.length)
    (hflag : flags.getD i false = true) :
    ∃ v, hasTy env v ty = true ∧ pmatch arms[i] v = true ∧
      ∀ j, ∀ hj : j < i, pmatch (arms[j]'(by omega)) v = false := by
  obtain ⟨v, hv, hf⟩ := ((check_good hinh htyped h).useful i hi).1 hflag
  obtain ⟨_, hp, hmin⟩ := List.findIdx?_eq_some_iff_getElem.1 hf
  exact ⟨v, hv, hp, fun j hj => by simpa using hmin j hj⟩

/-- the two directions as one statement: reported redundant iff no value reaches the arm first -/
theorem C13_redundant_iff {env : EnumEnv} (hinh : Inhabited' env) {fuel : Nat} {ty : Ty} {arms : List Pat}
    (htyped : ∀ p ∈ arms, patTyped env p ty = true) {flags : List Bool} {wits : List DPat}
    (h : check env fuel ty arms = some (flags, wits)) (i : Nat) (hi : i < arms.length) :
    flags.getD i false = false ↔
      ¬ ∃ v, hasTy env v ty = true ∧ arms.findIdx? (fun p => pmatch p v) = some i := by
  rw [← (check_good hinh htyped h).useful i hi]; simp

/-- one flag per arm -/
theorem C13_flags_length {env : EnumEnv} (hinh : Inhabited' env) {fuel : Nat} {ty : Ty} {arms : List Pat}
    (htyped : ∀ p ∈ arms, patTyped env p ty = true) {flags : List Bool} {wits : List DPat}
    (h : check env fuel ty arms = some (flags, wits)) : flags.length = arms.length :=
  (check_good hinh htyped h).len

/-- **A repeated pattern is redundant**: an arm whose pattern is the pattern of an earlier arm is never
    flagged useful, for every type and every pattern kind.  (Float literal patterns carry their parsed
    bits in the model, so two spellings of one double are the same `Pat`; that the harness and the
    checker parse `1.0` and `1.00` to the same bits is part of the tie, not of this theorem.) -/
theorem C13_repeated_arm_redundant {env : EnumEnv} (hinh : Inhabited' env) {fuel : Nat} {ty : Ty} {arms : List Pat}
    (htyped : ∀ p ∈ arms, patTyped env p ty = true) {flags : List Bool} {wits : List DPat}
    (h : check env fuel ty arms = some (flags, wits)) (i j : Nat) (hij : i < j) (hj : j < arms.length)
    (heq : arms[i]'(by omega) = arms[j]) : flags.getD j false = false := by
  cases hf : flags.getD j false with
  | false => rfl
  | true =>
    obtain ⟨v, _, hm, hmin⟩ := C13_useful_complete hinh htyped h j hj hf
    have h0 := hmin i hij
    rw [heq, hm] at h0
    exact absurd h0 (by simp)

/-- the special case "two leading arms with the same float bits": the second is redundant -/
theorem C13_equal_float_redundant {env : EnumEnv} (hinh : Inhabited' env) {fuel : Nat} (bits : Nat)
    (rest : List Pat) (hrest : ∀ p ∈ rest, patTyped env p .float = true) {flags : List Bool} {wits : List DPat}
    (h : check env fuel .float (.float bits :: .float bits :: rest) = some (flags, wits)) :
    flags.getD 1 false = false := by
  refine C13_repeated_arm_redundant hinh (fun p hp => ?_) h 0 1 (Nat.lt_succ_self 0) (by simp) rfl
  rcases List.mem_cons.1 hp with rfl | hp
  · rfl
  · rcases List.mem_cons.1 hp with rfl | hp
    · rfl
    · exact hrest p hp

/-! Non-vacuity (the environment and arms of C12): every arm of `exArms` is useful; a repeated arm
    and an arm after a catch-all are not. -/

example : (check exEnv 20 exTy exArms).map (fun r => r.1) = some [true, true, true] := by decide +kernel

example : (check exEnv 20 exTy (exArms ++ [.wild, .tuple [.variant0 0 1, .bool true]])).map (fun r => r.1)
    = some [true, true, true, true, false] := by decide +kernel

example : (check exEnv 20 .float [.float 4607182418800017408, .float 4607182418800017408, .wild]).map
    (fun r => r.1) = some [true, false, true] := by decide +kernel

end Abra.PatMatrix
