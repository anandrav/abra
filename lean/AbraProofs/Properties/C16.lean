import AbraProofs.Lemmas.F64
/-!
# C16 — float comparisons are one total order, division checks for zero, conversions and constants

Model: `Abra.F64` on the 64 bit patterns.  Every theorem quantifies over ALL bit patterns
(`UInt64`), NaNs of both signs and every payload included.  IEEE arithmetic (`+ - * / powf`) is a
parameter (`arith`; `libm` for the math instructions) of the statements that mention it: it is
trusted and tied to the implementation by the correspondence harness only.
The six relations are read off `compare` on the arithmetic reading of the key (`flt_iff` … `feq_iff`),
and the bit-level key is shown equal to it with `Nat.testBit` lemmas (`C16_key_bits`).
-/
namespace Abra.F64

/-! ## comparisons: one strict total order, equality = equality of bits -/

/-- the six instructions are the six relations of the order of `key` -/
theorem C16_fcmp_relations (a b : Bits) :
    (flt a b = true ↔ key a < key b) ∧ (fle a b = true ↔ key a ≤ key b) ∧
    (fgt a b = true ↔ key b < key a) ∧ (fge a b = true ↔ key b ≤ key a) ∧
    (feq a b = true ↔ a = b) ∧ (fne a b = true ↔ a ≠ b) := by
  refine ⟨flt_iff a b, fle_iff a b, fgt_iff a b, fge_iff a b, feq_iff a b, ?_⟩
  unfold fne
  rw [Bool.not_eq_true', ← Bool.not_eq_true, feq_iff]

/-- the key is injective: the order is an order on bit patterns, not on a quotient -/
theorem C16_key_injective (a b : Bits) : key a = key b ↔ a = b := key_inj

/-- the bit-twiddling form (flip all bits if the sign is set, else flip the sign bit) computes `key` -/
theorem C16_key_bits (b : Bits) : (keyBits b).toNat = key b := by
  have hb := b.toNat_lt
  have hs : (b >>> 63 = 1) ↔ b.toNat ≥ signBit := by
    rw [← UInt64.toNat_inj, UInt64.toNat_shiftRight, Nat.shiftRight_eq_div_pow]
    show b.toNat / 2 ^ 63 = 1 ↔ b.toNat ≥ 2 ^ 63
    omega
  unfold keyBits key
  by_cases h : b.toNat ≥ signBit
  · rw [if_pos (hs.2 h), if_pos h, UInt64.toNat_not]
  · rw [if_neg (fun h' => h (hs.1 h')), if_neg h, UInt64.toNat_xor]
    show b.toNat ^^^ 2 ^ 63 = b.toNat + 2 ^ 63
    exact xor_signBit _ (Nat.lt_of_not_le h)

/-- strict total order: irreflexive, transitive, trichotomous -/
theorem C16_fcmp_total_order :
    (∀ a, flt a a = false) ∧
    (∀ a b c, flt a b = true → flt b c = true → flt a c = true) ∧
    (∀ a b, (flt a b = true ∧ a ≠ b ∧ flt b a = false) ∨ (flt a b = false ∧ a = b ∧ flt b a = false) ∨
            (flt a b = false ∧ a ≠ b ∧ flt b a = true)) := by
  have irrefl : ∀ a, flt a a = false := fun a =>
    Bool.eq_false_iff.2 fun g => Nat.lt_irrefl _ ((flt_iff a a).1 g)
  have asymm : ∀ {a b}, key a < key b → flt b a = false := fun h =>
    Bool.eq_false_iff.2 fun g => Nat.lt_asymm h ((flt_iff _ _).1 g)
  refine ⟨irrefl, fun a b c h1 h2 => ?_, fun a b => ?_⟩
  · exact (flt_iff a c).2 (Nat.lt_trans ((flt_iff a b).1 h1) ((flt_iff b c).1 h2))
  · rcases Nat.lt_trichotomy (key a) (key b) with h | h | h
    · exact .inl ⟨(flt_iff a b).2 h, fun e => Nat.lt_irrefl _ (e ▸ h), asymm h⟩
    · obtain rfl := key_inj.1 h
      exact .inr (.inl ⟨irrefl a, rfl, irrefl a⟩)
    · exact .inr (.inr ⟨asymm h, fun e => Nat.lt_irrefl _ (e ▸ h), (flt_iff b a).2 h⟩)

/-- the other five relations are determined by `<` and bit equality, consistently -/
theorem C16_fcmp_consistent (a b : Bits) :
    (fle a b = !fgt a b) ∧ (fge a b = !flt a b) ∧ (fgt a b = flt b a) ∧ (fge a b = fle b a) ∧
    (fle a b = (flt a b || feq a b)) ∧ (fge a b = (fgt a b || feq a b)) ∧ (fne a b = !feq a b) ∧
    (feq a b = decide (a = b)) := by
  refine ⟨Bool.eq_iff_iff.2 ?_, Bool.eq_iff_iff.2 ?_, Bool.eq_iff_iff.2 ?_, Bool.eq_iff_iff.2 ?_,
    Bool.eq_iff_iff.2 ?_, Bool.eq_iff_iff.2 ?_, rfl, Bool.eq_iff_iff.2 ?_⟩
  · rw [fle_iff, Bool.not_eq_true', ← Bool.not_eq_true, fgt_iff, Nat.not_lt]
  · rw [fge_iff, Bool.not_eq_true', ← Bool.not_eq_true, flt_iff, Nat.not_lt]
  · rw [fgt_iff, flt_iff]
  · rw [fge_iff, fle_iff]
  · rw [Bool.or_eq_true, fle_iff, flt_iff, feq_iff, ← key_inj]; exact Nat.le_iff_lt_or_eq
  · rw [Bool.or_eq_true, fge_iff, fgt_iff, feq_iff, ← key_inj, eq_comm]; exact Nat.le_iff_lt_or_eq
  · rw [feq_iff, decide_eq_true_iff]

/-- the order is IEEE 754 `totalOrder`: sign first (negative below positive), then magnitude —
    ascending for positive patterns, descending for negative ones; so
    -NaN < -inf < … < -0 < +0 < … < +inf < +NaN (stated independently of `key`) -/
theorem C16_fcmp_is_ieee_total_order (a b : Bits) :
    flt a b = true ↔
      (sign a = true ∧ sign b = false) ∨
      (sign a = false ∧ sign b = false ∧ magnitude a < magnitude b) ∨
      (sign a = true ∧ sign b = true ∧ magnitude b < magnitude a) := by
  rw [flt_iff, key_eq, key_eq]
  have ha := (sign_magnitude a).1
  have hb := (sign_magnitude b).1
  cases sign a <;> cases sign b
  · -- both non-negative: `signBit + magnitude`, ascending
    simp
  · -- non-negative against negative: never below
    simp; omega
  · -- negative against non-negative: always below
    simp; omega
  · -- both negative: `signBit - 1 - magnitude`, descending
    simp; omega

/-! ## division -/

/-- `b == 0.0` holds for exactly the two zero patterns: the magnitude bits are all clear -/
theorem C16_isZero_iff (b : Bits) : isZero b = true ↔ magnitude b = 0 := by
  obtain ⟨h1, h2⟩ := sign_magnitude b
  unfold isZero
  rw [Bool.or_eq_true, decide_eq_true_eq, decide_eq_true_eq, h2]
  cases sign b <;> simp <;> omega

/-- division raises DivisionByZero exactly when the divisor is ±0, whatever IEEE division is,
    and in every operand form: variable/variable and variable/literal (`DivFloat`, `DivFloatImm`
    have the same test) and literal/literal (the fold declines, the VM instruction runs) -/
theorem C16_div_zero_check (arith : Arith → Bits → Bits → Bits) (a b : Bits) :
    (divide (arith .div) a b = .divZero ↔ magnitude b = 0) ∧
    (computed arith .div a b = .divZero ↔ magnitude b = 0) ∧
    (folded arith .div a b = .divZero ↔ magnitude b = 0) := by
  rw [← C16_isZero_iff]
  unfold computed folded divide
  refine ⟨?_, ?_, ?_⟩
  · cases isZero b <;> simp
  · cases isZero b <;> simp
  · cases isZero b
    · -- the fold goes ahead and spells a value, NaN or not
      simp; split <;> simp
    · simp

/-- NaN and non-zero divisors never raise; the other operators never raise -/
theorem C16_no_other_error (arith : Arith → Bits → Bits → Bits) (op : Arith) (a b : Bits)
    (h : op ≠ .div ∨ magnitude b ≠ 0) : computed arith op a b = .val (arith op a b) := by
  unfold computed divide
  rcases h with h | h
  · simp [h]
  · have : isZero b = false := by
      rw [← Bool.not_eq_true, C16_isZero_iff]; exact h
    by_cases hd : op = .div <;> simp [hd, this]

example : computed (fun _ x _ => x) .div 7 0x7FF8000000000000 = .val 7 :=
  C16_no_other_error _ _ _ _ (Or.inr (by decide))

/-! ## constants -/

/-- a folded constant denotes the same bits as the computation it replaces — for every operator
    and all operands, NaN results included (the fold leaves them to the VM; D32) — given Rust's
    documented guarantee that a non-NaN `f64` survives `to_string` + `parse` (that is `viaString`) -/
theorem C16_const_consistent (arith : Arith → Bits → Bits → Bits) (op : Arith) (a b : Bits) :
    folded arith op a b = computed arith op a b := by
  unfold folded computed divide viaString
  by_cases hd : op = .div
  · subst hd
    cases hz : isZero b <;> cases hn : isNaN (arith .div a b) <;> simp [hn]
  · cases hn : isNaN (arith op a b) <;> simp [hd, hn]

/-- going through the decimal spelling keeps every non-NaN pattern, and keeps NaN-ness -/
theorem C16_viaString (c : Bits) :
    (isNaN c = false → viaString c = c) ∧ (isNaN c = true → isNaN (viaString c) = true) := by
  unfold viaString
  constructor
  · intro h
    simp [h]
  · intro h
    simp [h]
    decide

example : viaString 0x3FF0000000000000 = 0x3FF0000000000000 := (C16_viaString _).1 (by decide)
example : isNaN (viaString 0xFFF8000000000001) = true := (C16_viaString _).2 (by decide)

/-- why a NaN result must not be folded: the decimal spelling loses the sign, which the total
    order sees -/
theorem C16_nan_spelling_loses_sign :
    ∃ c, isNaN c = true ∧ viaString c ≠ c ∧ flt c 0 = true ∧ flt (viaString c) 0 = false :=
  ⟨0xFFF8000000000000, by decide, by decide, by decide, by decide⟩

/-! ## chains of operations with literal operands -/

/-- a chain is evaluated strictly left to right: appending one more `op b` applies ONE more
    instruction to the value of the chain so far (so `v + a + b` is `(v + a) + b` with two roundings,
    never `v + (a + b)`), and an earlier division by zero wins -/
theorem C16_chain_left_to_right (arith : Arith → Bits → Bits → Bits) (r : Res)
    (steps : List (Arith × Bits)) (op : Arith) (b : Bits) :
    evalChain arith r (steps ++ [(op, b)]) =
      match evalChain arith r steps with
      | .val x => computed arith op x b
      | .divZero => .divZero := by
  induction steps generalizing r with
  | nil => cases r <;> simp [evalChain]
  | cons s rest ih =>
    obtain ⟨o, a⟩ := s
    cases r with
    | divZero =>
      have : ∀ l, evalChain arith .divZero l = .divZero := fun l => by cases l <;> rfl
      rw [this, this]
    | val x => exact ih _

example : evalChain (fun _ x _ => x) (.val 5) [(.add, 1), (.div, 0)] = .divZero := by decide

/-- the two-operation case spelled out, and the right-grouped form `v op₁ (a op₂ b)` is one
    instruction applied to the value of the literal sub-expression, folded or not -/
theorem C16_chain_two (arith : Arith → Bits → Bits → Bits) (v a b : Bits) (op1 op2 : Arith) :
    (evalChain arith (.val v) [(op1, a), (op2, b)] =
      match computed arith op1 v a with
      | .val x => computed arith op2 x b
      | .divZero => .divZero) ∧
    (evalRight arith v op1 a op2 b =
      match computed arith op2 a b with
      | .val t => computed arith op1 v t
      | .divZero => .divZero) := by
  constructor
  · exact C16_chain_left_to_right arith (.val v) [(op1, a)] op2 b
  · unfold evalRight
    rw [C16_const_consistent]
    cases computed arith op2 a b <;> rfl

/-! ## `int_from_float` -/

/-- NaN ↦ 0, ±inf saturate, every finite value is truncated toward zero (`Int.tdiv` of the exact
    rational value) and saturated to the 64-bit range -/
theorem C16_int_from_float_spec (b : Bits) :
    (isNaN b = true → intFromFloat b = 0) ∧
    (isInf b = true → intFromFloat b = if sign b then i64Min else i64Max) ∧
    (isNaN b = false → isInf b = false →
      intFromFloat b = clamp (Int.tdiv (finiteValue b).1 (finiteValue b).2)) := by
  refine ⟨?_, ?_, fun hn hi => ?_⟩
  · intro h
    simp only [isNaN, Bool.and_eq_true, decide_eq_true_eq] at h
    unfold intFromFloat
    simp [h.1, h.2]
  · intro h
    simp only [isInf, Bool.and_eq_true, decide_eq_true_eq] at h
    unfold intFromFloat
    simp [h.1, h.2]
  · have he : expField b ≠ 2047 := (finite_iff b).1 ⟨hn, hi⟩
    rw [tdiv_finiteValue]
    unfold intFromFloat
    by_cases h0 : expField b = 0
    · simp only [h0, if_true, if_false, reduceCtorEq]
      cases sign b <;> rfl
    · simp only [he, h0, if_false]
      exact saturate_eq_clamp _ _

example : intFromFloat 0xC00C000000000000 = -3 := by decide  -- -3.5 ↦ -3
example : isNaN 0xFFF8000000000000 = true ∧ intFromFloat 0xFFF8000000000000 = 0 :=
  ⟨by decide, (C16_int_from_float_spec _).1 (by decide)⟩
example : isInf 0xFFF0000000000000 = true := by decide

/-- the result is always a 64-bit integer -/
theorem C16_int_from_float_range (b : Bits) : i64Min ≤ intFromFloat b ∧ intFromFloat b ≤ i64Max := by
  by_cases hn : isNaN b = true
  · rw [(C16_int_from_float_spec b).1 hn]; decide
  · by_cases hi : isInf b = true
    · rw [(C16_int_from_float_spec b).2.1 hi]; cases sign b <;> decide
    · rw [(C16_int_from_float_spec b).2.2 (by simpa using hn) (by simpa using hi)]
      exact clamp_range _

/-! ## `floor`, `ceil`, `round` -/

/-- the integer `floor` and `ceil` pick, stated with inequalities on the exact rational `n/d`
    (`d > 0`): floor is the largest integer below or at it, ceil the smallest at or above it
    (`round` is characterised separately in `C16_roundInt_round_spec`) -/
theorem C16_roundInt_spec (n : Int) (d : Nat) (hd : 0 < d) :
    (roundInt .floor n d * d ≤ n ∧ n < (roundInt .floor n d + 1) * d) ∧
    ((roundInt .ceil n d - 1) * d < n ∧ n ≤ roundInt .ceil n d * d) := by
  have hd' : (0 : Int) < d := Int.natCast_pos.2 hd
  have f1 := Int.ediv_mul_le n (Int.ne_of_gt hd')
  have f2 := Int.lt_ediv_add_one_mul_self n hd'
  have c1 := Int.ediv_mul_le (-n) (Int.ne_of_gt hd')
  have c2 := Int.lt_ediv_add_one_mul_self (-n) hd'
  simp only [roundInt, Int.add_mul, Int.sub_mul, Int.neg_mul, Int.one_mul] at *
  omega

/-- `round` picks the integer nearest to `n/d` (`d > 0`), a tie going away from zero:
    `|r - n/d| ≤ 1/2`, with the half-way point included on the far side of zero only -/
theorem C16_roundInt_round_spec (n : Int) (d : Nat) (hd : 0 < d) :
    (0 ≤ n → (2 * roundInt .round n d - 1) * d ≤ 2 * n ∧ 2 * n < (2 * roundInt .round n d + 1) * d) ∧
    (n < 0 → (2 * roundInt .round n d - 1) * d < 2 * n ∧ 2 * n ≤ (2 * roundInt .round n d + 1) * d) := by
  -- `round` is `floor (n/d + 1/2)` from zero up and `ceil (n/d - 1/2)` below
  have e : ((2 * d : Nat) : Int) = 2 * d := Int.natCast_mul 2 d
  constructor
  · intro hn
    have hr : roundInt .round n d = roundInt .floor (2 * n + d) (2 * d) := by
      simp only [roundInt, ge_iff_le, hn, if_true, e]
    obtain ⟨f1, f2⟩ := (C16_roundInt_spec (2 * n + d) (2 * d) (Nat.mul_pos (by decide) hd)).1
    rw [← hr, e] at f1 f2
    clear hr
    simp only [Int.add_mul, Int.sub_mul, Int.one_mul, Int.mul_assoc, ← Int.mul_left_comm 2] at f1 f2 ⊢
    omega
  · intro hn
    have hr : roundInt .round n d = roundInt .ceil (2 * n - d) (2 * d) := by
      have : ¬ n ≥ 0 := Int.not_le.2 hn
      simp only [roundInt, this, if_false, e]
      rw [show 2 * -n + (d : Int) = -(2 * n - d) by omega]
    obtain ⟨f1, f2⟩ := (C16_roundInt_spec (2 * n - d) (2 * d) (Nat.mul_pos (by decide) hd)).2
    rw [← hr, e] at f1 f2
    clear hr
    simp only [Int.add_mul, Int.sub_mul, Int.one_mul, Int.mul_assoc, ← Int.mul_left_comm 2] at f1 f2 ⊢
    omega

example : roundInt .floor (-7) 2 = -4 ∧ roundInt .ceil (-7) 2 = -3 ∧ roundInt .round (-7) 2 = -4 ∧
    roundInt .round 5 2 = 3 ∧ roundInt .round 1 4 = 0 := by decide

/-- `floor`/`ceil`/`round` on ALL bit patterns: a NaN stays a NaN; a pattern with exponent field
    ≥ 1075 (`|x| ≥ 2^52`, ±inf) is already integral and is returned unchanged; any other pattern
    gives a finite pattern that denotes EXACTLY the integer the exact value rounds to (in the mode's
    sense, `round` = half away from zero), with the sign of that integer, and a zero result keeps
    the operand's sign (`floor(-0.0) = -0.0`, `ceil(-0.3) = -0.0`, `round(-0.3) = -0.0`) -/
theorem C16_round_spec (mode : Rounding) (x : Bits) :
    (isNaN x = true → isNaN (roundBits mode x) = true) ∧
    (isNaN x = false → expField x ≥ 1075 → roundBits mode x = x) ∧
    (isNaN x = false → expField x < 1075 →
      let n := roundInt mode (finiteValue x).1 (finiteValue x).2
      let r := roundBits mode x
      isNaN r = false ∧ isInf r = false ∧
      (finiteValue r).1 = n * (finiteValue r).2 ∧
      (n = 0 → r = if sign x then 0x8000000000000000 else 0) ∧
      (n ≠ 0 → sign r = decide (n < 0))) := by
  refine ⟨?_, ?_, ?_⟩
  · intro h
    unfold roundBits quiet
    rw [if_pos h]
    split
    · -- setting bit 51 of a mantissa below `2^51` leaves the exponent field alone
      have hx := x.toNat_lt
      simp only [isNaN, Bool.and_eq_true, decide_eq_true_eq, ne_eq] at h ⊢
      unfold expField mantissa at *
      rw [UInt64.toNat_ofNat']
      omega
    · exact h
  · intro h he
    unfold roundBits
    simp [h, he]
  · intro h he n r
    have hr : r = if n = 0 then (if sign x then 0x8000000000000000 else 0) else floatFromInt n := by
      show roundBits mode x = _
      unfold roundBits
      rw [if_neg (Bool.eq_false_iff.1 h), if_neg (Nat.not_le.2 he)]
    by_cases hn0 : n = 0
    · rw [hr]
      simp only [hn0, if_true]
      cases sign x <;> simp <;> decide
    · -- the integer has at most 53 bits, where `floatFromInt` is exact
      have hsmall : n.natAbs < 2 ^ 53 :=
        Nat.lt_of_le_of_lt (natAbs_roundInt_le mode _ _ (finiteValue_den_pos x)) (finiteValue_num_small x he)
      obtain ⟨h1, h2, h3, h4, _⟩ := float_from_int_spec n (Nat.lt_trans hsmall (by decide))
      rw [hr, if_neg hn0]
      exact ⟨h1, h2, h4 (Nat.le_of_lt hsmall), fun h => (hn0 h).elim, fun _ => h3⟩

example : roundBits .floor 0xC00C000000000000 = 0xC010000000000000 := by decide  -- floor(-3.5) = -4
example : roundBits .round 0x4004000000000000 = 0x4008000000000000 := by decide  -- round(2.5) = 3
example : roundBits .ceil 0xBFD3333333333333 = 0x8000000000000000 := by decide   -- ceil(-0.3) = -0.0
example : isNaN 0xC00C000000000000 = false ∧ expField 0xC00C000000000000 < 1075 := by decide

/-- these three math instructions do not depend on libm at all -/
theorem C16_math_exact_ones (libm libm' : Math1 → Bits → Bits) (x : Bits) :
    math1 libm .floor x = math1 libm' .floor x ∧ math1 libm .ceil x = math1 libm' .ceil x ∧
    math1 libm .round x = math1 libm' .round x := ⟨rfl, rfl, rfl⟩

/-! ## `float_from_int` -/

/-- for every 64-bit integer `n` the result is a finite pattern with the sign of `n`; it denotes `n`
    exactly whenever `|n| ≤ 2^53` — and, beyond, whenever `n` is representable (its low `k-52` bits
    are clear); otherwise it is within half a unit in the last place (`2^(k-53)`, `k` = position of
    the leading bit of `|n|`) of `n`, and at exactly half the significand is even: round to
    nearest, ties to even.  (`finiteValue` = exact rational value numerator/denominator.) -/
theorem C16_float_from_int_spec (n : Int) (hlo : i64Min ≤ n) (hhi : n ≤ i64Max) :
    let r := floatFromInt n
    let v := finiteValue r
    let k := msb 64 n.natAbs
    isNaN r = false ∧ isInf r = false ∧ sign r = decide (n < 0) ∧
    (n.natAbs ≤ 2 ^ 53 → v.1 = n * v.2) ∧
    (2 ^ 53 < n.natAbs → v.2 = 1 ∧ (v.1 - n).natAbs ≤ 2 ^ (k - 53) ∧
      ((v.1 - n).natAbs = 2 ^ (k - 53) → mantissa r % 2 = 0) ∧
      (n.natAbs % 2 ^ (k - 52) = 0 → v.1 = n)) :=
  float_from_int_spec n (by unfold i64Min i64Max at *; omega)

example : floatFromInt 9007199254740993 = 0x4340000000000000 := by decide  -- 2^53 + 1 ↦ 2^53 (tie, even)
example : floatFromInt 9007199254740995 = 0x4340000000000002 := by decide  -- 2^53 + 3 ↦ 2^53 + 4 (tie, even)
example : floatFromInt (-3) = 0xC008000000000000 := by decide
example : i64Min ≤ (9007199254740993 : Int) ∧ (9007199254740993 : Int) ≤ i64Max := by decide

/-- the position of the leading bit used above is the real one: `2^k ≤ |n| < 2^(k+1)` -/
theorem C16_msb_spec (a : Nat) (h1 : 1 ≤ a) (h2 : a < 2 ^ 64) :
    2 ^ msb 64 a ≤ a ∧ a < 2 ^ (msb 64 a + 1) := msb_spec 64 a h1 h2

example : 2 ^ msb 64 5 ≤ 5 ∧ 5 < 2 ^ (msb 64 5 + 1) := C16_msb_spec 5 (by decide) (by decide)

end Abra.F64
