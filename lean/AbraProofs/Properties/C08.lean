import AbraProofs.Lemmas.HeapIso
/-!
# C08 — a task works on its own deep copies of captured values; channels are shared handles

Model: `Abra.Heap` — per-thread heaps (address = thread id × index), `deepCopyM` following
`Value::deep_copy_helper` after fix 0cb8741 (defect D24): a map from source address to copy, the copy
recorded before its children are copied; `spawnCopy` = all captures of one `SpawnTask` with one map;
`deepCopy` = one value with a fresh map (a spawn with a single capture).  The theorems hold for ALL values —
shared and cyclic ones included; nothing is assumed but that the copy returned (`some`), and
`C08_deepcopy_total` shows it does return, with fuel = number of reachable source objects + 1, on every
well-formed graph.
-/
namespace Abra.Heap

/-- **The copy always finishes (fuel).**  On a well-formed source graph, if `L` lists the objects reachable
    from the value, `|L| + 1` levels of host stack are enough — cyclic and shared values included. -/
theorem C08_deepcopy_total (H : Heaps) (t : Nat) (v : Val) (L : List Addr) (hwf : WF H v)
    (hL : ∀ w a, ReachV H v w → ptr? w = some a → a ∈ L) :
    ∃ r, deepCopy (L.length + 1) H t v = some r := by
  obtain ⟨r, hr⟩ := deepCopyM_total H t (L.length + 1) H [] v L
    (fun w a hw ha => ⟨hwf w a hw ha, fun _ => hL w a hw ha⟩) (Nat.lt_succ_self _)
  exact ⟨(r.1, r.2.1), by simp [deepCopy, hr]⟩

/-- **The copy is isomorphic to the source graph.**  There is a map `M` from source addresses to copies with:
    the result is the image of the argument; every recorded copy is a finished object of the new thread
    holding exactly the image of its source object (`Iso.done`: same kind, same scalars, every pointer
    replaced by the copy of its target — so two paths that reach one source object reach one copy, and a cycle
    stays a cycle); distinct source objects have distinct copies (`Iso.inj`); every value reachable from the
    source has an image (all of it was copied) and every value reachable from the copy is such an image (the
    copy reaches nothing else): `M` is a bijection between the two reachable graphs.  Source objects are
    untouched (`Ext`). -/
theorem C08_deepcopy_iso (f : Nat) (H : Heaps) (t : Nat) (v v' : Val) (H' : Heaps)
    (hc : deepCopy f H t v = some (v', H')) :
    ∃ M, mapVal? M v = some v' ∧ Iso H H' t M ∧ Ext H H' ∧
      (∀ w, ReachV H v w → ∃ w', mapVal? M w = some w') ∧
      (∀ w', ReachV H' v' w' → ∃ w, ReachV H v w ∧ mapVal? M w = some w') := by
  obtain ⟨M, p, hv⟩ := copy_post hc
  have iso := iso_of_post p
  exact ⟨M, hv, iso, p.ext, iso_cover iso hv, iso_onto iso hv⟩

/-- **Sharing is preserved, and only sharing.**  Two reachable pointers have the same copy exactly when they
    point to the same source object. -/
theorem C08_deepcopy_sharing (f : Nat) (H : Heaps) (t : Nat) (v v' : Val) (H' : Heaps)
    (hc : deepCopy f H t v = some (v', H')) :
    ∃ M, mapVal? M v = some v' ∧
      ∀ w1 w2 a1 a2 c1 c2 x1 x2, ReachV H v w1 → ReachV H v w2 → ptr? w1 = some a1 → ptr? w2 = some a2 →
        mapVal? M w1 = some c1 → mapVal? M w2 = some c2 → ptr? c1 = some x1 → ptr? c2 = some x2 →
        (a1 = a2 ↔ x1 = x2) := by
  obtain ⟨M, hv, iso, _⟩ := C08_deepcopy_iso f H t v v' H' hc
  refine ⟨M, hv, ?_⟩
  intro w1 w2 a1 a2 c1 c2 x1 x2 _ _ p1 p2 m1 m2 q1 q2
  have m1 := (mapVal_ptr p1).symm.trans m1
  have m2 := (mapVal_ptr p2).symm.trans m2
  constructor
  · rintro rfl
    cases m1.symm.trans m2
    exact Option.some.inj (q1.symm.trans q2)
  · rintro rfl
    exact iso.inj a1 a2 c1 c2 x1 m1 m2 q1 q2

/-- **One map per `SpawnTask`.**  The captures of one task are copied as one graph: the same isomorphism
    statement for the list of captures, so an object reachable from two captures is copied once. -/
theorem C08_spawn_copies_one_graph (f : Nat) (H : Heaps) (t : Nat) (caps caps' : List Val) (H' : Heaps)
    (hc : spawnCopy f H t caps = some (caps', H')) :
    ∃ M, mapList? M caps = some caps' ∧ Iso H H' t M ∧ Ext H H' := by
  obtain ⟨M, p, hl⟩ := spawn_post hc
  exact ⟨M, hl, iso_of_post p, p.ext⟩

/-- **The copy equals the original** (values that render, i.e. acyclic within the fuel `g`): the copy renders
    exactly as the captured value did. -/
theorem C08_deepcopy_equal (f g : Nat) (H : Heaps) (t : Nat) (v v' : Val) (H' : Heaps) (tr : Tree)
    (hc : deepCopy f H t v = some (v', H')) (hr : render g H v = some tr) :
    render g H' v' = some tr := by
  obtain ⟨M, p, hv⟩ := copy_post hc
  exact iso_render (iso_of_post p) g v v' tr hv hr

/-- … and every value of the spawning side still renders as before (the copy only allocates). -/
theorem C08_deepcopy_preserves_original (f g : Nat) (H : Heaps) (t : Nat) (v v' : Val) (H' : Heaps)
    (hc : deepCopy f H t v = some (v', H')) (u : Val) (tr : Tree) (hr : render g H u = some tr) :
    render g H' u = some tr := by
  obtain ⟨M, p, _⟩ := copy_post hc
  exact render_mono p.ext g u tr hr

/-- **The copy is disjoint from everything else**: every object reachable from the copy — through any
    path, cycles included — belongs to the new thread's heap. -/
theorem C08_deepcopy_disjoint (f : Nat) (H : Heaps) (t : Nat) (v v' : Val) (H' : Heaps)
    (hc : deepCopy f H t v = some (v', H')) :
    ∀ w' x, ReachV H' v' w' → ptr? w' = some x → x.tid = t := by
  obtain ⟨M, p, hv⟩ := copy_post hc
  exact fun w' x hw' hx => (post_fresh p hv w' x hw' hx).2

/-- **Every copy starts from an empty table: nothing survives from an earlier copy.**  `deepCopy` (one value)
    and `spawnCopy` (the captures of a spawn) are functions of the heaps and the values alone — no table is
    carried from one copy to the next (`chanReceive`, C09, is built the same way) — and with the empty table every
    object reachable from the result was allocated during THIS copy: it did not exist before, whichever thread
    the copy is made for (the thread that owns the source included), so a copy can never hand out an object made
    by an earlier copy. -/
theorem C08_deepcopy_fresh (f : Nat) (H : Heaps) (t : Nat) (v v' : Val) (H' : Heaps)
    (hc : deepCopy f H t v = some (v', H')) :
    ∀ w' x, ReachV H' v' w' → ptr? w' = some x → lookup H x = none ∧ x.tid = t := by
  obtain ⟨M, p, hv⟩ := copy_post hc
  exact post_fresh p hv

/-- **Whatever the tag, nothing is shared.**  No object reachable from the copy is an object reachable from the
    source — for a value of ANY of the five pointer tags (struct/tuple/closure, array, variant, string, channel
    handle) at ANY nesting position: the copy walks every slot of every object (`Obj.kids`), there is no tag it
    leaves in place.  (A channel handle is copied too; only the queue it names is shared, and a queue is not an
    object of any heap.) -/
theorem C08_deepcopy_shares_nothing (f : Nat) (H : Heaps) (t : Nat) (v v' : Val) (H' : Heaps)
    (hc : deepCopy f H t v = some (v', H')) :
    ∀ w a w' x, ReachV H v w → ptr? w = some a → ReachV H' v' w' → ptr? w' = some x → x ≠ a := by
  obtain ⟨M, p, hv⟩ := copy_post hc
  rintro w a w' x hw ha hw' hx rfl
  -- `x` is a source object, so it existed before the copy; nothing below the copy did
  obtain ⟨c, hm⟩ := iso_cover (iso_of_post p) hv w hw
  obtain ⟨obj, d1⟩ := (p.new x c ((mapVal_ptr ha).symm.trans hm) rfl).1.src
  rw [(post_fresh p hv w' x hw' hx).1] at d1
  cases d1

/-- the same for the captures of a spawn: every object reachable from any copied capture was allocated by this
    spawn in the new thread's heap -/
theorem C08_spawn_fresh (f : Nat) (H : Heaps) (t : Nat) (caps caps' : List Val) (H' : Heaps)
    (hc : spawnCopy f H t caps = some (caps', H')) :
    ∀ c' ∈ caps', ∀ w' x, ReachV H' c' w' → ptr? w' = some x → lookup H x = none ∧ x.tid = t := by
  obtain ⟨M, p, hl⟩ := spawn_post hc
  intro c' hc'
  obtain ⟨c, _, hmc⟩ := (mapList_eq_some.1 hl).right hc'
  exact post_fresh p hmc

/-- thread 1 owns an array `a` and `b`, the copy of `a` it received from its own channel earlier -/
def staleH : Heaps := fun t => if t = 1 then [.array [.int 1, .int 2], .array [.int 1, .int 2]] else []

/-- **Why the table must be empty.**  Started with a table left over from an earlier copy (`a ↦ b`), the copy
    of the capture `a` for the new thread 2 IS the spawner's object `b` — nothing is allocated, the task and the
    spawner share an object.  With the empty table the capture gets a fresh object of thread 2. -/
theorem C08_stale_table_counterexample :
    deepCopyM 3 staleH staleH [(⟨1, 0⟩, .array ⟨1, 1⟩)] 2 (.array ⟨1, 0⟩) =
      some (.array ⟨1, 1⟩, staleH, [(⟨1, 0⟩, .array ⟨1, 1⟩)]) ∧
    ∃ H', deepCopy 3 staleH 2 (.array ⟨1, 0⟩) = some (.array ⟨2, 0⟩, H') ∧ lookup staleH ⟨2, 0⟩ = none :=
  ⟨rfl, _, rfl, rfl⟩

/-- **Channels are the exception**: the copy of a channel value is a new handle object in the new thread's
    heap that names the same queue. -/
theorem C08_deepcopy_channel_shared (f : Nat) (H : Heaps) (t : Nat) (a : Addr) (q : Nat)
    (hl : lookup H a = some (.chan q)) :
    ∃ a' H', deepCopy (f + 1) H t (.chan a) = some (.chan a', H') ∧ a'.tid = t ∧ lookup H' a' = some (.chan q) := by
  refine ⟨(alloc H t (.chan q)).1, putObj (alloc H t (.chan q)).2 (alloc H t (.chan q)).1 (.chan q), ?_, rfl, ?_⟩
  · show (deepCopyM (f + 1) H H [] t (.chan a)).map _ = _
    conv => lhs; arg 2; whnf
    rw [hl]; rfl
  · exact lookup_putObj_self _ _ _ (by rw [lookup_alloc_new]; nofun)

/-- **Isolation.**  If every object reachable from a value belongs to thread `b`, then no store into an
    object of another thread and no teardown of another thread changes anything reachable from it: the same
    objects at the same addresses, the same reachable graph, the same rendering at every depth. -/
theorem C08_threads_isolated (H : Heaps) (b : Nat) (u : Val)
    (hown : ∀ w x, ReachV H u w → ptr? w = some x → x.tid = b) :
    (∀ (a : Addr) (i : Nat) (z : Val), a.tid ≠ b →
      (∀ w x, ReachV H u w → ptr? w = some x → lookup (setSlot H a i z) x = lookup H x) ∧
      (∀ w, ReachV H u w ↔ ReachV (setSlot H a i z) u w) ∧
      (∀ g, render g (setSlot H a i z) u = render g H u)) ∧
    (∀ t, t ≠ b →
      (∀ w x, ReachV H u w → ptr? w = some x → lookup (dropThread H t) x = lookup H x) ∧
      (∀ w, ReachV H u w ↔ ReachV (dropThread H t) u w) ∧
      (∀ g, render g (dropThread H t) u = render g H u)) := by
  -- the reachable objects are where they were, so the graph and its rendering are the same
  exact ⟨fun a i z hne =>
      have hag := fun w x hw hx =>
        lookup_setSlot_other H a i z x (by rw [hown w x hw hx]; exact fun h => hne h.symm)
      ⟨hag, reach_congr hag, render_congr_reach hag⟩,
    fun t hne =>
      have hag := fun w x hw hx =>
        lookup_dropThread_other H t x (by rw [hown w x hw hx]; exact fun h => hne h.symm)
      ⟨hag, reach_congr hag, render_congr_reach hag⟩⟩

/-- **Spawn, both directions.**  After a capture was copied into the new thread `t`: stores made by any
    other thread (the spawning code included) are invisible in the copy, and stores made by the task inside
    its own heap are invisible in every value whose objects belong to another thread. -/
theorem C08_spawn_isolated (f : Nat) (H : Heaps) (t : Nat) (v v' : Val) (H' : Heaps)
    (hc : deepCopy f H t v = some (v', H')) :
    (∀ (a : Addr) (i : Nat) (z : Val), a.tid ≠ t → ∀ g, render g (setSlot H' a i z) v' = render g H' v') ∧
    (∀ (p : Nat) (u : Val), p ≠ t → (∀ w x, ReachV H' u w → ptr? w = some x → x.tid = p) →
      ∀ (a : Addr) (i : Nat) (z : Val), a.tid = t → ∀ g, render g (setSlot H' a i z) u = render g H' u) := by
  have hown := C08_deepcopy_disjoint f H t v v' H' hc
  refine ⟨fun a i z hne => ((C08_threads_isolated H' t v' hown).1 a i z hne).2.2, ?_⟩
  intro p u hp hu a i z ha
  exact ((C08_threads_isolated H' p u hu).1 a i z (by rw [ha]; exact fun h => hp h.symm)).2.2

/-- a nested value in thread 1's heap: `Outer { inner: Box { v: 7, s: "ab" }, xs: [1, 2] }` -/
def exH : Heaps := fun t =>
  if t = 1 then [.str [97, 98], .struct [.int 7, .str ⟨1, 0⟩], .array [.int 1, .int 2], .struct [.struct ⟨1, 1⟩, .array ⟨1, 2⟩]]
  else []
def exV : Val := .struct ⟨1, 3⟩

example : ∃ p, deepCopy 5 exH 2 exV = some p ∧
    render 5 exH exV = some (.struct [.struct [.int 7, .str [97, 98]], .array [.int 1, .int 2]]) ∧
    render 5 p.2 p.1 = some (.struct [.struct [.int 7, .str [97, 98]], .array [.int 1, .int 2]]) := ⟨_, rfl, rfl, rfl⟩

/-- a struct whose array field contains the struct itself, and the same array referenced twice -/
def cycH : Heaps := fun t =>
  if t = 1 then [.struct [.int 1, .array ⟨1, 1⟩, .array ⟨1, 1⟩], .array [.struct ⟨1, 0⟩]] else []

/-- the repaired copy of the cyclic, shared value: one struct, one array, the cycle and the sharing kept -/
example : ∃ H', deepCopy 3 cycH 2 (.struct ⟨1, 0⟩) = some (.struct ⟨2, 0⟩, H') ∧
    lookup H' ⟨2, 0⟩ = some (.struct [.int 1, .array ⟨2, 1⟩, .array ⟨2, 1⟩]) ∧
    lookup H' ⟨2, 1⟩ = some (.array [.struct ⟨2, 0⟩]) ∧ lookup H' ⟨2, 2⟩ = none := ⟨_, rfl, rfl, rfl, rfl⟩

example : WF cycH (.struct ⟨1, 0⟩) ∧ ∃ r, deepCopy 3 cycH 2 (.struct ⟨1, 0⟩) = some r := by
  refine ⟨wf_of_closed (fun w => w = .struct ⟨1, 0⟩ ∨ w = .int 1 ∨ w = .array ⟨1, 1⟩) (.inl rfl) ?_, _, rfl⟩
  rintro w a (rfl | rfl | rfl) hp <;> cases hp
  · exact ⟨_, rfl, rfl, by decide⟩
  · exact ⟨_, rfl, rfl, by decide⟩

/-- **Before fix 0cb8741 (defect D24)** the copy of a cyclic value never finished, whatever the stack depth:
    the pre-repair `deep_copy` (`deepCopyOld`, no map) runs out of fuel on the value above. -/
theorem C08_deepcopy_prerepair_cyclic : ∀ f t, deepCopyOld f cycH t (.struct ⟨1, 0⟩) = none := by
  intro f t
  induction f using Nat.strongRecOn with
  | _ f ih =>
    match f with
    | 0 => rfl
    | 1 => rfl
    | f + 2 =>
      -- the struct's second field is the array, whose only element is the struct again, with two units of fuel less
      have h2 : deepCopyOld (f + 1) cycH t (.array ⟨1, 1⟩) = none := by
        conv => lhs; whnf
        simp only [copyListOld, ih f (by omega)]
      have h1 : deepCopyOld (f + 1) cycH t (.int 1) = some (.int 1, cycH) := rfl
      conv => lhs; whnf
      simp only [copyListOld, h1, h2]

end Abra.Heap
