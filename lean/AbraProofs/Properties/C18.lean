import AbraProofs.Lemmas.CallOrder
/-!
# C18 — named and default arguments behave like the positional call

Model: `Abra.CallOrder` (`update_function_arg_info`, `calculate_func_call_order`,
`calculate_named_arg_order` of `statics/resolve.rs`).  The theorems quantify over *all* parameter
lists with pairwise distinct names (any name type, any arity, any subset of defaults) and *all*
call shapes (any sequence of positional / named arguments, any payload).

`WellFormed` (in `Lemmas/CallOrder.lean`) is the property's own notion of a correct call and
`specEntry` the argument the equivalent positional call passes for parameter `i`; neither mentions
the decision loop or the slot vector.
-/
namespace Abra.CallOrder

variable {ν : Type} [DecidableEq ν] {α : Type}

/-- A call is accepted (no diagnostic) exactly when it is well-formed: positional arguments come
    first and are no more than the parameters, every name is a parameter, none is given twice by
    name or by name and position, and every parameter without a default is supplied — for
    parameter lists whose names are pairwise distinct (hypothesis `hnd`).  `decide` is a total
    function with no crash outcome, so under that hypothesis every misuse yields a diagnostic
    (`C18_misuse_rejected`). -/
theorem C18_accept_iff_wellformed (ps : List (Param ν)) (args : List (Arg ν α))
    (hnd : (ps.map (·.name)).Nodup) :
    (decide ps args).diags = [] ↔ WellFormed ps args := by
  obtain ⟨hok, inv⟩ := decide_inv ps hnd args
  unfold decide
  rw [decideInfo_diags_nil, inv.surplus, inv.diags, List.eq_nil_iff_forall_not_mem, wellFormed_iff ps hnd,
    Nat.sub_eq_zero_iff_le]
  refine and_congr_right fun _ => and_congr_left fun _ => forall_congr' fun x => ?_
  rw [inv.missing, inv.seen, hok.req, not_and, Decidable.not_not]

/-- Misuse is a diagnostic: a call that is not well-formed is never accepted. -/
theorem C18_misuse_rejected (ps : List (Param ν)) (args : List (Arg ν α))
    (hnd : (ps.map (·.name)).Nodup) (h : ¬ WellFormed ps args) :
    (decide ps args).diags ≠ [] :=
  fun hd => h ((C18_accept_iff_wellformed ps args hnd).1 hd)

/-- The order list of an accepted call in closed form: for each parameter, in parameter order, what
    the arguments put into its slot (`slotSpec`), else its default. -/
theorem decide_order (ps : List (Param ν)) (args : List (Arg ν α))
    (hnd : (ps.map (·.name)).Nodup) (hacc : (decide ps args).diags = []) :
    (decide ps args).order =
      some ((List.range ps.length).map fun j => (slotSpec ps args j).getD (Entry.dflt j)) := by
  have wf := (C18_accept_iff_wellformed ps args hnd).1 hacc
  obtain ⟨hok, inv⟩ := decide_inv ps hnd args
  unfold decide at hacc ⊢
  obtain ⟨hsur, hmiss, hdiag⟩ := (decideInfo_diags_nil _ _).1 hacc
  have hord : (decideInfo (mkInfo false ps) args).order = some (reorder (mkInfo false ps) args) := by
    simp only [decideInfo, hsur, hmiss, inv.unknown hdiag]
    simp
  rw [hord]
  refine congrArg some (filterMap_id_of_getElem? _ _ _ (by rw [fillDefaults_length, inv.len]) fun j hj => ?_)
  -- every slot is filled: by an argument, or else the parameter has a default
  rw [fillDefaults_getElem?, inv.slots hdiag j hj]
  cases hs : slotSpec ps args j with
  | some e => rfl
  | none => simp [(hok.dfl j).2 ⟨ps[j], List.getElem?_eq_getElem hj, default_of_slotSpec_none wf j hj hs⟩]

/-- An accepted call emits exactly one entry per parameter, in parameter order, and entry `i` is what
    the equivalent positional call passes (`specEntry`): the positional argument `i`, else the
    argument named like parameter `i`, else default `i`. -/
theorem C18_reorder_correct (ps : List (Param ν)) (args : List (Arg ν α))
    (hnd : (ps.map (·.name)).Nodup) (hacc : (decide ps args).diags = []) :
    ∃ l, (decide ps args).order = some l ∧ l.length = ps.length ∧
      ∀ i, i < ps.length → l[i]? = specEntry ps args i := by
  refine ⟨_, decide_order ps args hnd hacc, by simp, fun i hi => ?_⟩
  rw [specEntry_eq ps args i hi]; simp [hi]

/-- Member functions: a leading `self` parameter is skipped, the rest is decided like a free
    function (the receiver is passed separately, first). -/
theorem C18_method_skips_self (self : ν) (d : Bool) (ps : List (Param ν)) (args : List (Arg ν α)) :
    decideMethod self (⟨self, d⟩ :: ps) args = decide ps args := by
  simp [decideMethod, decide, mkInfo]

/-! ### non-vacuity: concrete accepted / rejected calls of `f(a, b = …, c = …)` -/

private def ps3 : List (Param Nat) := [⟨0, false⟩, ⟨1, true⟩, ⟨2, true⟩]
private def call1 : List (Arg Nat Nat) := [⟨none, 10⟩, ⟨some 2, 11⟩]          -- f(10, c = 11)
private def call2 : List (Arg Nat Nat) := [⟨some 2, 10⟩, ⟨some 0, 11⟩]        -- f(c = 10, a = 11)
private def call3 : List (Arg Nat Nat) := [⟨some 1, 10⟩, ⟨none, 11⟩]          -- f(b = 10, 11)

example : (ps3.map (·.name)).Nodup := by decide
example : (decide ps3 call1).diags = [] := by decide
example : (decide ps3 call1).order = some [.arg 10, .dflt 1, .arg 11] := by decide
example : (decide ps3 call2).order = some [.arg 11, .dflt 1, .arg 10] := by decide
example : (decide ps3 call3).diags = [.posAfter, .missing] := by decide
example : WellFormed ps3 call2 := (C18_accept_iff_wellformed ps3 call2 (by decide)).1 (by decide)
example : ¬ WellFormed ps3 call3 := fun h =>
  absurd ((C18_accept_iff_wellformed ps3 call3 (by decide)).2 h) (by decide)

end Abra.CallOrder
