import AbraProofs.Lemmas.CompileSim3
import AbraModel.Pending
/-!
# C02 — compiled programs compute what the language reference specifies (fragment F0)

Models: `Abra.Sem` (reference interpreter, M7), `Abra.Compile` (`compE`/`compS`/`compSs`/`compileMain`,
M8), `Abra.VM` (VM core, M4).  The theorems quantify over all F0 expressions / programs, all
environments and all fuel; loops are handled by induction on the fuel.

* `C02_compile_correct_F0` — Leroy-style simulation for expressions: if the reference interpreter
  evaluates `e` to `v` in store `ρ'`, the VM run of `compile e` from the encoding of `ρ` reaches the end of
  the code with `v` pushed (nothing for void) and locals encoding `ρ'`; runtime errors map to the same kind;
  `break`/`continue` reach the enclosing loop's exit/entry with the operand stack the loop body started with:
  the `d` operands pushed since then are dropped, wherever in an expression the `break`/`continue` sits.
  The compile model carries the pending-operand count of fix 0c43abd (`Pop`s before the jump), so the theorem
  needs no side condition on the operand depth at a `break`/`continue` (the defect was D21) and holds for every
  F0 program.
* `C02_compile_correct_F0_program` — the same for a whole `<main>` run from the initial state, no side condition.
* `C02_d21_witness_repaired`, `C02_break_pops_pending` — the D21 counterexample (`depthSafeSs` is false on it) prints
  105 on both sides; `break`/`continue` compiled at depth `d` are `d` `Pop`s and the jump.
* `C02_pending_*` — the operand-stack depth model `Abra.Pending` (every construct of the language, not only F0; tied to
  the Pops the real translator emits for every break/continue of the pending-jump family): the clauses the translator's
  hand adjustments have to meet, and its agreement with the F0 compile model on `break`/`continue`.
* `C02_reg_roundtrip`, `C02_reg_encode_range` — `Reg::encode` and the decoding in `load_offset_or_top`.

-- OPEN: compiler correctness for the whole core language (functions, heap data, closures, match) is not
-- proved; those tiers are covered by the end-to-end differential tie only (props/C02.py level_note).
-/
namespace Abra.Compile
open Abra.Sem Abra.VM

/-- **Compiler correctness for F0 expressions.**  `compE … d e = some …` says `e` is in F0 and well typed and was
    compiled at a point where `d` operands are pending since the body of the enclosing loop began (`d ≤ |T|`: they are
    on the operand stack).  A `break`/`continue` inside `e` reaches the loop's exit/entry with exactly those `d`
    operands dropped (`dropPending T d`), whatever `d` is (the `Pop`s of fix 0c43abd). -/
theorem C02_compile_correct_F0 (W : World) (Pg : Prog) (fuel : Nat) (e : Expr) (st : St)
    (Γ : TEnv) (next d : Nat) (code : Code) (τ : Ty) (n' : Nat) (lc : Nat × Nat) (pos : Nat) (L T : List VM.Val)
    (hc : compE Γ next d e = some (code, τ, n')) (hd : d ≤ T.length)
    (hcode : codeAt W.P pos (resolveAt pos lc code))
    (henv : EnvRel L Γ st.env) (hwf : WfΓ Γ next) (hlen : n' ≤ L.length) :
    match evalE fuel Pg st e with
    | .ok v st' => ∃ L', Steps W.P (W.cfg pos L T st.out) (W.cfg (pos + code.length) L' (T ++ pushed v τ) st'.out)
        ∧ EnvRel L' Γ st'.env ∧ HasTy v τ
    | .sig (.err k) st' => ∃ s1 s2, Steps W.P (W.cfg pos L T st.out) s1
        ∧ VM.step W.P s1 = .error (encErr k) s2 ∧ s1.out = st'.out
    | .sig .brk st' => ∃ L', Steps W.P (W.cfg pos L T st.out) (W.cfg lc.2 L' (dropPending T d) st'.out) ∧ EnvRel L' Γ st'.env
    | .sig .cont st' => ∃ L', Steps W.P (W.cfg pos L T st.out) (W.cfg lc.1 L' (dropPending T d) st'.out) ∧ EnvRel L' Γ st'.env
    | _ => True := by
  have h := (sim_all W Pg fuel).1 hc hd hcode henv hwf hlen
  cases hr : evalE fuel Pg st e with
  | ok v st' =>
    rw [hr] at h
    obtain ⟨L', h1, h2, _, h4⟩ := h
    exact ⟨L', h1, h2, h4⟩
  | sig g st' =>
    rw [hr] at h
    cases g with
    | err k => exact h
    | brk | cont => obtain ⟨L', h1, h2, _⟩ := h; exact ⟨L', h1, h2⟩
    | ret v => trivial
  | timeout => trivial
  | stuck w => trivial

/-- a step that ends in a user error leaves the output as it was (seen on every branch of `step`) -/
theorem step_error_out {P : Program} {s s' : State} {k : VM.Err} : VM.step P s = .error k s' → s'.out = s.out := by
  fun_cases VM.step P s <;> intro h <;> cases h <;> rfl

/-- how the final value of `<main>` shows on the VM stack: on top for int/bool, absent for void -/
def FinalOnTop (v : Sem.Val) (stack : List VM.Val) : Prop :=
  ∃ below τ, HasTy v τ ∧ stack = below ++ pushed v τ

/-- **Compiler correctness for whole F0 programs** (`<main>` = `PushNil`, the statements, `Stop`): the
    compiled program, run from the initial VM state, stops with the output and final value the reference
    interpreter computes, or with the same runtime error kind and the output printed before it. -/
theorem C02_compile_correct_F0_program (ss : Stmts) (code : Program) (fuel : Nat)
    (hc : compileMain ss = some code) :
    match Sem.run fuel ⟨[], [], ss⟩ with
    | .done v _ out => ∃ m s, VM.run code m State.init = .done s ∧ s.out = out ∧ FinalOnTop v s.stack
    | .error k out => ∃ m s, VM.run code m State.init = .error (encErr k) s ∧ s.out = out
    | .timeout => True
    | .stuck _ => True := by
  unfold compileMain at hc
  split at hc
  · rename_i c τ n heq
    simp only [Option.some.injEq] at hc
    subst hc
    let W : World := { P := resolveAt 0 (0, 0) (.pushNil n :: (c ++ [.stop])), pre := [], frames := [], heap := [] }
    obtain ⟨h0, hrest⟩ := codeAt_resolve_cons (P := W.P) ⟨[], [], (List.append_nil _).symm, rfl⟩
    replace h0 : W.P[0]? = some (.pushNil n) := h0
    obtain ⟨hcodeAt, hstop⟩ := codeAt_resolve_append hrest
    replace hstop : W.P[0 + 1 + c.length]? = some .stop := codeAt_head hstop
    let L0 : List VM.Val := List.replicate n (.int 0)
    have hinit : VM.step W.P State.init = .ok (W.cfg 1 L0 [] []) := by
      simp only [VM.step, State.init, h0, World.cfg, W, L0, List.nil_append, List.append_nil, Nat.zero_add,
        List.length_nil]
    have hsim := (sim_all W ⟨[], [], ss⟩ fuel).2.2 (st := St.init) (L := L0) (T := []) heq (Nat.zero_le _) hcodeAt
      .nil trivial (by simp [L0])
    simp only [Sem.run]
    cases hr : evalSs fuel ⟨[], [], ss⟩ St.init ss with
    | ok v st' =>
      rw [hr] at hsim
      obtain ⟨L', hst, _, _, hty⟩ := hsim
      simp only [if_true, List.nil_append] at hst
      have hdone : VM.run W.P 1 (W.cfg (1 + c.length) L' (pushed v τ) st'.out)
          = .done (W.cfg (1 + c.length) L' (pushed v τ) st'.out) := by
        simp only [VM.run, VM.step, World.cfg, hstop]
      obtain ⟨m, hm⟩ := run_of_steps ((Steps.single hinit).trans hst) 1 _ hdone (by intro s h; cases h)
      refine ⟨m, _, hm, rfl, L', τ, hty rfl, ?_⟩
      simp [World.cfg, W]
    | sig g st' =>
      rw [hr] at hsim
      cases g with
      | err k =>
        obtain ⟨s1, s2, hst, hstep, hout⟩ := hsim
        have herr : VM.run W.P 1 s1 = .error (encErr k) s2 := by simp only [VM.run, hstep]
        obtain ⟨m, hm⟩ := run_of_steps ((Steps.single hinit).trans hst) 1 _ herr (by intro s h; cases h)
        exact ⟨m, s2, hm, by rw [step_error_out hstep, hout]⟩
      | brk | cont => trivial
      | ret v => exact hsim.elim
    | timeout => trivial
    | stuck w => trivial
  · simp at hc

/-- `Reg::encode` followed by the decoding of `load_offset_or_top` is the identity. -/
theorem C02_reg_roundtrip (r : Reg) (w : Nat) (h : encodeReg r = some w) : decodeReg w = r := by
  cases r with
  | top => cases h; rfl
  | off n =>
    simp only [encodeReg] at h
    split at h
    · cases h
      -- 2^15 divides 2^16: the encoded word is the offset modulo 2^15, so it is below 2^15 and the decoder
      -- takes the offset branch; its two cases are the two signs
      generalize hw : (n % 65536).toNat % 32768 = w
      have hw' : (w : Int) = n % 32768 := by
        rw [← hw, Int.natCast_emod, Int.toNat_of_nonneg (Int.emod_nonneg _ (by decide)),
          Int.emod_emod_of_dvd _ (by decide)]; rfl
      clear hw
      unfold decodeReg
      rw [if_neg (by rw [Nat.div_eq_of_lt (by omega)]; decide), Nat.mod_eq_of_lt (by omega)]
      dsimp only
      split <;> (congr 1; omega)
    · cases h

/-- `Reg::encode` panics exactly on offsets outside the 15-bit range, and its result fits 16 bits. -/
theorem C02_reg_encode_range (r : Reg) :
    (encodeReg r = none ↔ ∃ n, r = .off n ∧ (n < -16384 ∨ 16383 < n)) ∧ (∀ w, encodeReg r = some w → w < 65536) := by
  cases r with
  | top => simp [encodeReg]
  | off n =>
    simp only [encodeReg]
    constructor
    · constructor
      · intro h
        split at h
        · simp at h
        · exact ⟨n, rfl, by omega⟩
      · rintro ⟨m, hm, hr⟩
        cases hm
        split
        · omega
        · rfl
    · intro w h
      split at h
      · simp only [Option.some.injEq] at h; omega
      · simp at h

/-- The former D21 witness: `var s = 10; let r = 100 + { while true { s + { if true { break } else { }; 1 } }; 5 };
    println(r)` — an F0 program in which `break` runs while two operands (`100`, `s`) are pending. -/
def d21Witness : Stmts :=
  Stmts.ofList [
    .let_ (.bind "s") (.int 10),
    .let_ (.bind "r") (.bin .add (.int 100) (.block (Stmts.ofList [
        .while_ (.bool true) (Stmts.ofList [
          .expr (.bin .add (.var "s") (.block (Stmts.ofList [
            .expr (.ite (.bool true) (.block (Stmts.ofList [.break_])) (.block .nil)),
            .expr (.int 1)])))]),
        .expr (.int 5)]))),
    .expr (.print (.var "r"))]

/-- `var i = 0; var acc = 0; while i < 4 { i += 1; acc = acc + i * { if i == 2 { continue } else { }; 10 } };
    println(acc)`: `continue` with `acc` and `i` pending, inside a compound right-hand side -/
def continueWitness : Stmts :=
  Stmts.ofList [
    .let_ (.bind "i") (.int 0),
    .let_ (.bind "acc") (.int 0),
    .while_ (.bin .lt (.var "i") (.int 4)) (Stmts.ofList [
      .assign "i" .add (.int 1),
      .assign "acc" .set (.bin .add (.var "acc") (.bin .mul (.var "i") (.block (Stmts.ofList [
        .expr (.ite (.bin .eq (.var "i") (.int 2)) (.block (Stmts.ofList [.continue_])) (.block .nil)),
        .expr (.int 10)]))))]),
    .expr (.print (.var "acc"))]

def semOut : Outcome → Option (List String)
  | .done _ _ out => some out
  | _ => none

def vmOut : RunResult → Option (List String)
  | .done s => some s.out
  | _ => none

/-- **The D21 counterexample is repaired.**  The witness fails `depthSafeSs` (a `break` while operands are pending), the
    reference prints 105, and the code of the compile model — `Pop`s before the jump of `break`, as the translator
    emits them since 0c43abd — run by the VM core prints 105 too (15 before the fix).  The second program does the
    same for `continue` under two pending operands. -/
theorem C02_d21_witness_repaired :
    depthSafeSs 0 d21Witness = false ∧
    semOut (Sem.run 100 ⟨[], [], d21Witness⟩) = some ["105\n"] ∧
    (compileMain d21Witness).map (fun code => vmOut (VM.run code 100 State.init)) = some (some ["105\n"]) ∧
    depthSafeSs 0 continueWitness = false ∧
    semOut (Sem.run 100 ⟨[], [], continueWitness⟩) = some ["80\n"] ∧
    (compileMain continueWitness).map (fun code => vmOut (VM.run code 300 State.init)) = some (some ["80\n"]) := by
  refine ⟨by decide, by decide +kernel, by decide +kernel, by decide, by decide +kernel, by decide +kernel⟩

/-- `break`/`continue` translated where `d` operands are pending: `d` `Pop`s, then the jump (fix 0c43abd:
    `for _ in enclosing_loop.pending_operands..st.pending_operands { emit(Pop) }`) -/
theorem C02_break_pops_pending (Γ : TEnv) (next d : Nat) (il : Bool) :
    compS Γ next d il .break_ = some (List.replicate d .pop ++ [.jump .brk], .unit, Γ, next) ∧
    compS Γ next d il .continue_ = some (List.replicate d .pop ++ [.jump .cont], .unit, Γ, next) := ⟨rfl, rfl⟩

/-- a finished run does not depend on the fuel it was given -/
theorem run_done_unique {P : Program} : ∀ (n m : Nat) (s s1 s2 : State),
    VM.run P n s = .done s1 → VM.run P m s = .done s2 → s1 = s2 := by
  intro n m s s1 s2 h1 h2
  rcases run_terminal_stable n m s _ h1 nofun with h | ⟨t, h⟩ <;> rw [h2] at h <;> cases h
  rfl

/-! ### non-vacuity: the hypotheses are satisfiable by non-trivial programs -/

/-- `var i = 0; var s = 0; while i < 3 { i += 1; if i == 2 { continue } else { }; s = s + i * 2 }; println(s); s` -/
def loopExample : Stmts :=
  Stmts.ofList [
    .let_ (.bind "i") (.int 0),
    .let_ (.bind "s") (.int 0),
    .while_ (.bin .lt (.var "i") (.int 3)) (Stmts.ofList [
      .assign "i" .add (.int 1),
      .expr (.ite (.bin .eq (.var "i") (.int 2)) (.block (Stmts.ofList [.continue_])) (.block .nil)),
      .assign "s" .set (.bin .add (.var "s") (.bin .mul (.var "i") (.int 2)))]),
    .expr (.print (.var "s")),
    .expr (.var "s")]

example : (compileMain loopExample).isSome = true ∧ (compileMain d21Witness).isSome = true ∧
    (compileMain continueWitness).isSome = true := by decide

/-- the expression theorem at depth 1: `{ if b { break } else { }; 7 }` compiled as the right operand of a `+` -/
example : (compE [("b", 0, .bool)] 1 1 (.block (Stmts.ofList [
      .expr (.ite (.var "b") (.block (Stmts.ofList [.break_])) (.block .nil)), .expr (.int 7)]))).isSome = true := by decide

example : semOut (Sem.run 100 ⟨[], [], loopExample⟩) = some ["8\n"] ∧
    (compileMain loopExample).map (fun code => vmOut (VM.run code 200 State.init)) = some (some ["8\n"]) := by
  refine ⟨by decide +kernel, by decide +kernel⟩

example : encodeReg (.off (-3)) = some 32765 ∧ decodeReg 32765 = .off (-3) ∧ encodeReg (.off 16384) = none := by decide

end Abra.Compile

namespace Abra.Pending

/-! Clauses of the depth model `Abra.Pending`.  Each is true by the model's definition; the model is tied to the real
translator by the harness (`pending …`). -/

/-- The two models agree on the jump statements (both by definition): the depth model assigns `d` Pops to a
    `break`/`continue` reached at depth `d`, and the F0 compile model `compS` emits `d` `Pop`s and the jump there.  That `d`
    IS the number of operands on the stack is not this statement: for F0 it is what `C02_compile_correct_F0` shows, beyond
    F0 it is checked by the harness tie (`pending …`) only. -/
theorem C02_pending_jump_at_depth (d : Nat) (Γ : Abra.Compile.TEnv) (next : Nat) (il : Bool) :
    popsS d .brk = [d] ∧ popsS d .cont = [d] ∧
    Abra.Compile.compS Γ next d il .break_ = some (List.replicate d .pop ++ [.jump .brk], .unit, Γ, next) ∧
    Abra.Compile.compS Γ next d il .continue_ = some (List.replicate d .pop ++ [.jump .cont], .unit, Γ, next) :=
  ⟨rfl, rfl, rfl, rfl⟩

/-- **The constant pushed by hand for unary minus is a pending operand** while the operand runs — for `int`
    (`PushInt 0`) and for `float` (`PushFloat -0.0`) alike (the line that seed C01-r3 takes out), and it adds up when
    negations nest. -/
theorem C02_pending_neg_constant_counted (d n : Nat) (v : Bool) (e : PE) :
    popsE d (.pre n v e) = popsE (d + n) e ∧
    popsE d (.pre 1 true (.pre 1 true (.block true (PSs.ofList [.brk])))) = [d + 2] :=
  ⟨rfl, rfl⟩

/-- **Operands wait for the operands to their right**, void ones take no slot. -/
theorem C02_pending_operands_wait (d : Nat) (v : Bool) (a b : PE) :
    popsE d (.seq v (PEs.ofList [a, b])) = popsE d a ++ popsE (if a.valued then d + 1 else d) b := by
  simp [popsE, popsArgs, PEs.ofList, bump]

/-- **`a[i] op= e`**: array and index go straight into their temporaries — nothing is pending while the index
    expression runs — and array, index and old element wait for the right-hand side. -/
theorem C02_pending_compound_index (d : Nat) (a i rhs : PE) :
    popsS d (.compoundIndex a i rhs) = popsE d a ++ popsE d i ++ popsE (d + 3) rhs := rfl

/-- **A loop body starts a new count; the loop head still belongs to the enclosing loop.** -/
theorem C02_pending_loop_resets (d : Nat) (c it : PE) (body : PSs) :
    popsS d (.while_ c body) = popsE d c ++ popsSs 0 body ∧ popsS d (.for_ it body) = popsE d it ++ popsSs 0 body := ⟨rfl, rfl⟩

/-- the former D21 witness in the depth model: `100 + { while true { s + { if true { break } else { }; 1 } }; 5 }` —
    `100` was pushed before the loop body began and stays, `s` is the one operand the `break` has to drop -/
example : popsSs 0 (PSs.ofList [.let_ (.seq true (PEs.ofList [.leaf true, .block true (PSs.ofList [
      .while_ (.leaf true) (PSs.ofList [.expr (.seq true (PEs.ofList [.leaf true, .block true (PSs.ofList [
        .expr (.ite false (.leaf true) (.block false (PSs.ofList [.brk])) (.block false .nil)), .expr (.leaf true)])]))]),
      .expr (.leaf true)])]))]) = [1] := by decide

end Abra.Pending
