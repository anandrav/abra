import AbraModel.Assign
import AbraProofs.Lemmas.Names
/-!
# C20 — immutable bindings cannot be assigned; assignment never crashes

Model: `Abra.Assign` — the checker's decision (`generate_constraints_stmt`, `record_pat_mutability`),
the compiler's reaction (`translate_stmt`), and the store it emits for a variable.
The table is over *all* targets (every binding form, captured or not, array element, struct field,
non-variable name) and all six assignment operators.

A variable captured by a lambda or task is rejected with a diagnostic (D20 repaired, fdfd074), so the
table is total: every target × operator yields accept or a diagnostic.  `oldDecision` is the table
of the code before the repair; `C20_assign_total_old_counterexample` documents that it crashed.
-/
namespace Abra.Assign

theorem checker_name (b : Base) (c : Bool) :
    checker (.name b c) =
      if patMutable b = some false then .diagImmutable else if c then .diagCaptured else .accept := by
  cases b <;> rfl

theorem oldDecision_name (b : Base) (c : Bool) (op : AOp) :
    oldDecision (.name b c) op =
      if patMutable b = some false then .diagImmutable else if c then .crash else .accept := by
  cases b <;> rfl

/-- the complete table in one statement -/
theorem C20_table (t : Target) (op : AOp) :
    assignDecision t op =
      match t with
      | .name .letB _ | .name .forB _ | .name .matchB _ => .diagImmutable
      | .name .varB c | .name .paramB c | .name .lamParamB c => if c then .diagCaptured else .accept
      | .elem | .field => .accept
      | .nonVar => .diagNotVar := by
  cases t with
  | name b captured => cases captured <;> cases b <;> rfl
  | _ => rfl

/-- a `let` binding cannot be assigned, with any operator, captured or not -/
theorem C20_let_rejected (captured : Bool) (op : AOp) :
    assignDecision (.name .letB captured) op = .diagImmutable :=
  C20_table _ op

/-- `var` bindings, array elements and struct fields are accepted, with every operator -/
theorem C20_var_accepted (op : AOp) :
    assignDecision (.name .varB false) op = .accept ∧
    assignDecision .elem op = .accept ∧ assignDecision .field op = .accept :=
  ⟨C20_table _ op, C20_table _ op, C20_table _ op⟩

/-- for-loop variables and match bindings are rejected with the diagnostic, parameters are accepted
    (both allowed by the property); assigning to a function name is a diagnostic -/
theorem C20_other_forms (op : AOp) :
    assignDecision (.name .forB false) op = .diagImmutable ∧
    assignDecision (.name .matchB false) op = .diagImmutable ∧
    assignDecision (.name .paramB false) op = .accept ∧
    assignDecision (.name .lamParamB false) op = .accept ∧
    assignDecision .nonVar op = .diagNotVar :=
  ⟨C20_table _ op, C20_table _ op, C20_table _ op, C20_table _ op, C20_table _ op⟩

/-- The accepted store takes effect: the code emitted for `x op= e` leaves in `x`'s slot the value
    the operator defines (exact 64-bit arithmetic of `Abra.I64`, C15) and touches nothing else, or
    stops with that operator's runtime error. -/
theorem C20_store_takes_effect (op : AOp) (idx : Nat) (rhs : Int) (frame : List Int)
    (h : idx < frame.length) :
    run frame [] (assignCode op idx rhs) =
      match newValue op frame[idx] rhs with
      | .val n => .ok (frame.set idx n) []
      | e => .err e := by
  have hstore : ∀ n, run frame [n] [.storeOffset idx] = .ok (frame.set idx n) [] := fun n => by
    simp only [run, step, h, if_true]
  cases ha : op.arith? with
  | none =>
    simp only [assignCode, newValue, ha]
    exact hstore rhs
  | some a =>
    simp only [assignCode, newValue, ha, run, step, List.getElem?_eq_getElem h]
    cases Abra.I64.apply a frame[idx] rhs with
    | val n => exact hstore n
    | overflow => rfl
    | divZero => rfl

/-- Assigning to a captured variable is rejected with a diagnostic, for every binding form and
    operator (immutable bindings with the `let` message, the others with the capture message). -/
theorem C20_capture_rejected (b : Base) (op : AOp) :
    assignDecision (.name b true) op = .diagImmutable ∨ assignDecision (.name b true) op = .diagCaptured := by
  rw [assignDecision, checker_name]
  split
  · exact Or.inl rfl
  · exact Or.inr rfl

/-- Totality: every target × operator yields accept or a diagnostic, never a compiler crash. -/
theorem C20_assign_total (t : Target) (op : AOp) : assignDecision t op ≠ .crash := by
  cases t with
  | name b c =>
    rw [assignDecision, checker_name]
    split
    · exact Decision.noConfusion
    · cases c <;> exact Decision.noConfusion
  | _ => exact Decision.noConfusion

/-- before fdfd074 (D20): `var x = 10   let f = () -> { x = 3 }` passed the checker and the
    compiler panicked — the old table was not total, and it crashed exactly on the captured
    variables the old checker accepted -/
theorem C20_assign_total_old_counterexample :
    ¬ (∀ (t : Target) (op : AOp), oldDecision t op ≠ .crash) := by
  intro h; exact h (.name .varB true) .eq rfl

theorem C20_old_crash_iff (t : Target) (op : AOp) :
    oldDecision t op = .crash ↔ ∃ b, t = .name b true ∧ patMutable b ≠ some false := by
  cases t with
  | name b c =>
    rw [oldDecision_name]
    constructor
    · intro h
      split at h
      · cases h
      · rename_i hb
        cases c
        · cases h
        · exact ⟨b, rfl, hb⟩
    · rintro ⟨b', hb, hm⟩
      cases hb
      rw [if_neg hm]; rfl
  | _ => exact ⟨nofun, nofun⟩

/-- the repair changed the table only there -/
theorem C20_old_agrees (t : Target) (op : AOp) (h : oldDecision t op ≠ .crash) :
    assignDecision t op = oldDecision t op := by
  cases t with
  | name b c =>
    rw [oldDecision_name] at h
    rw [assignDecision, checker_name, oldDecision_name]
    cases c
    · rfl
    · split
      · rfl
      · rename_i hb; rw [if_neg hb] at h; exact absurd rfl h
  | _ => rfl

mutual
theorem recordPat_eq (m : Bool) : (p : Pat) → recordPat m p = (binders p).map (fun id => (id, m))
  | .wild => rfl
  | .bind _ => rfl
  | .tuple es => recordPats_eq m es
  | .variant ds => recordPats_eq m ds
  | .struct fs => recordPats_eq m fs
  | .or l r => by
    show _ ++ _ = List.map _ (_ ++ _)
    rw [List.map_append, recordPat_eq m l, recordPat_eq m r]

theorem recordPats_eq (m : Bool) : (ps : List Pat) → recordPats m ps = (bindersList ps).map (fun id => (id, m))
  | [] => rfl
  | p :: ps => by
    show _ ++ _ = List.map _ (_ ++ _)
    rw [List.map_append, recordPat_eq m p, recordPats_eq m ps]
end

/-- `let` / `var` reaches every binding of the pattern, however deep (tuple, variant payload, named
    fields, struct pattern, both sides of an or-pattern): exactly the pattern's bindings are
    recorded, each with the statement's flag — so every name bound by a `let` pattern is immutable
    and every name bound by a `var` pattern is assignable. -/
theorem C20_pat_mutability (isMutable : Bool) (p : Pat) :
    recordPat isMutable p = (binders p).map (fun id => (id, isMutable)) :=
  recordPat_eq isMutable p

/-! ### which declaration the target means: the innermost visible one (Names model) -/

open Abra.Names in
/-- every statement form except `let` leaves the symbol table as it found it: what a block, a loop
    body, an if/else branch, a match arm or a lambda body declares ends with it -/
theorem resolveStmt_table {ν : Type} [DecidableEq ν] (w : World ν) (kids : Table ν) (st : SymTab ν)
    (s : Stmt ν) (h : ∀ x id, s ≠ .letv x id) : (resolveStmt w true kids st s).1 = st := by
  cases s with
  | letv x id => exact absurd rfl (h x id)
  | _ => rfl

open Abra.Names in
/-- The assignment target `x` written AFTER a scope-opening construct (block, while/for body, if/else,
    match, lambda) resolves exactly as it would without the construct: a same-named declaration
    inside the construct — whatever its mutability — never decides the verdict of an assignment
    outside of it. -/
theorem C20_target_after_scope {ν : Type} [DecidableEq ν] (w : World ν) (kids : Table ν) (st : SymTab ν)
    (s : Stmt ν) (h : ∀ y id, s ≠ .letv y id) (x : ν) :
    (resolveStmts w true kids st [s, .use x]).2 =
      (resolveStmt w true kids st s).2 ++ [Res.ofOption (lookup st x)] := by
  show (resolveStmt w true kids st s).2 ++ [Res.ofOption (lookup (resolveStmt w true kids st s).1 x)] = _
  rw [resolveStmt_table w kids st s h]

/-! ### non-vacuity -/
example : oldDecision (.name .letB true) .add ≠ .crash := by decide
example : run [7, 10, 9] [] (assignCode .sub 1 3) = .ok [7, 7, 9] [] := by rfl
example : run [7, 10, 9] [] (assignCode .div 1 0) = .err .divZero := by rfl
example : (1 : Nat) < [7, 10, 9].length := by decide
example : (∀ y id, (Abra.Names.Stmt.block [Abra.Names.Stmt.letv 5 2] : Abra.Names.Stmt Nat) ≠ .letv y id) := by
  intro y id h; cases h
example : recordPat false (.tuple [.variant [.bind 1, .wild], .or (.bind 2) (.bind 2), .struct [.bind 3]]) =
    [(1, false), (2, false), (2, false), (3, false)] := by decide

end Abra.Assign
