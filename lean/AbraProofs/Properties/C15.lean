import AbraProofs.Lemmas.Int64
/-!
# C15 — integer arithmetic is exact or fails with the documented error

Model: `Abra.I64` (the VM arms and the optimizer folds, as the code calls Rust's `checked_*`).
Every theorem quantifies over *all* pairs of 64-bit integers (no grid, no sample).
-/
namespace Abra.I64

/-- `+`: exact when it fits, otherwise the overflow error. Same shape for `-`, `*`, unary `-`. -/
theorem C15_add_spec (a b : Int) :
    add a b = if MIN ≤ a + b ∧ a + b ≤ MAX then .val (a + b) else .overflow :=
  ofChecked_checked _

theorem C15_sub_spec (a b : Int) :
    sub a b = if MIN ≤ a - b ∧ a - b ≤ MAX then .val (a - b) else .overflow :=
  ofChecked_checked _

theorem C15_mul_spec (a b : Int) :
    mul a b = if MIN ≤ a * b ∧ a * b ≤ MAX then .val (a * b) else .overflow :=
  ofChecked_checked _

/-- unary minus: exact, and the only overflow is `-MIN`. -/
theorem C15_neg_spec (a : Int) (ha : inRange a = true) :
    neg a = if a = MIN then .overflow else .val (-a) := by
  rw [neg, C15_sub_spec, Int.zero_sub]
  simp only [neg_inRange ((inRange_iff a).1 ha), ite_not]

/-- `/`: division by zero error for a zero divisor; otherwise truncation toward zero, with the
    overflow error exactly when the exact quotient does not fit — which is `MIN / -1` only. -/
theorem C15_div_spec (a b : Int) (ha : inRange a = true) (hb : inRange b = true) :
    div a b =
      if b = 0 then .divZero
      else if a = MIN ∧ b = -1 then .overflow
      else .val (Int.tdiv a b) := by
  have _ := hb  -- unused: whether the quotient fits depends on the dividend's range only
  rw [div, ofChecked_checked]
  split
  · rfl
  · next h0 => simp only [tdiv_inRange ((inRange_iff a).1 ha) h0, ite_not]

/-- `%`: division by zero error for a zero divisor; otherwise the value `a % b` of Lean's `Int.emod`
    (that this is the Euclidean remainder, `0 ≤ r < |b|` and `a = b * q + r`, is `C15_mod_euclidean`;
    that it fits 64 bits is `C15_mod_result_fits`). -/
theorem C15_mod_spec (a b : Int) :
    mod a b = if b = 0 then .divZero else .val (a % b) := rfl

theorem C15_mod_euclidean (a b : Int) (hb : b ≠ 0) :
    0 ≤ a % b ∧ a % b < b.natAbs ∧ a = b * (a / b) + a % b := by
  refine ⟨Int.emod_nonneg a hb, ?_, (Int.mul_ediv_add_emod a b).symm⟩
  have := Int.emod_lt a hb
  omega

theorem C15_mod_result_fits (a b : Int) (hb : b ≠ 0) (hrb : inRange b = true) :
    inRange (a % b) = true := by
  have ⟨h0, h1, _⟩ := C15_mod_euclidean a b hb
  have := natAbs_le_of_inRange ((inRange_iff b).1 hrb)
  rw [inRange_iff]
  simp only [MIN, MAX]
  omega

/-- `^` with a non-negative exponent of any size: the exact power when it fits, else overflow. -/
theorem C15_pow_spec (a b : Int) (hb : 0 ≤ b) :
    pow a b = if MIN ≤ a ^ b.toNat ∧ a ^ b.toNat ≤ MAX then .val (a ^ b.toNat) else .overflow := by
  rw [pow, if_pos hb, checkedPow_eq, ofChecked_checked]

/-- Literal operands (constant-folded by the optimizer) behave as variable operands:
    a fold never changes the value and never hides an error. -/
theorem C15_forms_agree (op : Op) (a b : Int) : applyFolded op a b = apply op a b := by
  -- a fold that happens pushes the very value the VM arm would produce
  have h : ∀ o, (match o with | some c => Out.val c | none => ofChecked o) = ofChecked o := by
    intro o; cases o <;> rfl
  cases op
  · exact h _
  · exact h _
  · exact h _
  · show (match (if b = 0 then none else checked (Int.tdiv a b)) with
        | some c => Out.val c | none => div a b) = div a b
    unfold div
    by_cases h0 : b = 0
    · rw [if_pos h0, if_pos h0]
    · rw [if_neg h0, if_neg h0]
      exact h _
  · rfl
  · show (match (match pow a b with | .val n => some n | _ => none) with
        | some c => Out.val c | none => pow a b) = pow a b
    cases pow a b <;> rfl

/-- A chain `(x op1 c1) op2 c2` is exact or fails exactly where the FIRST inexact step is: when the
    intermediate result does not fit, the chain stops with that error whatever `c2` would have
    brought back into range. -/
theorem C15_chain_spec (op1 op2 : Op) (x c1 c2 : Int) :
    (∀ y, apply op1 x c1 = .val y → chain op1 op2 x c1 c2 = apply op2 y c2) ∧
    (apply op1 x c1 = .overflow → chain op1 op2 x c1 c2 = .overflow) ∧
    (apply op1 x c1 = .divZero → chain op1 op2 x c1 c2 = .divZero) := by
  unfold chain
  exact ⟨fun y h => by rw [h], fun h => by rw [h], fun h => by rw [h]⟩

/-- Checked addition is not associative: folding the two constants of `x + c1 + c2` into `x + (c1 + c2)`
    (a tempting peephole rule, guarded or not by `c1 + c2` fitting) loses the overflow of the
    intermediate sum.  This is why the optimizer model has no such rule, and the point a seeded
    reassociation rule fails at. -/
theorem C15_reassociation_counterexample :
    chain .add .add MAX 1 (-1) = .overflow ∧ add MAX (1 + -1) = .val MAX ∧ inRange (1 + -1) = true ∧
    chain .add .add (MIN + 1) (-2) 5 = .overflow ∧ add (MIN + 1) (-2 + 5) = .val (MIN + 4) := by decide

/-! Non-vacuity: the boundary points at which the unrepaired code failed are covered by the
    hypotheses (in-range operands) and give the documented answers. -/
example : div MIN (-1) = .overflow := by decide
example : mod MIN (-1) = .val 0 := by decide
example : pow 2 4294967298 = .overflow := by decide +kernel
example : inRange MIN = true ∧ inRange (-1) = true := by decide

end Abra.I64
