import AbraProofs.Lemmas.Asm
/-!
# C05 — optimization and literal operands never change program behaviour

`Abra.Asm` models the instructions the optimizer mentions and their semantics on the operand stack,
`Abra.Opt` transliterates the peephole tables, `optimization_pass`, `optimize` and `expand_immediates`,
`Asm.runG` runs whole labelled programs (jumps, calls pushing return continuations, returns, halt;
symbolic code addresses).

Every theorem quantifies over ALL machine states (any stack contents and depth, any frame base, any
heap), all operand registers, all constants and — for the uninterpreted parts (IEEE arithmetic, libm,
float parsing/printing, heap objects, instructions outside the optimizer's vocabulary) — all possible
behaviours of those parts (`Prims`).  Outcomes compared are complete: resulting stack, base, heap and
control (fall through / which jump), or the error kind, or a VM fault.

A window and its replacement have the same outcome in every state, with three side conditions that are
stated where they are needed and are necessary (a counterexample on a concrete state for the first two,
`C05_fold_float_needs_roundtrip` for any pair of literals on which the round trip fails):
  - `Duplicate; Pop → ε` needs a non-empty stack (on an empty stack the window faults);
  - `LoadOffset(x); Op(_, Top, Offset(y)) → Op(_, Offset(x), Offset(y))` needs `y` not to name the
    slot that `LoadOffset` is about to create (`NotTopSlot`);
  - the float folds need `parse (to_string c) = c` for the folded non-NaN value (Rust's shortest
    round-trip printing; NaN results are not folded — D32 repair).
The first two are hypotheses of the whole-program theorems as well: the checked semantics (`runG … true`)
tests them at every adjacent instruction pair it reaches and must not end in `sideFail`.

`expand_immediates` is outcome-preserving in the BLOCK semantics (`run` on the instructions of the line
list, labels ignored); it is not lifted to `runG` and not composed with `C05_optimize_sound`.

  -- OPEN (stated in the doc comment of `C05_optimize_sound`): the converse simulation (a run of the optimized
  -- program comes from a run of the original, i.e. preservation of divergence), several green threads, and
  -- label-to-address resolution.  The converse needs the inverse window argument (one optimized step is
  -- matched by up to three original steps); threads and addresses belong to the M4 VM model.  The
  -- optimizer-on/off oracle of the harness exercises them.
-/
namespace Abra.Opt
open Abra.Asm

variable {H : Type}

/-! ## `…Imm` instructions

After the push, the plain instruction fetches its second operand from `Top` and finds the constant; from
there on the two instructions are the same term. -/

/-- `AddIntImm … EqualIntImm` (11 instructions), including their overflow and division-by-zero errors. -/
theorem C05_imm_consistent_int (P : Prims H) (op : IntOp) (d r1 : Reg) (k : Int) (s : St H) :
    run P [.binIImm op d r1 k] s = run P [.pushInt k, .binI op d r1 .top] s := by
  rw [run_two, run_single]; rfl

/-- `AddFloatImm … EqualFloatImm` (10 instructions), including the division-by-zero error of
    `DivFloatImm` for a `±0.0` constant. -/
theorem C05_imm_consistent_float (P : Prims H) (op : FloatOp) (d r1 : Reg) (lit : String) (s : St H) :
    run P [.binFImm op d r1 lit] s = run P [.pushFloat lit, .binF op d r1 .top] s := by
  rw [run_two, run_single]; rfl

theorem C05_imm_consistent_array_push (P : Prims H) (r1 : Reg) (k : Int) (s : St H) :
    run P [.arrayPushIntImm r1 k] s = run P [.pushInt k, .arrayPush r1 .top] s := by
  rw [run_two, run_single]; rfl

theorem C05_imm_consistent_store (P : Prims H) (off : Int) (k : Int) (s : St H) :
    run P [.storeOffsetImm off k] s = run P [.pushInt k, .storeOffset off] s := by
  rw [run_two, run_single]; exact (exec_storeOffset_push P off s (.int k)).symm

/-- the error kinds really are reached through the immediate forms (non-vacuity of "including errors") -/
example (P : Prims Unit) : run P [.binIImm .div .top .top 0] ⟨[.int 7], 0, ()⟩ = .err .divZero := rfl
example (P : Prims Unit) (lit : String) (h : P.parse lit = 0) :
    run P [.binFImm .div .top .top lit] ⟨[.float 5], 0, ()⟩ = .err .divZero := by
  rw [run_single]
  show (evalFloat P .div 5 (P.parse lit)).bind _ = _
  rw [h]; rfl
example (P : Prims Unit) :
    run P [.binIImm .add .top .top 1] ⟨[.int 9223372036854775807], 0, ()⟩ = .err .overflow := rfl

theorem C05_rule_sound_pushnil_pop (P : Prims H) (n : Nat) (hn : n ≠ 0) (s : St H) :
    run P [.pushNil n, .pop] s = run P [.pushNil (n - 1)] s := by
  cases n with
  | zero => exact absurd rfl hn
  | succ m =>
    rw [run_two, run_single]
    dsimp only [exec]
    rw [pushN_succ]; rfl

/-- `PushNil(0); Pop` is left alone by the 2-window (guard `n >= 1`) -/
example : peephole2 (.pushNil 0) .pop = .noMatch := by decide

theorem C05_rule_sound_push_pop (P : Prims H) (i : Instr)
    (hi : (∃ b, i = .pushBool b) ∨ (∃ f, i = .pushFloat f) ∨ (∃ n, i = .pushInt n) ∨ (∃ x, i = .pushString x))
    (s : St H) : run P [i, .pop] s = run P [] s := by
  rw [run_two]
  rcases hi with ⟨_, rfl⟩ | ⟨_, rfl⟩ | ⟨_, rfl⟩ | ⟨_, rfl⟩ <;> exact exec_pop_push P s _

theorem C05_rule_sound_dup_pop (P : Prims H) (s : St H) (hne : s.stack ≠ []) :
    run P [.duplicate, .pop] s = run P [] s := by
  obtain ⟨_ | ⟨v, st⟩, b, h⟩ := s
  · exact absurd rfl hne
  · exact exec_pop_push P ⟨v :: st, b, h⟩ v

/-- on an empty stack the window faults and the replacement does not: the side condition is necessary
    (and is implied by "the window does not fault") -/
theorem C05_rule_dup_pop_needs_stack (P : Prims H) (b : Nat) (h : H) :
    run P [.duplicate, .pop] ⟨[], b, h⟩ = .fault ∧ run P [] ⟨[], b, h⟩ ≠ .fault :=
  ⟨rfl, fun e => by cases e⟩

theorem C05_rule_sound_not_jumpif (P : Prims H) (l : String) (s : St H) :
    run P [.un .not .top .top, .jumpIf l] s = run P [.jumpIfFalse l] s := by
  rw [run_two, run_single]
  obtain ⟨_ | ⟨v, st⟩, base, h⟩ := s
  · rfl
  · show (exec P _ (St.push ⟨st, base, h⟩ v)).andThen _ = exec P _ (St.push ⟨st, base, h⟩ v)
    rw [exec_not_push, exec_jumpIfFalse_push]
    cases v with
    | bool b => cases b <;> rfl
    | _ => rfl

theorem C05_rule_sound_true_jumpif (P : Prims H) (l : String) (s : St H) :
    run P [.pushBool true, .jumpIf l] s = run P [.jump l] s := by
  rw [run_two, run_single]; exact exec_jumpIf_push P l s (.bool true)

theorem C05_rule_sound_true_jumpiffalse (P : Prims H) (l : String) (s : St H) :
    run P [.pushBool true, .jumpIfFalse l] s = run P [] s := by
  rw [run_two]; exact exec_jumpIfFalse_push P l s (.bool true)

theorem C05_rule_sound_false_jumpif (P : Prims H) (l : String) (s : St H) :
    run P [.pushBool false, .jumpIf l] s = run P [] s := by
  rw [run_two]; exact exec_jumpIf_push P l s (.bool false)

theorem C05_rule_sound_bool_flip (P : Prims H) (b : Bool) (s : St H) :
    run P [.pushBool b, .un .not .top .top] s = run P [.pushBool (!b)] s := by
  rw [run_two, run_single]; exact exec_not_push P s (.bool b)

theorem C05_rule_sound_pushint_store (P : Prims H) (n off : Int) (s : St H) :
    run P [.pushInt n, .storeOffset off] s = run P [.storeOffsetImm off n] s :=
  (C05_imm_consistent_store P off n s).symm

/-- `LOAD(X) <ANY>(_, _, TOP) -> <ANY>(_, _, X)` for all 9 instruction shapes of `second_arg_is_top`:
    each of them begins by fetching its second operand -/
theorem C05_rule_sound_load_second (P : Prims H) (x : Int) (i2 : Instr) (h : secondArgIsTop i2 = true)
    (s : St H) : run P [.loadOffset x, i2] s = run P [replaceSecondArg i2 (.off x)] s := by
  rw [run_two, run_single]
  cases i2 with
  | binI _ _ _ r2 | binF _ _ _ r2 | atan2 _ _ r2 | un _ _ r2 | arrayPush _ r2 | getIndex _ r2 | setIndex _ r2
  | getField _ r2 | setField _ r2 =>
    cases r2 with
    | top => exact loadOffset_andThen_top P x s _
    | off _ => cases h
  | _ => cases h

/-- source offsets of the second operand of the shapes matched by
    `first_arg_is_top_and_second_arg_is_offset_or_imm` -/
def secondOffset : Instr → Option Int
  | .binI _ _ _ (.off y) => some y
  | .binF _ _ _ (.off y) => some y
  | .atan2 _ _ (.off y) => some y
  | .arrayPush _ (.off y) => some y
  | .getIndex _ (.off y) => some y
  | .setIndex _ (.off y) => some y
  | _ => none

/-- `LOAD(X) Op(_, TOP, Offset(Y) | Imm) -> Op(_, X, Offset(Y) | Imm)`: sound when `Y` does not name the
    slot `LoadOffset` creates (code generation only emits offsets of arguments, captures and locals,
    all below the operand area). -/
theorem C05_rule_sound_load_first (P : Prims H) (x : Int) (i2 : Instr)
    (h : firstArgIsTopAndSecondArgIsOffsetOrImm i2 = true) (h2 : secondArgIsTop i2 = false) (s : St H)
    (hy : ∀ y, secondOffset i2 = some y → NotTopSlot s y) :
    run P [.loadOffset x, i2] s = run P [replaceFirstArg i2 (.off x)] s := by
  rw [run_two, run_single]
  cases i2 with
  | binIImm _ _ r1 _ | binFImm _ _ r1 _ | arrayPushIntImm r1 _ =>
    -- with an immediate the first operand is the first thing fetched
    cases r1 with
    | top => exact loadOffset_andThen_top P x s _
    | off _ => cases h
  | binI _ _ r1 r2 | binF _ _ r1 r2 | atan2 _ r1 r2 | arrayPush r1 r2 | getIndex r1 r2 | setIndex r1 r2 =>
    cases r2 with
    | top => cases h2
    | off y =>
      cases r1 with
      | off _ => cases h
      | top =>
        -- the window reads x, then y (unchanged by the push: `hn`), and finds x's value at `Top`; the
        -- fused instruction reads y, then x
        have hn := hy y rfl
        rw [exec_loadOffset, Res.andThen_bind]
        rcases loadOff_cases s x with ⟨v, hl⟩ | hl <;> rw [hl]
        · dsimp only [Res.bind_ok, Res.andThen_next, exec, replaceFirstArg]
          simp only [loadReg_off, loadOff_push _ _ _ hn, loadReg_top_push, hl, Res.bind_ok, Res.bind_assoc]
        · -- neither read can raise an error, so when the read of x faults the fused instruction faults too,
          -- whatever it does before that read
          dsimp only [Res.bind_fault, exec, replaceFirstArg]
          simp only [loadReg_off, hl, Res.bind_ok, Res.bind_fault, Res.bind_assoc, asInt_bind_fault,
            asFloat_bind_fault, loadOff_bind_fault]
  | _ => cases h

/-- the side condition is necessary: with `y` naming the slot above the top, the window reads the value
    just pushed while the fused instruction faults -/
theorem C05_rule_load_first_needs_offsets (P : Prims Unit) :
    run P [.loadOffset 0, .binI .add .top .top (.off 1)] ⟨[.int 5], 0, ()⟩ = .ok (⟨[.int 10, .int 5], 0, ()⟩, .next) ∧
    run P [.binI .add .top (.off 0) (.off 1)] ⟨[.int 5], 0, ()⟩ = .fault :=
  ⟨rfl, rfl⟩

/-- `Op(TOP, R1, R2) STORE(N) -> Op(N, R1, R2)` for all 6 shapes of `dest_is_top`: each ends by storing
    its result, and a push followed by `StoreOffset(N)` is the store to `Offset(N)` -/
theorem C05_rule_sound_dest_store (P : Prims H) (i1 : Instr) (off : Int) (h : destIsTop i1 = true)
    (s : St H) : run P [i1, .storeOffset off] s = run P [replaceDest i1 (.off off)] s := by
  rw [run_two, run_single]
  cases i1 with
  | binI _ d _ _ | binIImm _ d _ _ | binF _ d _ _ | binFImm _ d _ _ | atan2 d _ _ | un _ d _ =>
    cases d with
    | top =>
      dsimp only [exec, replaceDest]
      simp only [Res.andThen_bind]
      rfl
    | off _ => cases h
  | _ => cases h

/-- `PUSHINT(N) Op(_, _, TOP) -> OpImm(_, _, N)` (11 int instructions and `ArrayPush`) -/
theorem C05_rule_sound_imm_int (P : Prims H) (n : Int) (i2 : Instr) (h1 : secondArgIsTop i2 = true)
    (h2 : canReplaceSecondArgWithImmInt i2 = true) (s : St H) :
    run P [.pushInt n, i2] s = run P [replaceSecondArgImmInt i2 n] s := by
  cases i2 with
  | binI op d r1 r2 =>
    cases r2 with
    | top => exact (C05_imm_consistent_int P op d r1 n s).symm
    | off _ => cases h1
  | arrayPush r1 r2 =>
    cases r2 with
    | top => exact (C05_imm_consistent_array_push P r1 n s).symm
    | off _ => cases h1
  | _ => cases h2

/-- `PUSHFLOAT(N) OpFloat(_, _, TOP) -> OpFloatImm(_, _, N)` (10 float instructions) -/
theorem C05_rule_sound_imm_float (P : Prims H) (f : String) (i2 : Instr) (h1 : secondArgIsTop i2 = true)
    (h2 : canReplaceSecondArgWithImmFloat i2 = true) (s : St H) :
    run P [.pushFloat f, i2] s = run P [replaceSecondArgImmFloat i2 f] s := by
  cases i2 with
  | binF op d r1 r2 =>
    cases r2 with
    | top => exact (C05_imm_consistent_float P op d r1 f s).symm
    | off _ => cases h1
  | _ => cases h2

/-- the five integer folds (`+ - * / ^`): the fold fires only when the checked operation succeeds, and
    then pushes exactly the value the VM would compute; `%` is never folded -/
theorem C05_rule_sound_fold_int (P : Prims H) (op : IntOp) (a b c : Int) (h : foldInt op a b = some c)
    (s : St H) : run P [.pushInt a, .pushInt b, .binI op .top .top .top] s = run P [.pushInt c] s := by
  rw [run_push_push_binI, evalInt_of_fold op a b c h]; rfl

/-- a fold never hides an error: when the VM would raise overflow or division by zero, no fold happens -/
theorem C05_fold_int_none_of_error (op : IntOp) (a b : Int) (k : ErrKind) (h : evalInt op a b = .err k) :
    foldInt op a b = none := by
  cases hf : foldInt op a b with
  | none => rfl
  | some c => rw [evalInt_of_fold op a b c hf] at h; cases h

/-- the optimizer's float environment agrees with the VM's primitives: a fold computes
    `to_string(parse a ∘ parse b)`, is skipped for NaN results, and the zero test is the VM's -/
structure EnvAgrees (P : Prims H) (env : FoldEnv) : Prop where
  fold : ∀ op a b, env.foldF op a b =
    some (if isNaNF (P.fbin op (P.parse a) (P.parse b)) then none
          else some (P.toStr (P.fbin op (P.parse a) (P.parse b))))
  zero : ∀ b, env.isZeroLit b = isZeroF (P.parse b)

/-- Rust prints a non-NaN `f64` so that parsing the text gives the same bits back -/
def RoundTrip (P : Prims H) : Prop := ∀ x, isNaNF x = false → P.parse (P.toStr x) = x

/-- the five float folds: sound for every pair of literals, given the round trip of non-NaN values;
    a division whose divisor literal is `±0.0` and any fold whose result is NaN are left to the VM -/
theorem C05_rule_sound_fold_float (P : Prims H) (env : FoldEnv) (hag : EnvAgrees P env) (hrt : RoundTrip P)
    (op : FloatOp) (a b c : String)
    (h : peephole3 env (.pushFloat a) (.pushFloat b) (.binF op .top .top .top) = .replace [.pushFloat c])
    (s : St H) :
    run P [.pushFloat a, .pushFloat b, .binF op .top .top .top] s = run P [.pushFloat c] s := by
  dsimp only [peephole3] at h
  rw [hag.fold, hag.zero] at h
  split at h
  next har =>
    split at h
    · cases h
    next hz =>
      cases hn : isNaNF (P.fbin op (P.parse a) (P.parse b)) <;> rw [hn] at h <;> cases h
      -- an arithmetic operation, the divisor not zero, the result `x` not NaN: the VM pushes `x`, the
      -- folded program pushes `parse (toStr x)`
      have hcmp : op.isCmp = false := by cases op <;> first | rfl | cases har
      rw [run_push_push_binF, evalFloat, hcmp, if_neg hz]
      exact congrArg (fun x => Res.ok (s.push (.float x), Ctl.next)) (hrt _ hn).symm
  · cases h

/-- without the round trip the fold is observable: the folded constant differs from the computed one -/
theorem C05_fold_float_needs_roundtrip (P : Prims H) (a b : String) (s : St H)
    (hbad : P.parse (P.toStr (P.fbin .add (P.parse a) (P.parse b))) ≠ P.fbin .add (P.parse a) (P.parse b)) :
    run P [.pushFloat a, .pushFloat b, .binF .add .top .top .top] s ≠
    run P [.pushFloat (P.toStr (P.fbin .add (P.parse a) (P.parse b)))] s := by
  rw [run_push_push_binF]
  intro h
  exact hbad (Val.float.inj (List.head_eq_of_cons_eq (St.mk.inj (Prod.mk.inj (Res.ok.inj h)).1).1)).symm

theorem C05_rule_sound_pushnil0 (P : Prims H) (s : St H) : run P [.pushNil 0] s = run P [] s := rfl

/-! ## the rule tables as a whole

For each table one statement says everything later sections use of a rule that fires: the replacement
has the outcome of the window (under the side conditions of a 2-window), every instruction of the window
belongs to the optimizer's vocabulary, and the replacement is empty or one such instruction (the last two
are what the whole-program simulation needs to step through window and replacement). -/

/-- side conditions of a 2-window at the state where it starts -/
def WinOk (s : St H) (i1 i2 : Instr) : Prop :=
  (i1 = .duplicate → s.stack ≠ []) ∧
  (∀ x y, i1 = .loadOffset x → secondArgIsTop i2 = false → secondOffset i2 = some y → NotTopSlot s y)

def OutOk (out : List Instr) : Prop := out = [] ∨ ∃ j, out = [j] ∧ isOther j = false

theorem peephole1_fires (P : Prims H) (i : Instr) (out : List Instr) (h : peephole1 i = .replace out) :
    (isOther i = false ∧ OutOk out) ∧ ∀ s : St H, run P [i] s = run P out s := by
  unfold peephole1 at h
  split at h
  · cases h; exact ⟨⟨rfl, .inl rfl⟩, C05_rule_sound_pushnil0 P⟩
  · cases h

theorem C05_peephole1_sound (P : Prims H) (i : Instr) (out : List Instr) (h : peephole1 i = .replace out)
    (s : St H) : run P [i] s = run P out s :=
  (peephole1_fires P i out h).2 s

theorem peephole2Guarded_fires (P : Prims H) (i1 i2 : Instr) (out : List Instr)
    (h : peephole2Guarded i1 i2 = .replace out) :
    (isOther i1 = false ∧ isOther i2 = false ∧ OutOk out) ∧
      ∀ s : St H, WinOk s i1 i2 → run P [i1, i2] s = run P out s := by
  unfold peephole2Guarded at h
  split at h
  next off hl =>
    cases loadOffsetOf_some i1 off hl
    split at h
    next hc =>
      rw [Bool.and_eq_true] at hc; cases h
      have hn := (not_other_of_operand i2).1 hc.1
      exact ⟨⟨rfl, hn, .inr ⟨_, rfl, ((isOther_replace i2).1 _).trans hn⟩⟩,
        fun s _ => C05_rule_sound_load_second P off i2 hc.1 s⟩
    next hc =>
      split at h
      next hc2 =>
        rw [Bool.and_eq_true] at hc2; cases h
        have h2 : secondArgIsTop i2 = false := Bool.eq_false_iff.mpr fun hs => hc (by rw [hs, hc2.2]; rfl)
        have hn := (not_other_of_operand i2).2.1 hc2.1
        exact ⟨⟨rfl, hn, .inr ⟨_, rfl, ((isOther_replace i2).2.1 _).trans hn⟩⟩,
          fun s hok => C05_rule_sound_load_first P off i2 hc2.1 h2 s fun y hy => hok.2 off y rfl h2 hy⟩
      · cases h
  next hl =>
    split at h
    next off hs =>
      cases storeOffsetOf_some i2 off hs
      split at h
      next hc =>
        rw [Bool.and_eq_true] at hc; cases h
        have hn := (not_other_of_operand i1).2.2 hc.1
        exact ⟨⟨hn, rfl, .inr ⟨_, rfl, ((isOther_replace i1).2.2.1 _).trans hn⟩⟩,
          fun s _ => C05_rule_sound_dest_store P i1 off hc.1 s⟩
      · cases h
    next hs =>
      split at h
      next n hi =>
        cases pushIntOf_some i1 n hi
        split at h
        next hc =>
          rw [Bool.and_eq_true] at hc; cases h
          have hn := (not_other_of_operand i2).1 hc.1
          exact ⟨⟨rfl, hn, .inr ⟨_, rfl, ((isOther_replace i2).2.2.2.1 n).trans hn⟩⟩,
            fun s _ => C05_rule_sound_imm_int P n i2 hc.1 hc.2 s⟩
        · cases h
      next hi =>
        split at h
        next f hf =>
          cases pushFloatOf_some i1 f hf
          split at h
          next hc =>
            rw [Bool.and_eq_true] at hc; cases h
            have hn := (not_other_of_operand i2).1 hc.1
            exact ⟨⟨rfl, hn, .inr ⟨_, rfl, ((isOther_replace i2).2.2.2.2 f).trans hn⟩⟩,
              fun s _ => C05_rule_sound_imm_float P f i2 hc.1 hc.2 s⟩
          · cases h
        · cases h

theorem peephole2_fires (P : Prims H) (i1 i2 : Instr) (out : List Instr) (h : peephole2 i1 i2 = .replace out) :
    (isOther i1 = false ∧ isOther i2 = false ∧ OutOk out) ∧
      ∀ s : St H, WinOk s i1 i2 → run P [i1, i2] s = run P out s := by
  unfold peephole2 at h
  split at h
  · split at h
    · cases h
      exact ⟨⟨rfl, rfl, .inr ⟨_, rfl, rfl⟩⟩, fun s _ => C05_rule_sound_pushnil_pop P _ (Nat.ne_of_gt ‹_›) s⟩
    · cases h
  · cases h; exact ⟨⟨rfl, rfl, .inl rfl⟩, fun s _ => C05_rule_sound_push_pop P _ (.inl ⟨_, rfl⟩) s⟩
  · cases h; exact ⟨⟨rfl, rfl, .inl rfl⟩, fun s _ => C05_rule_sound_push_pop P _ (.inr (.inl ⟨_, rfl⟩)) s⟩
  · cases h; exact ⟨⟨rfl, rfl, .inl rfl⟩, fun s _ => C05_rule_sound_push_pop P _ (.inr (.inr (.inl ⟨_, rfl⟩))) s⟩
  · cases h; exact ⟨⟨rfl, rfl, .inl rfl⟩, fun s _ => C05_rule_sound_push_pop P _ (.inr (.inr (.inr ⟨_, rfl⟩))) s⟩
  · cases h; exact ⟨⟨rfl, rfl, .inl rfl⟩, fun s hok => C05_rule_sound_dup_pop P s (hok.1 rfl)⟩
  · cases h; exact ⟨⟨rfl, rfl, .inr ⟨_, rfl, rfl⟩⟩, fun s _ => C05_rule_sound_not_jumpif P _ s⟩
  · cases h; exact ⟨⟨rfl, rfl, .inr ⟨_, rfl, rfl⟩⟩, fun s _ => C05_rule_sound_true_jumpif P _ s⟩
  · cases h; exact ⟨⟨rfl, rfl, .inl rfl⟩, fun s _ => C05_rule_sound_true_jumpiffalse P _ s⟩
  · cases h; exact ⟨⟨rfl, rfl, .inl rfl⟩, fun s _ => C05_rule_sound_false_jumpif P _ s⟩
  · cases h; exact ⟨⟨rfl, rfl, .inr ⟨_, rfl, rfl⟩⟩, fun s _ => C05_rule_sound_bool_flip P _ s⟩
  · cases h; exact ⟨⟨rfl, rfl, .inr ⟨_, rfl, rfl⟩⟩, fun s _ => C05_rule_sound_pushint_store P _ _ s⟩
  · exact peephole2Guarded_fires P _ _ out h

theorem C05_peephole2_sound (P : Prims H) (i1 i2 : Instr) (out : List Instr)
    (h : peephole2 i1 i2 = .replace out) (s : St H) (hok : WinOk s i1 i2) :
    run P [i1, i2] s = run P out s :=
  (peephole2_fires P i1 i2 out h).2 s hok

theorem peephole3_fires (P : Prims H) (env : FoldEnv) (hag : EnvAgrees P env) (hrt : RoundTrip P)
    (i1 i2 i3 : Instr) (out : List Instr) (h : peephole3 env i1 i2 i3 = .replace out) :
    (isOther i1 = false ∧ isOther i2 = false ∧ isOther i3 = false ∧ OutOk out) ∧
      ∀ s : St H, run P [i1, i2, i3] s = run P out s := by
  have h0 := h
  unfold peephole3 at h
  split at h
  · split at h
    next c hc => cases h; exact ⟨⟨rfl, rfl, rfl, .inr ⟨_, rfl, rfl⟩⟩, C05_rule_sound_fold_int P _ _ _ c hc⟩
    · cases h
  · -- only the arm that pushes a folded literal answers `replace`
    split at h
    · split at h
      · cases h
      · split at h
        · cases h; exact ⟨⟨rfl, rfl, rfl, .inr ⟨_, rfl, rfl⟩⟩, C05_rule_sound_fold_float P env hag hrt _ _ _ _ h0⟩
        · cases h
        · cases h
    · cases h
  · cases h

theorem C05_peephole3_sound (P : Prims H) (env : FoldEnv) (hag : EnvAgrees P env) (hrt : RoundTrip P)
    (i1 i2 i3 : Instr) (out : List Instr) (h : peephole3 env i1 i2 i3 = .replace out) (s : St H) :
    run P [i1, i2, i3] s = run P out s :=
  (peephole3_fires P env hag hrt i1 i2 i3 out h).2 s

/-- a rule table answered `replace out` for the window `w` -/
inductive Fires (env : FoldEnv) : List Instr → List Instr → Prop where
  | one (i : Instr) (out : List Instr) : peephole1 i = .replace out → Fires env [i] out
  | two (i1 i2 : Instr) (out : List Instr) : peephole2 i1 i2 = .replace out → Fires env [i1, i2] out
  | three (i1 i2 i3 : Instr) (out : List Instr) :
      peephole3 env i1 i2 i3 = .replace out → Fires env [i1, i2, i3] out

theorem fires_spec (P : Prims H) (env : FoldEnv) (hag : EnvAgrees P env) (hrt : RoundTrip P)
    (w out : List Instr) (h : Fires env w out) :
    ((∀ i ∈ w, isOther i = false) ∧ OutOk out) ∧
      ∀ s : St H, (∀ i1 i2, w = [i1, i2] → WinOk s i1 i2) → run P w s = run P out s := by
  cases h with
  | one i out h1 =>
    have ⟨⟨k, ho⟩, hs⟩ := peephole1_fires P i out h1
    exact ⟨⟨List.forall_mem_cons.2 ⟨k, fun _ h => nomatch h⟩, ho⟩, fun s _ => hs s⟩
  | two i1 i2 out h2 =>
    have ⟨⟨k1, k2, ho⟩, hs⟩ := peephole2_fires P i1 i2 out h2
    exact ⟨⟨List.forall_mem_cons.2 ⟨k1, List.forall_mem_cons.2 ⟨k2, fun _ h => nomatch h⟩⟩, ho⟩,
      fun s hok => hs s (hok i1 i2 rfl)⟩
  | three i1 i2 i3 out h3 =>
    have ⟨⟨k1, k2, k3, ho⟩, hs⟩ := peephole3_fires P env hag hrt i1 i2 i3 out h3
    exact ⟨⟨List.forall_mem_cons.2 ⟨k1, List.forall_mem_cons.2 ⟨k2, List.forall_mem_cons.2 ⟨k3, fun _ h => nomatch h⟩⟩⟩,
      ho⟩, fun s _ => hs s⟩

/-- every window a pass rewrites is replaced by code with the same outcome in every state that
    satisfies the two side conditions at the start of the window -/
theorem C05_fires_sound (P : Prims H) (env : FoldEnv) (hag : EnvAgrees P env) (hrt : RoundTrip P)
    (w out : List Instr) (h : Fires env w out) (s : St H)
    (hok : ∀ i1 i2, w = [i1, i2] → WinOk s i1 i2) : run P w s = run P out s :=
  (fires_spec P env hag hrt w out h).2 s hok

def labelsOf : List Line → List String
  | [] => []
  | .label l :: r => l :: labelsOf r
  | .instr _ _ :: r => labelsOf r

def linesOf (w : List (Instr × Ann)) : List Line := w.map fun p => .instr p.1 p.2

/-- a hit consumes `k ∈ {1,2,3}` leading lines, all of them instructions (a label ends a window) -/
theorem matchAt_hit (env : FoldEnv) (ls : List Line) (out : List Instr) (k : Nat)
    (h : matchAt env ls = .hit out k) :
    ∃ (w : List (Instr × Ann)), 1 ≤ k ∧ ls = linesOf w ++ ls.drop k ∧
      Fires env (w.map (·.1)) out ∧ (w.head?.map (·.2)) = some (annOf ls) := by
  match ls, h with
  | .instr i1 a1 :: rest, h =>
    simp only [matchAt] at h
    split at h
    · rename_i out3 h3
      cases h
      split at h3
      · exact ⟨[(i1, a1), (_, _), (_, _)], by decide, rfl, .three _ _ _ _ h3, rfl⟩
      · cases h3
    · cases h
    · split at h
      · rename_i out2 h2
        cases h
        split at h2
        · exact ⟨[(i1, a1), (_, _)], by decide, rfl, .two _ _ _ h2, rfl⟩
        · cases h2
      · cases h
      · split at h
        · rename_i out1 h1
          cases h
          exact ⟨[(i1, a1)], by decide, rfl, .one _ _ h1, rfl⟩
        · cases h
        · cases h

/-- instruction lines in front of a line list (a window `linesOf w`, a replacement) carry no label -/
theorem labelsOf_instrs {α : Type} (f : α → Instr) (g : α → Ann) (xs : List α) (ls : List Line) :
    labelsOf (xs.map (fun x => Line.instr (f x) (g x)) ++ ls) = labelsOf ls := by
  induction xs with
  | nil => rfl
  | cons _ _ ih => exact ih

/-- one `optimization_pass` relates input and output lines segment by segment: a line is copied, or a
    label-free window on which a rule table fired is replaced by the rule's output, carrying the
    annotation of the window's first instruction -/
inductive PassRel (env : FoldEnv) : List Line → List Line → Prop where
  | nil : PassRel env [] []
  | keep (l : Line) (ls r : List Line) : PassRel env ls r → PassRel env (l :: ls) (l :: r)
  | rewrite (w : List (Instr × Ann)) (out : List Instr) (a : Ann) (ls r : List Line) :
      Fires env (w.map (·.1)) out → w.head?.map (·.2) = some a → PassRel env ls r →
      PassRel env (linesOf w ++ ls) (out.map (fun i => Line.instr i a) ++ r)

theorem passLoop_rel (env : FoldEnv) : ∀ (fuel : Nat) (ls r : List Line), ls.length ≤ fuel →
    passLoop env fuel ls = .ok r → PassRel env ls r := by
  intro fuel
  induction fuel with
  | zero =>
    intro ls r hl h
    cases List.eq_nil_of_length_eq_zero (Nat.le_zero.1 hl); cases h; exact .nil
  | succ f ih =>
    intro ls r hl h
    cases ls with
    | nil => cases h; exact .nil
    | cons l rest =>
      simp only [passLoop] at h
      split at h
      next out k hm =>
        obtain ⟨w, hk, hsplit, hf, ha⟩ := matchAt_hit env _ _ _ hm
        obtain ⟨tl, htl, rfl⟩ := PassRes.map_eq_ok h
        have hl2 : ((l :: rest).drop k).length ≤ f := by
          rw [List.length_drop]; exact Nat.le_trans (Nat.sub_le_sub_left hk _) (Nat.le_of_succ_le_succ hl)
        have := PassRel.rewrite w out (annOf (l :: rest)) _ _ hf ha (ih _ _ hl2 htl)
        rw [← hsplit] at this
        exact this
      · cases h
      · obtain ⟨tl, htl, rfl⟩ := PassRes.map_eq_ok h
        exact .keep l rest tl (ih _ _ (Nat.le_of_succ_le_succ hl) htl)

theorem C05_pass_segments (env : FoldEnv) (ls r : List Line) (h : pass env ls = .ok r) : PassRel env ls r :=
  passLoop_rel env ls.length ls r (Nat.le_refl _) h

theorem labelsOf_passRel (env : FoldEnv) (ls r : List Line) (h : PassRel env ls r) :
    labelsOf r = labelsOf ls := by
  induction h with
  | nil => rfl
  | keep l ls r _ ih => cases l <;> simp only [labelsOf, ih]
  | rewrite w out a ls r _ _ _ ih => rw [linesOf, labelsOf_instrs, labelsOf_instrs, ih]

inductive PassChain (env : FoldEnv) : List Line → List Line → Prop where
  | refl (ls : List Line) : PassChain env ls ls
  | step (a b c : List Line) : PassRel env a b → PassChain env b c → PassChain env a c

def iterPass (env : FoldEnv) : Nat → List Line → Option (List Line)
  | 0, p => some p
  | n + 1, p =>
    match pass env p with
    | .ok q => iterPass env n q
    | _ => none

theorem iterPass_succ (env : FoldEnv) (n : Nat) (p q : List Line) (h : pass env p = .ok q) :
    iterPass env (n + 1) p = iterPass env n q := by
  simp only [iterPass, h]

theorem optimizeLoop_iter (env : FoldEnv) : ∀ (fuel : Nat) (ls r : List Line),
    optimizeLoop env fuel ls = .ok r → ∃ n, iterPass env n ls = some r := by
  intro fuel
  induction fuel with
  | zero => intro ls r h; cases h; exact ⟨0, rfl⟩
  | succ f ih =>
    intro ls r h
    simp only [optimizeLoop] at h
    cases hp : pass env ls with
    | ok p =>
      rw [hp] at h
      dsimp only at h
      split at h
      · obtain ⟨n, hn⟩ := ih _ _ h
        exact ⟨n + 1, (iterPass_succ env n ls p hp).trans hn⟩
      · exact ⟨1, (iterPass_succ env 0 ls p hp).trans (congrArg some (PassRes.ok.inj h))⟩
    | needFold => rw [hp] at h; cases h

theorem iterPass_chain (env : FoldEnv) : ∀ (n : Nat) (ls r : List Line),
    iterPass env n ls = some r → PassChain env ls r
  | 0, ls, r, h => by cases h; exact .refl _
  | n + 1, ls, r, h => by
    cases hp : pass env ls with
    | ok q =>
      rw [iterPass_succ env n ls q hp] at h
      exact .step _ _ _ (C05_pass_segments env ls q hp) (iterPass_chain env n q r h)
    | needFold => simp only [iterPass, hp] at h; cases h

theorem optimize_chain (env : FoldEnv) (ls r : List Line) (h : optimize env ls = .ok r) : PassChain env ls r :=
  have ⟨n, hn⟩ := optimizeLoop_iter env _ ls r h
  iterPass_chain env n ls r hn

theorem labelsOf_chain (env : FoldEnv) (ls r : List Line) (h : PassChain env ls r) :
    labelsOf r = labelsOf ls := by
  induction h with
  | refl => rfl
  | step a b c hab _ ih => rw [ih, labelsOf_passRel env a b hab]

/-- **Labels.** `optimize` keeps every label, in order: the label sequence of the result is the label
    sequence of the input (so every jump target, call target and task entry still exists).  That no
    instruction moves across a label is `C05_optimize_label_split`. -/
theorem C05_labels_preserved (env : FoldEnv) (ls r : List Line) (h : optimize env ls = .ok r) :
    labelsOf r = labelsOf ls :=
  labelsOf_chain env ls r (optimize_chain env ls r h)

/-- **What is claimed for the optimizer as a whole, without a run statement.**  Wherever `optimize`
    succeeds: (1) the result is reached by a chain of passes each of which only copies lines or replaces
    label-free windows on which a rule table fired, (2) the label sequence is unchanged, (3) every such
    replacement has the outcome of its window in every state that meets the side conditions.  Their
    composition through jumps, calls and returns is `C05_optimize_sound` (forward direction). -/
theorem C05_optimize_sound_partial (P : Prims H) (env : FoldEnv) (hag : EnvAgrees P env) (hrt : RoundTrip P)
    (ls r : List Line) (h : optimize env ls = .ok r) :
    PassChain env ls r ∧ labelsOf r = labelsOf ls ∧
    (∀ (w out : List Instr), Fires env w out → ∀ (s : St H),
      (∀ i1 i2, w = [i1, i2] → WinOk s i1 i2) → run P w s = run P out s) :=
  ⟨optimize_chain env ls r h, C05_labels_preserved env ls r h,
   fun w out hf s hok => C05_fires_sound P env hag hrt w out hf s hok⟩

def codeOf : List Line → List Instr
  | [] => []
  | .label _ :: r => codeOf r
  | .instr i _ :: r => i :: codeOf r

theorem codeOf_instrs {α : Type} (f : α → Instr) (g : α → Ann) (xs : List α) (ls : List Line) :
    codeOf (xs.map (fun x => Line.instr (f x) (g x)) ++ ls) = xs.map f ++ codeOf ls := by
  induction xs with
  | nil => rfl
  | cons x _ ih => exact congrArg (f x :: ·) ih

/-- the two side conditions hold at every adjacent instruction pair that execution of the ORIGINAL code
    reaches from `s` (a statement about the original program only; it does not mention the optimizer) -/
def SegOk (P : Prims H) (code : List Instr) (s : St H) : Prop :=
  ∀ (pre : List Instr) (i1 i2 : Instr) (post : List Instr) (s1 : St H),
    code = pre ++ i1 :: i2 :: post → run P pre s = .ok (s1, .next) → WinOk s1 i1 i2

theorem SegOk_tail (P : Prims H) (xs ys : List Instr) (s s1 : St H) (h : SegOk P (xs ++ ys) s)
    (hr : run P xs s = .ok (s1, .next)) : SegOk P ys s1 := by
  intro pre i1 i2 post s2 hsplit hrun
  apply h (xs ++ pre) i1 i2 post s2
  · rw [hsplit, List.append_assoc]
  · rw [run_append, hr]; exact hrun

/-- **A pass is sound on every label-free block** (a basic block, or any longer stretch between two labels,
    opaque instructions such as calls treated as state transformers), entered at its first instruction in
    ANY state in which the original code meets the two side conditions where it reaches them: same final
    state and exit (fall off the end, or the same jump), or the same runtime error, or a fault. -/
theorem C05_pass_sound_block (P : Prims H) (env : FoldEnv) (hag : EnvAgrees P env) (hrt : RoundTrip P)
    (ls r : List Line) (hrel : PassRel env ls r) (hlf : labelsOf ls = []) :
    ∀ (s : St H), SegOk P (codeOf ls) s → run P (codeOf r) s = run P (codeOf ls) s := by
  induction hrel with
  | nil => intro s _; rfl
  | keep l ls r _ ih =>
    intro s hok
    cases l with
    | label l => cases hlf
    | instr i a =>
      exact Res.andThen_congr fun s1 he =>
        ih hlf s1 (SegOk_tail P [i] (codeOf ls) s s1 hok ((run_single P i s).trans he))
  | rewrite w out a ls r hf ha _ ih =>
    intro s hok
    rw [linesOf] at hlf hok ⊢
    rw [labelsOf_instrs] at hlf
    rw [codeOf_instrs] at hok ⊢
    have hw : run P (w.map (·.1)) s = run P out s :=
      C05_fires_sound P env hag hrt _ _ hf s fun i1 i2 hw2 => hok [] i1 i2 (codeOf ls) s (by rw [hw2]; rfl) rfl
    rw [codeOf_instrs, List.map_id', run_append, run_append, hw]
    exact Res.andThen_congr fun s1 hr =>
      ih hlf s1 (SegOk_tail P (w.map (·.1)) (codeOf ls) s s1 hok (hw.trans hr))

/-- the fixpoint on a label-free block, under the side conditions for every intermediate program -/
theorem C05_chain_sound_block (P : Prims H) (env : FoldEnv) (hag : EnvAgrees P env) (hrt : RoundTrip P)
    (ls r : List Line) (hch : PassChain env ls r) (hlf : labelsOf ls = []) (s : St H)
    (hok : ∀ mid, PassChain env ls mid → SegOk P (codeOf mid) s) :
    run P (codeOf r) s = run P (codeOf ls) s := by
  induction hch with
  | refl => rfl
  | step a b c hab hbc ih =>
    have hb : labelsOf b = [] := (labelsOf_passRel env a b hab).trans hlf
    rw [ih hb (fun mid hm => hok mid (.step a b mid hab hm))]
    exact C05_pass_sound_block P env hag hrt a b hab hlf s (hok a (.refl a))

theorem linesOf_prefix (w : List (Instr × Ann)) : ∀ (ls a b : List Line) (l : String),
    linesOf w ++ ls = a ++ Line.label l :: b →
    ∃ a3, a = linesOf w ++ a3 ∧ ls = a3 ++ Line.label l :: b := by
  induction w with
  | nil => intro ls a b l h; exact ⟨a, rfl, h⟩
  | cons p w ih =>
    intro ls a b l h
    cases a with
    | nil => cases h
    | cons y a2 =>
      injection h with hy hrest
      obtain ⟨a3, rfl, h2⟩ := ih ls a2 b l hrest
      exact ⟨a3, hy ▸ rfl, h2⟩

theorem passRel_label_split (env : FoldEnv) (l : String) (b : List Line) :
    ∀ (ls r : List Line), PassRel env ls r → ∀ (a : List Line), ls = a ++ Line.label l :: b →
    ∃ a' b', r = a' ++ Line.label l :: b' ∧ PassRel env a a' ∧ PassRel env b b' := by
  intro ls r hrel
  induction hrel with
  | nil => intro a h; cases a <;> cases h
  | keep x ls r hrel ih =>
    intro a h
    cases a with
    | nil => cases h; exact ⟨[], r, rfl, .nil, hrel⟩
    | cons y a2 =>
      injection h with hx hls
      obtain ⟨a', b', rfl, ha, hb⟩ := ih a2 hls
      exact ⟨x :: a', b', rfl, hx ▸ .keep x a2 a' ha, hb⟩
  | rewrite w out an ls r hf ha hrel ih =>
    intro a h
    obtain ⟨a3, rfl, h2⟩ := linesOf_prefix w ls a b l h
    obtain ⟨a', b', rfl, hra, hrb⟩ := ih a3 h2
    exact ⟨_, b', (List.append_assoc _ _ _).symm, .rewrite w out an a3 a' hf ha hra, hrb⟩

/-- **Blocks.** A pass treats the code before and after a label independently and leaves the label
    between the two results: `pass (a ++ [l:] ++ b) = pass-image(a) ++ [l:] ++ pass-image(b)`.  With
    `C05_pass_sound_block` this says: for every label, the optimized code following it (up to the next
    label) is equivalent to the original code following it — no jump can land inside a rewritten window. -/
theorem C05_pass_label_split (env : FoldEnv) (a b r : List Line) (l : String)
    (h : pass env (a ++ Line.label l :: b) = .ok r) :
    ∃ a' b', r = a' ++ Line.label l :: b' ∧ PassRel env a a' ∧ PassRel env b b' :=
  passRel_label_split env l b _ r (C05_pass_segments env _ r h) a rfl

theorem chain_label_split (env : FoldEnv) (l : String) :
    ∀ (ls r : List Line), PassChain env ls r → ∀ (a b : List Line), ls = a ++ Line.label l :: b →
    ∃ a' b', r = a' ++ Line.label l :: b' ∧ PassChain env a a' ∧ PassChain env b b' := by
  intro ls r hch
  induction hch with
  | refl ls => intro a b h; exact ⟨a, b, h, .refl a, .refl b⟩
  | step x y z hxy _ ih =>
    intro a b h
    obtain ⟨a1, b1, hy, ha1, hb1⟩ := passRel_label_split env l b x y hxy a h
    obtain ⟨a', b', hz, ha', hb'⟩ := ih a1 b1 hy
    exact ⟨a', b', hz, .step a a1 a' ha1 ha', .step b b1 b' hb1 hb'⟩

/-- the same for the fixpoint -/
theorem C05_optimize_label_split (env : FoldEnv) (a b r : List Line) (l : String)
    (h : optimize env (a ++ Line.label l :: b) = .ok r) :
    ∃ a' b', r = a' ++ Line.label l :: b' ∧ PassChain env a a' ∧ PassChain env b b' :=
  chain_label_split env l _ r (optimize_chain env _ r h) a b rfl

/-- `without_imm` is the inverse of the immediate fusion: the pair it returns behaves as the instruction -/
theorem C05_without_imm_sound (P : Prims H) (i push plain : Instr) (h : withoutImm i = some (push, plain))
    (s : St H) : run P [push, plain] s = run P [i] s := by
  cases i with
  | storeOffsetImm _ _ => cases h; exact (C05_imm_consistent_store P _ _ s).symm
  | binIImm _ _ _ _ => cases h; exact (C05_imm_consistent_int P _ _ _ _ s).symm
  | binFImm _ _ _ _ => cases h; exact (C05_imm_consistent_float P _ _ _ _ s).symm
  | arrayPushIntImm _ _ => cases h; exact (C05_imm_consistent_array_push P _ _ s).symm
  | _ => cases h

/-- **Constant pools beyond 16 bits.** Whatever the pool (any set of constants may fail to fit), the code
    after `expand_immediates` has the same outcome as before it, in every state, run as one block (`codeOf`
    drops the labels, `run` stops at a taken jump). -/
theorem C05_expand_immediates_sound (P : Prims H) (pool : Pool) (ls : List Line) :
    ∀ (s : St H), run P (codeOf (expandImmediates pool ls)) s = run P (codeOf ls) s := by
  induction ls with
  | nil => intro s; rfl
  | cons l rest ih =>
    intro s
    cases l with
    | label l => exact ih s
    | instr i a =>
      have keep : run P (i :: codeOf (expandImmediates pool rest)) s = run P (i :: codeOf rest) s :=
        congrArg (exec P i s).andThen (funext ih)
      unfold expandImmediates
      split
      next push plain hw =>
        split
        · exact keep
        · show run P ([push, plain] ++ _) s = run P ([i] ++ _) s
          rw [run_append, run_append, C05_without_imm_sound P i push plain hw s]
          exact congrArg (run P [i] s).andThen (funext ih)
      · exact keep

theorem C05_expand_immediates_labels (pool : Pool) (ls : List Line) :
    labelsOf (expandImmediates pool ls) = labelsOf ls := by
  induction ls with
  | nil => rfl
  | cons l rest ih =>
    cases l with
    | label l => exact congrArg (l :: ·) ih
    | instr i a =>
      unfold expandImmediates
      split
      · split <;> exact ih
      · exact ih

theorem expandImmediates_single (pool : Pool) (i push plain : Instr) (a : Ann)
    (hw : withoutImm i = some (push, plain)) :
    expandImmediates pool [.instr i a] =
      if fits pool push then [.instr i a] else [.instr push a, .instr plain a] := by
  simp only [expandImmediates, hw]

/-- **The threshold is an index.**  With the pool numbered as `gather_constants` does, an immediate-operand
    instruction survives `expand_immediates` exactly when its constant's pool index is at most 65535
    (`u16::MAX`); at index 65536 (where `as u16` would wrap to 0) and beyond it is expanded.  These two
    theorems take the index as given (`idx… imm = some k`); the no-index case is `C05_expand_threshold_none`. -/
theorem C05_expand_threshold_int (idxI : Int → Option Nat) (idxF : String → Option Nat) (i push plain : Instr)
    (a : Ann) (imm : Int) (k : Nat) (hw : withoutImm i = some (push, plain)) (hp : push = .pushInt imm)
    (hk : idxI imm = some k) :
    expandImmediates (poolOfIndex idxI idxF) [.instr i a] =
      if k ≤ 65535 then [.instr i a] else [.instr push a, .instr plain a] := by
  subst hp
  rw [expandImmediates_single _ i _ plain a hw]
  simp only [fits, poolOfIndex, hk, immIndexFits, decide_eq_true_eq]

theorem C05_expand_threshold_float (idxI : Int → Option Nat) (idxF : String → Option Nat) (i push plain : Instr)
    (a : Ann) (imm : String) (k : Nat) (hw : withoutImm i = some (push, plain)) (hp : push = .pushFloat imm)
    (hk : idxF imm = some k) :
    expandImmediates (poolOfIndex idxI idxF) [.instr i a] =
      if k ≤ 65535 then [.instr i a] else [.instr push a, .instr plain a] := by
  subst hp
  rw [expandImmediates_single _ i _ plain a hw]
  simp only [fits, poolOfIndex, hk, immIndexFits, decide_eq_true_eq]

/-- a constant without a pool index (`try_get_id` is `None`) does not fit: the immediate is expanded -/
theorem C05_expand_threshold_none (idxI : Int → Option Nat) (idxF : String → Option Nat) (i push plain : Instr)
    (a : Ann) (hw : withoutImm i = some (push, plain))
    (hk : (∃ imm, push = .pushInt imm ∧ idxI imm = none) ∨ (∃ imm, push = .pushFloat imm ∧ idxF imm = none)) :
    expandImmediates (poolOfIndex idxI idxF) [.instr i a] = [.instr push a, .instr plain a] := by
  rw [expandImmediates_single _ i push plain a hw]
  rcases hk with ⟨imm, rfl, h⟩ | ⟨imm, rfl, h⟩ <;> simp only [fits, poolOfIndex, h] <;> rfl

example : expandImmediates (poolOfIndex (fun _ => none) (fun _ => none))
    [.instr (.binIImm .add .top (.off 0) 7) ⟨0, 1, 0⟩] =
    [.instr (.pushInt 7) ⟨0, 1, 0⟩, .instr (.binI .add .top (.off 0) .top) ⟨0, 1, 0⟩] := by decide

/-- the boundary: indices 65534 and 65535 stay immediates, 65536 and 65537 are expanded -/
example : immIndexFits 65535 = true ∧ immIndexFits 65536 = false := by decide
example : expandImmediates (poolOfIndex (fun n => some n.toNat) (fun _ => none))
    [.instr (.binIImm .add .top (.off 0) 65534) ⟨0, 1, 0⟩, .instr (.binIImm .eq .top (.off 0) 65535) ⟨0, 2, 0⟩,
     .instr (.binIImm .ge .top (.off 0) 65536) ⟨0, 3, 0⟩, .instr (.storeOffsetImm 1 65537) ⟨0, 4, 0⟩] =
    [.instr (.binIImm .add .top (.off 0) 65534) ⟨0, 1, 0⟩, .instr (.binIImm .eq .top (.off 0) 65535) ⟨0, 2, 0⟩,
     .instr (.pushInt 65536) ⟨0, 3, 0⟩, .instr (.binI .ge .top (.off 0) .top) ⟨0, 3, 0⟩,
     .instr (.pushInt 65537) ⟨0, 4, 0⟩, .instr (.storeOffset 1) ⟨0, 4, 0⟩] := by decide

/-- an immediate whose constant does not fit is really expanded, one that fits is kept -/
example : expandImmediates ⟨fun n => n != 7, fun _ => true⟩
    [.instr (.binIImm .add .top (.off 0) 7) ⟨0, 1, 0⟩, .instr (.binIImm .add .top (.off 0) 8) ⟨0, 2, 0⟩] =
    [.instr (.pushInt 7) ⟨0, 1, 0⟩, .instr (.binI .add .top (.off 0) .top) ⟨0, 1, 0⟩,
     .instr (.binIImm .add .top (.off 0) 8) ⟨0, 2, 0⟩] := by decide

/-- D90: an offset outside the 15-bit register range is never fused (the three offset rules) -/
example : peephole2 (.loadOffset 16384) (.binI .add .top .top .top) = .noMatch := by decide
example : peephole2 (.loadOffset (-16385)) (.binIImm .add .top .top 1) = .noMatch := by decide
example : peephole2 (.binI .add .top .top .top) (.storeOffset 16384) = .noMatch := by decide
example : peephole2 (.loadOffset 16383) (.binI .add .top .top .top) =
    .replace [.binI .add .top .top (.off 16383)] := by decide

/-- a label names related continuations in a program and in its pass image -/
theorem afterLabel_passRel (env : FoldEnv) (ls r : List Line) (h : PassRel env ls r) (l : String) :
    match afterLabel ls l with
    | none => afterLabel r l = none
    | some c => ∃ c', afterLabel r l = some c' ∧ PassRel env c c' := by
  induction h with
  | nil => exact rfl
  | keep x ls r hrel ih =>
    cases x with
    | label l' =>
      simp only [afterLabel]
      by_cases e : l' = l
      · rw [if_pos e, if_pos e]; exact ⟨r, rfl, hrel⟩
      · rw [if_neg e, if_neg e]; exact ih
    | instr i a => exact ih
  | rewrite w out a ls r _ _ _ ih =>
    rw [linesOf, afterLabel_instrs, afterLabel_instrs]; exact ih

theorem winOk_of_B (s : St H) (i1 i2 : Instr) (h : winOkB s i1 i2 = true) : WinOk s i1 i2 := by
  unfold winOkB at h
  constructor
  · intro hd hs
    subst hd
    simp [hs] at h
  · intro x y hx h2 hy hc
    subst hx
    -- `winOkB` is stated with the model's own copy `secondOffsetOf` of `secondOffset`
    change secondOffsetOf i2 = some y at hy
    simp [hy, h2, hc] at h

/-- what a finished run through a window of known instructions looks like, in terms of the block
    semantics of the window: the step that leaves the window (falling through to `ls`, a jump, an error)
    is taken with some fuel `f'` left, less than `f` unless the window is empty -/
theorem runG_window (P : Prims H) (C : Ctrl H) (prog : List Line) (chk : Bool) (w : List (Instr × Ann)) :
    (∀ p ∈ w, isOther p.1 = false) →
    ∀ (f : Nat) (ls : List Line) (fr : Frames) (s : St H) (out : Final H),
      runG P C prog chk f (linesOf w ++ ls) fr s = out → out ≠ .timeout → out ≠ .sideFail →
      ∃ f', f' ≤ f ∧ (w ≠ [] → f' < f) ∧
        stepBody prog (runG P C prog chk f') (.plain (run P (w.map (·.1)) s)) ls fr = out := by
  induction w with
  | nil => intro _ f ls fr s out h _ _; exact ⟨f, Nat.le_refl f, fun h => absurd rfl h, h⟩
  | cons p w ih =>
    intro hk f ls fr s out h hne hns
    have ⟨hp, hk'⟩ := List.forall_mem_cons.1 hk
    cases f with
    | zero => exact absurd h.symm hne
    | succ f =>
      simp only [linesOf, List.map_cons, List.cons_append, runG, stepG] at h
      split at h
      · exact absurd h.symm hns
      · rw [stepOf_known P C p.1 s hp] at h
        rw [List.map_cons, run_cons]
        rcases he : exec P p.1 s with ⟨s', _ | l⟩ | e | _ <;> rw [he] at h
        · obtain ⟨f', hle, -, hrun⟩ := ih hk' f ls fr s' out h hne hns
          exact ⟨f', Nat.le_succ_of_le hle, fun _ => Nat.lt_succ_of_le hle, hrun⟩
        · exact ⟨f, Nat.le_succ f, fun _ => Nat.lt_succ_self f, h⟩
        · exact ⟨0, Nat.zero_le _, fun _ => Nat.succ_pos f, h⟩
        · exact ⟨0, Nat.zero_le _, fun _ => Nat.succ_pos f, h⟩

/-- **Simulation for one pass.**  From related continuations (a suffix of the program and the matching
    suffix of its pass image) with related call stacks and the SAME machine state, every finished run of
    the original that meets the side conditions is a run of the image with the same final outcome
    (halt state, runtime error, fault), within the same fuel — through jumps to labels, calls that push
    return continuations, and returns that pop them. -/
theorem sim_pass (P : Prims H) (C : Ctrl H) (env : FoldEnv) (hag : EnvAgrees P env) (hrt : RoundTrip P)
    (prog prog' : List Line) (hprog : PassRel env prog prog') :
    ∀ (f : Nat) (c c' : List Line) (fr fr' : Frames) (s : St H) (out : Final H),
      PassRel env c c' → FramesRel (PassRel env) fr fr' →
      runG P C prog true f c fr s = out → out ≠ .timeout → out ≠ .sideFail →
      runG P C prog' false f c' fr' s = out := by
  intro f
  induction f using Nat.strongRecOn with
  | _ f ih =>
    intro c c' fr fr' s out hrel hfr h hne hns
    -- one step with less fuel left on both sides: the rest of the run is the induction hypothesis
    have step : ∀ f', f' < f → ∀ (st : OtherStep H) (r r' : List Line), PassRel env r r' →
        stepBody prog (runG P C prog true f') st r fr = out →
        stepBody prog' (runG P C prog' false f') st r' fr' = out := by
      intro f' hlt st r r' hr hst
      exact stepBody_rel (G := fun o => o ≠ Final.timeout ∧ o ≠ Final.sideFail) prog prog'
        (runG P C prog true f') (runG P C prog' false f') (afterLabel_passRel env prog prog' hprog)
        (fun c c' fr fr' s out hc hf hk hg => ih f' hlt _ _ _ _ _ _ hc hf hk hg.1 hg.2)
        st r r' fr fr' out hr hfr hst ⟨hne, hns⟩
    cases hrel with
    | nil => cases f <;> exact h
    | keep x ls r hrel' =>
      cases f with
      | zero => exact absurd h.symm hne
      | succ f =>
        cases x with
        | label l => exact ih f (Nat.lt_succ_self f) _ _ _ _ _ _ hrel' hfr h hne hns
        | instr i a =>
          simp only [runG, stepG] at h ⊢
          split at h
          · exact absurd h.symm hns
          · exact step f (Nat.lt_succ_self f) _ ls r hrel' h
    | rewrite w o a ls r hf ha hrel' =>
      obtain ⟨⟨hknown, hout⟩, hsound⟩ := fires_spec P env hag hrt _ _ hf
      obtain ⟨f', -, hlt, hpost⟩ :=
        runG_window P C prog true w (fun p hp => hknown p.1 (List.mem_map_of_mem hp)) f ls fr s out h hne hns
      rw [hsound s fun i1 i2 hw => by
        obtain _ | ⟨p, _ | ⟨q, _ | _⟩⟩ := w <;> cases hw
        exact winOk_of_B s _ _ (runG_chk_first P C prog f p.1 p.2 _ fr s out h hne hns)] at hpost
      have hlt : f' + 1 ≤ f := hlt fun e => by rw [e] at hf; cases hf
      -- the image leaves its (shorter) window by the same step
      have hpost' := step f' hlt _ ls r hrel' hpost
      refine runG_weaken P C prog' false false id (f' + 1) f hlt _ fr' s out ?_ (fun _ => hne) (fun h => absurd rfl h)
      rcases hout with rfl | ⟨j, rfl, hj⟩
      · exact runG_weaken P C prog' false false id f' (f' + 1) (Nat.le_succ f') r fr' s out hpost' (fun _ => hne)
          (fun h => absurd rfl h)
      · rw [run_single] at hpost'
        simpa only [List.map, List.cons_append, List.nil_append, runG, stepG, Bool.false_and, Bool.false_eq_true,
          if_false, stepOf_known P C j s hj] using hpost'

/-- **A pass is sound on whole programs.**  Started at the first line with an empty call stack in ANY
    state, every finished run of the original program that meets the side conditions is a run of the
    pass image with the same final outcome, within the same fuel. -/
theorem C05_pass_sound (P : Prims H) (C : Ctrl H) (env : FoldEnv) (hag : EnvAgrees P env) (hrt : RoundTrip P)
    (prog prog' : List Line) (h : pass env prog = .ok prog') (f : Nat) (s : St H) (out : Final H)
    (hrun : runG P C prog true f prog [] s = out) (hne : out ≠ .timeout) (hns : out ≠ .sideFail) :
    runG P C prog' false f prog' [] s = out :=
  have hrel := C05_pass_segments env prog prog' h
  sim_pass P C env hag hrt prog prog' hrel f prog prog' [] [] s out hrel .nil hrun hne hns

/-- the same for a thread that starts at a label (a task body, a function called from the host) -/
theorem C05_pass_sound_at_label (P : Prims H) (C : Ctrl H) (env : FoldEnv) (hag : EnvAgrees P env)
    (hrt : RoundTrip P) (prog prog' : List Line) (h : pass env prog = .ok prog') (l : String)
    (c : List Line) (hl : afterLabel prog l = some c) :
    ∃ c', afterLabel prog' l = some c' ∧ ∀ (f : Nat) (s : St H) (out : Final H),
      runG P C prog true f c [] s = out → out ≠ .timeout → out ≠ .sideFail →
      runG P C prog' false f c' [] s = out := by
  have hrel := C05_pass_segments env prog prog' h
  have := afterLabel_passRel env prog prog' hrel l
  rw [hl] at this
  obtain ⟨c', hc', hcc⟩ := this
  exact ⟨c', hc', fun f s out hrun hne hns =>
    sim_pass P C env hag hrt prog prog' hrel f c c' [] [] s out hcc .nil hrun hne hns⟩

theorem iterPass_sound (P : Prims H) (C : Ctrl H) (env : FoldEnv) (hag : EnvAgrees P env) (hrt : RoundTrip P)
    (f : Nat) (s : St H) (out : Final H) (hne : out ≠ .timeout) :
    ∀ (n : Nat) (prog prog' : List Line), iterPass env n prog = some prog' →
      (∀ m mid, iterPass env m prog = some mid → runG P C mid true f mid [] s ≠ .sideFail) →
      runG P C prog false f prog [] s = out → runG P C prog' false f prog' [] s = out := by
  intro n
  induction n with
  | zero => intro prog prog' h _ hrun; cases h; exact hrun
  | succ n ih =>
    intro prog prog' h hside hrun
    cases hp : pass env prog with
    | ok q =>
      rw [iterPass_succ env n prog q hp] at h
      -- the unchecked run of `prog` is its checked run, which does not end in `sideFail`
      have hs0 := hside 0 prog rfl
      have htrue : runG P C prog true f prog [] s = out :=
        (runG_weaken P C prog true false nofun f f (Nat.le_refl f) prog [] s _ rfl
          (fun h => absurd h (Nat.lt_irrefl f)) (fun _ => hs0)).symm.trans hrun
      have hq := C05_pass_sound P C env hag hrt prog q hp f s out htrue hne (htrue ▸ hs0)
      exact ih q prog' h (fun m mid hm => hside (m + 1) mid ((iterPass_succ env m prog q hp).trans hm)) hq
    | needFold => simp only [iterPass, hp] at h; cases h

/-- **The optimizer is sound on whole programs.**  If `optimize` turns `prog` into `prog'`, then from the
    first line, an empty call stack and ANY machine state, every finished run of `prog` is a run of
    `prog'` with the same final outcome — the same state at `Stop` (stack, base, heap: hence everything the
    opaque instructions did, in the same order, to the heap and the host), the same runtime error, or a
    fault — provided the checked run (same fuel, same start state) of the original and of EVERY iterate
    `iterPass env m prog` (all m for which it is defined — this includes the intermediate programs of the
    fixpoint iteration and also iterates past the fixpoint) does not end in `sideFail`, i.e. the two side
    conditions hold wherever those runs reach an adjacent instruction pair before they finish.  Control
    passes through jumps to labels, calls pushing return continuations and returns popping them; code
    addresses are symbolic (labels / return continuations).
    Not covered: the converse direction (that a run of `prog'` comes from a run of `prog`; needed for
    "the optimized program diverges only if the original does"), several green threads, and the
    resolution of labels to numeric addresses (`remove_labels_and_constants`). -/
theorem C05_optimize_sound (P : Prims H) (C : Ctrl H) (env : FoldEnv) (hag : EnvAgrees P env) (hrt : RoundTrip P)
    (prog prog' : List Line) (h : optimize env prog = .ok prog') (f : Nat) (s : St H) (out : Final H)
    (hside : ∀ m mid, iterPass env m prog = some mid → runG P C mid true f mid [] s ≠ .sideFail)
    (hrun : runG P C prog false f prog [] s = out) (hne : out ≠ .timeout) :
    runG P C prog' false f prog' [] s = out := by
  obtain ⟨n, hn⟩ := optimizeLoop_iter env _ prog prog' h
  exact iterPass_sound P C env hag hrt f s out hne n prog prog' hn hside hrun

/-! Non-vacuity: a concrete environment agreeing with concrete primitives, and a program on which the
    optimizer fires rules of all three window sizes. -/
def exPrims : Prims Unit where
  fbin := fun _ a b => a + b
  fcmp := fun _ a b => a < b
  atan2 := fun a _ => a
  parse := fun s => s.length.toUInt64
  toStr := fun x => String.ofList (List.replicate x.toNat 'x')
  strConst := fun _ => .obj 0 0
  un := fun _ v h => .ok (v, h)
  arrayPush := fun _ _ h => .ok h
  getIndex := fun _ _ _ => .err .oob
  setIndex := fun _ _ _ h => .ok h
  getField := fun _ v _ => .ok v
  setField := fun _ _ _ h => .ok h
  other := fun _ s => .ok (s, .next)

def exEnv : FoldEnv where
  foldF := fun op a b => some (if isNaNF (exPrims.fbin op (exPrims.parse a) (exPrims.parse b)) then none
    else some (exPrims.toStr (exPrims.fbin op (exPrims.parse a) (exPrims.parse b))))
  isZeroLit := fun b => isZeroF (exPrims.parse b)

example : EnvAgrees exPrims exEnv := ⟨fun _ _ _ => rfl, fun _ => rfl⟩

def exProg : List Line :=
  [.instr (.pushNil 0) ⟨0, 1, 0⟩, .instr (.pushInt 2) ⟨0, 1, 0⟩, .instr (.pushInt 3) ⟨0, 1, 0⟩,
   .instr (.binI .add .top .top .top) ⟨0, 1, 0⟩, .instr (.storeOffset 0) ⟨0, 1, 0⟩, .label "l",
   .instr (.loadOffset 0) ⟨0, 2, 0⟩, .instr (.pushInt 1) ⟨0, 2, 0⟩, .instr (.binI .lt .top .top .top) ⟨0, 2, 0⟩,
   .instr (.un .not .top .top) ⟨0, 2, 0⟩, .instr (.jumpIf "l") ⟨0, 2, 0⟩]

example : optimize exEnv exProg = .ok
    [.instr (.storeOffsetImm 0 5) ⟨0, 1, 0⟩, .label "l",
     .instr (.binIImm .lt .top (.off 0) 1) ⟨0, 2, 0⟩, .instr (.jumpIfFalse "l") ⟨0, 2, 0⟩] := by
  decide +kernel

example : WinOk (⟨[.int 1], 0, ()⟩ : St Unit) (.loadOffset 0) (.binIImm .lt .top .top 1) :=
  ⟨fun h => (by cases h), fun x y _ _ h => (by simp [secondOffset] at h)⟩

/-- non-vacuity of the whole-program theorems: a program with a call, a return, a loop-free jump and a
    halt runs to `Stop` under the checked semantics (so it is neither `timeout` nor `sideFail`), and its
    optimized image halts in the same state -/
def exCtrl : Ctrl Unit where
  classify := fun t s =>
    if t = "Call(f)" then .call s "f" [s.base]
    else if t = "Return" then .ret (fun info => .ok { s with base := info.headD 0 })
    else if t = "Stop" then .halt s
    else .plain (.ok (s, .next))

def exProg2 : List Line :=
  [.instr (.pushInt 2) ⟨0, 1, 0⟩, .instr (.pushInt 3) ⟨0, 1, 0⟩, .instr (.binI .add .top .top .top) ⟨0, 1, 0⟩,
   .instr (.other "Call(f)") ⟨0, 2, 0⟩, .instr (.pushBool true) ⟨0, 3, 0⟩, .instr (.jumpIf "end") ⟨0, 3, 0⟩,
   .instr (.pushInt 99) ⟨0, 4, 0⟩, .label "end", .instr (.other "Stop") ⟨0, 5, 0⟩,
   .label "f", .instr (.pushInt 1) ⟨0, 7, 1⟩, .instr (.binI .add .top .top .top) ⟨0, 7, 1⟩,
   .instr (.other "Return") ⟨0, 8, 1⟩]

def haltedWith (stack : List Val) : Final Unit → Bool
  | .halted s => decide (s.stack = stack)
  | _ => false

example : haltedWith [.int 6] (runG exPrims exCtrl exProg2 true 20 exProg2 [] ⟨[], 0, ()⟩) = true := by
  decide +kernel

example : optimize exEnv exProg2 = .ok
    [.instr (.pushInt 5) ⟨0, 1, 0⟩, .instr (.other "Call(f)") ⟨0, 2, 0⟩, .instr (.jump "end") ⟨0, 3, 0⟩,
     .instr (.pushInt 99) ⟨0, 4, 0⟩, .label "end", .instr (.other "Stop") ⟨0, 5, 0⟩,
     .label "f", .instr (.binIImm .add .top .top 1) ⟨0, 7, 1⟩, .instr (.other "Return") ⟨0, 8, 1⟩] := by
  decide +kernel

example : haltedWith [.int 6] (runG exPrims exCtrl
    [.instr (.pushInt 5) ⟨0, 1, 0⟩, .instr (.other "Call(f)") ⟨0, 2, 0⟩, .instr (.jump "end") ⟨0, 3, 0⟩,
     .instr (.pushInt 99) ⟨0, 4, 0⟩, .label "end", .instr (.other "Stop") ⟨0, 5, 0⟩,
     .label "f", .instr (.binIImm .add .top .top 1) ⟨0, 7, 1⟩, .instr (.other "Return") ⟨0, 8, 1⟩] false 20
    [.instr (.pushInt 5) ⟨0, 1, 0⟩, .instr (.other "Call(f)") ⟨0, 2, 0⟩, .instr (.jump "end") ⟨0, 3, 0⟩,
     .instr (.pushInt 99) ⟨0, 4, 0⟩, .label "end", .instr (.other "Stop") ⟨0, 5, 0⟩,
     .label "f", .instr (.binIImm .add .top .top 1) ⟨0, 7, 1⟩, .instr (.other "Return") ⟨0, 8, 1⟩]
    [] ⟨[], 0, ()⟩) = true := by
  decide +kernel

end Abra.Opt
