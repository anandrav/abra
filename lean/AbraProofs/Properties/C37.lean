import AbraProofs.Lemmas.IdSetOps
/-!
# C37 — the interning set is a sound, order-preserving id map; every safe history is UB-free

Model: `Abra.IdSet` (`utils/src/id_set.rs`): a world of buffers with owners and liveness, set
records holding raw pointers `(buffer, index)`, the operations `new / insert / try_get_id / contains /
index / len / iter / into_iter / clear / clone / drop` on any number of sets; a dereference of a
pointer into a freed buffer (or past its length), a push that would reallocate, and a double free
answer `Out.ub`.

Specification (independent of the model, `List` notions only): a handle denotes a list of distinct
values in insertion order; `insert` appends iff new and answers `idxOf`, lookups are `idxOf`/`∈`/`[i]?`,
`clone` copies the list, `clear` empties it, `drop`/`into_iter` end the handle.

All theorems quantify over **every** history (any number of sets, any interleaving, any length).
-/
namespace Abra.IdSet

variable {α : Type}

/-! ## the list specification -/

/-- the list behind a live handle -/
def Spec.get (σ : List (Option (List α))) (h : Nat) : Option (List α) :=
  match σ[h]? with
  | some (some l) => some l
  | _ => none

def Spec.step [DecidableEq α] (σ : List (Option (List α))) : Op α → List (Option (List α)) × Out α
  | .new => (σ ++ [some []], .handle σ.length)
  | .insert h v =>
    match Spec.get σ h with
    | none => (σ, .bad)
    | some l => if v ∈ l then (σ.set h (some l), .id (l.idxOf v)) else (σ.set h (some (l ++ [v])), .id l.length)
  | .tryGetId h v =>
    match Spec.get σ h with
    | none => (σ, .bad)
    | some l => (σ, .optId (if v ∈ l then some (l.idxOf v) else none))
  | .contains h v =>
    match Spec.get σ h with
    | none => (σ, .bad)
    | some l => (σ, .bool (decide (v ∈ l)))
  | .index h id =>
    match Spec.get σ h with
    | none => (σ, .bad)
    | some l => (σ, match l[id]? with | some x => .val x | none => .panic)
  | .len h =>
    match Spec.get σ h with
    | none => (σ, .bad)
    | some l => (σ, .num l.length)
  | .iter h =>
    match Spec.get σ h with
    | none => (σ, .bad)
    | some l => (σ, .list l)
  | .intoIter h =>
    match Spec.get σ h with
    | none => (σ, .bad)
    | some l => (σ.set h none, .list l)
  | .clear h =>
    match Spec.get σ h with
    | none => (σ, .bad)
    | some _ => (σ.set h (some []), .unit)
  | .clone h =>
    match Spec.get σ h with
    | none => (σ, .bad)
    | some l => (σ ++ [some l], .handle σ.length)
  | .drop h =>
    match Spec.get σ h with
    | none => (σ, .bad)
    | some _ => (σ.set h none, .unit)

def Spec.run [DecidableEq α] (σ : List (Option (List α))) : List (Op α) → List (Option (List α)) × List (Out α)
  | [] => (σ, [])
  | op :: ops =>
    let (σ1, o) := Spec.step σ op
    let (σ2, os) := Spec.run σ1 ops
    (σ2, o :: os)

/-- operations that do not end or empty handle `h` -/
def Op.keeps (h : Nat) : Op α → Bool
  | .clear g => g != h
  | .drop g => g != h
  | .intoIter g => g != h
  | _ => true

/-! ## refinement -/

variable {σ : List (Option (List α))} {w : World α} {h : Nat}

theorem spec_get_of_getSet {s : SetS} (hs : w.getSet h = some s) :
    Spec.get (absW w) h = some (w.contents s) := by
  unfold Spec.get; rw [abs_of_getSet hs]

theorem spec_get_of_getSet_none (hs : w.getSet h = none) :
    Spec.get (absW w) h = none := by
  unfold Spec.get
  split
  · obtain ⟨s, h1, _⟩ := getSet_of_abs ‹_›
    cases hs.symm.trans h1
  · rfl

theorem set_self_of_get {β : Type} {l : List β} {i : Nat} {x : β} (h : l[i]? = some x) : l.set i x = l := by
  obtain ⟨hlt, rfl⟩ := List.getElem?_eq_some_iff.1 h
  exact List.set_getElem_self hlt

theorem spec_step_of_get_none [DecidableEq α] {op : Op α}
    (hh : op.handle = some h) (hg : Spec.get σ h = none) : Spec.step σ op = (σ, .bad) := by
  cases op <;> cases hh <;> simp only [Spec.step, hg]

/-- a result that is the world it started from: invariant and abstraction as before, the answer given -/
theorem unchanged_of_eq {r : World α × Out α} {o : Out α} (hw : WInv w) (e : r = (w, o)) :
    WInv r.1 ∧ absW r.1 = absW w ∧ r.2 = o :=
  e ▸ ⟨hw, rfl, rfl⟩

/-- **One step refines the list specification**: under the invariant, an operation keeps the
    invariant, changes the abstraction exactly as the list operation does, and gives the same answer. -/
theorem C37_step_refines [DecidableEq α] (w : World α) (hw : WInv w) (op : Op α) :
    WInv (w.step op).1 ∧ absW (w.step op).1 = (Spec.step (absW w) op).1 ∧
      (w.step op).2 = (Spec.step (absW w) op).2 := by
  cases hh : op.handle with
  | none =>
    cases op with
    | new => exact new_spec w hw
    | _ => cases hh
  | some h =>
    cases hs : w.getSet h with
    | none =>
      rw [step_of_getSet_none hh hs, spec_step_of_get_none hh (spec_get_of_getSet_none hs)]
      exact ⟨hw, rfl, rfl⟩
    | some s =>
      -- both sides have found the set; the operation's lemma gives the three parts as the spec has them
      have hg := spec_get_of_getSet hs
      cases op <;> cases hh <;> simp only [Spec.step, hg]
      case insert.refl v =>
        have := insert_spec hw hs v
        split
        · rwa [if_pos ‹_›, if_pos ‹_›] at this
        · rwa [if_neg ‹_›, if_neg ‹_›] at this
      case tryGetId.refl v => exact unchanged_of_eq hw (tryGetId_spec hw hs v)
      case contains.refl v => exact unchanged_of_eq hw (contains_spec hw hs v)
      case index.refl n => exact unchanged_of_eq hw (index_spec hw hs n)
      case len.refl => exact unchanged_of_eq hw (len_spec hw hs)
      case iter.refl => exact unchanged_of_eq hw (iter_spec hw hs)
      case intoIter.refl => exact intoIter_spec hw hs
      case clear.refl => exact clear_spec hw hs
      case clone.refl => exact clone_spec hw hs
      case drop.refl => exact drop_spec hw hs

theorem winv_empty : WInv (World.empty : World α) := fun _ _ hs => nomatch hs

example : WInv (World.empty : World Nat) := winv_empty

theorem run_refines [DecidableEq α] (ops : List (Op α)) : ∀ (w : World α), WInv w →
    WInv (w.run ops).1 ∧ absW (w.run ops).1 = (Spec.run (absW w) ops).1 ∧
      (w.run ops).2 = (Spec.run (absW w) ops).2 := by
  induction ops with
  | nil => intro w hw; exact ⟨hw, rfl, rfl⟩
  | cons op ops ih =>
    intro w hw
    obtain ⟨h1, h2, h3⟩ := C37_step_refines w hw op
    obtain ⟨k1, k2, k3⟩ := ih (w.step op).1 h1
    simp only [World.run, Spec.run]
    rw [h2] at k2 k3
    exact ⟨k1, k2, by rw [k3, h3]⟩

/-- **Refinement for every history**: whatever sequence of operations is run on however many sets,
    every answer of the pointer-level model is the answer of the list specification — ids are
    insertion ranks of distinct values, `try_get_id/contains/index/len/iter/into_iter` agree with the
    list, a clone behaves as an independent copy — and the final abstraction is the spec's state. -/
theorem C37_refines [DecidableEq α] (ops : List (Op α)) :
    ((World.empty : World α).run ops).2 = (Spec.run [] ops).2 ∧
    absW ((World.empty : World α).run ops).1 = (Spec.run [] ops).1 := by
  obtain ⟨_, h2, h3⟩ := run_refines ops (World.empty : World α) winv_empty
  exact ⟨h3, h2⟩

theorem winv_run [DecidableEq α] (ops : List (Op α)) : WInv ((World.empty : World α).run ops).1 :=
  (run_refines ops _ winv_empty).1

/-! ## what one operation can do, seen through the abstraction -/

/-- Under the invariant an operation never answers `ub`, and it leaves the abstraction as it is,
    appends an entry, or replaces the entry of the handle it is applied to — by an extension of the
    list, unless it ends or empties the handle.  Each case is read off the operation's lemma. -/
theorem step_shape [DecidableEq α] (hw : WInv w) (op : Op α) :
    (w.step op).2 ≠ .ub ∧
    (absW (w.step op).1 = absW w ∨ (∃ x, absW (w.step op).1 = absW w ++ [x]) ∨
      ∃ g l x, (absW w)[g]? = some (some l) ∧ absW (w.step op).1 = (absW w).set g x ∧
        (op.keeps g = true → ∃ l', x = some l' ∧ l <+: l')) := by
  cases hh : op.handle with
  | none =>
    cases op with
    | new => obtain ⟨_, h2, h3⟩ := new_spec w hw; exact ⟨h3 ▸ nofun, .inr (.inl ⟨_, h2⟩)⟩
    | _ => cases hh
  | some g =>
    cases hs : w.getSet g with
    | none => rw [step_of_getSet_none hh hs]; exact ⟨nofun, .inl rfl⟩
    | some s =>
      have ha := abs_of_getSet hs
      have reads : ∀ {r : World α × Out α} {o : Out α} {P : Prop}, r = (w, o) → o ≠ .ub →
          r.2 ≠ .ub ∧ (absW r.1 = absW w ∨ P) := fun e ho => by subst e; exact ⟨ho, .inl rfl⟩
      have ends : ∀ x : Option (List α), (g != g) = true → ∃ l', x = some l' ∧ w.contents s <+: l' :=
        fun _ hk => absurd hk (by rw [bne_self_eq_false]; exact Bool.false_ne_true)
      cases op <;> cases hh
      case insert.refl v =>
        obtain ⟨_, h2, h3⟩ := insert_spec hw hs v
        refine ⟨h3 ▸ nofun, .inr (.inr ⟨g, _, _, ha, h2, fun _ => ⟨_, rfl, ?_⟩⟩)⟩
        split
        · exact List.prefix_refl _
        · exact List.prefix_append _ _
      case tryGetId.refl v => exact reads (tryGetId_spec hw hs v) nofun
      case contains.refl v => exact reads (contains_spec hw hs v) nofun
      case index.refl n => exact reads (index_spec hw hs n) (by split <;> nofun)
      case len.refl => exact reads (len_spec hw hs) nofun
      case iter.refl => exact reads (iter_spec hw hs) nofun
      case intoIter.refl =>
        obtain ⟨_, h2, h3⟩ := intoIter_spec hw hs
        exact ⟨h3 ▸ nofun, .inr (.inr ⟨g, _, _, ha, h2, ends _⟩)⟩
      case clear.refl =>
        obtain ⟨_, h2, h3⟩ := clear_spec hw hs
        exact ⟨h3 ▸ nofun, .inr (.inr ⟨g, _, _, ha, h2, ends _⟩)⟩
      case clone.refl =>
        obtain ⟨_, h2, h3⟩ := clone_spec hw hs
        exact ⟨h3 ▸ nofun, .inr (.inl ⟨_, h2⟩)⟩
      case drop.refl =>
        obtain ⟨_, h2, h3⟩ := drop_spec hw hs
        exact ⟨h3 ▸ nofun, .inr (.inr ⟨g, _, _, ha, h2, ends _⟩)⟩

theorem run_no_ub [DecidableEq α] (ops : List (Op α)) : ∀ w : World α, WInv w → Out.ub ∉ (w.run ops).2 := by
  induction ops with
  | nil => intro _ _; exact List.not_mem_nil
  | cons op ops ih =>
    intro w hw
    simp only [World.run, List.mem_cons, not_or]
    exact ⟨fun e => (step_shape hw op).1 e.symm, ih _ (C37_step_refines w hw op).1⟩

/-- **Every sequence of safe operations is free of undefined behaviour** — including cloning a set
    and then dropping or clearing the original and going on using the clone: no operation of any
    history dereferences a dangling pointer, reallocates a buffer under live pointers or frees twice. -/
theorem C37_no_ub [DecidableEq α] (ops : List (Op α)) :
    Out.ub ∉ ((World.empty : World α).run ops).2 :=
  run_no_ub ops _ winv_empty

/-- **ptrs_valid**: in every reachable state of any number of sets created by `new`/`clone`, every
    pointer stored in a live set (in `id_to_ptr` or as a key of `map`) targets a live buffer *owned by
    that set*, inside its current length. -/
theorem C37_ptrs_valid [DecidableEq α] (ops : List (Op α)) (h : Nat) (s : SetS)
    (hs : ((World.empty : World α).run ops).1.sets[h]? = some s) (hl : s.live = true) :
    ∀ p ∈ s.idToPtr ++ s.map.map Prod.fst,
      ∃ B, ((World.empty : World α).run ops).1.bufs[p.buf]? = some B ∧ B.live = true ∧ B.owner = h ∧
        p.idx < B.elems.length := by
  have i := winv_run ops h s hs hl
  intro p hp
  rw [i.mapEq, List.zipIdx_map_fst] at hp
  have hp : p ∈ s.idToPtr := (List.mem_append.1 hp).elim id id
  obtain ⟨B, hB, hlive, hown, _⟩ := i.owned p.buf (i.ptrBufs p hp)
  obtain ⟨x, hx⟩ := i.deref_some p hp
  rw [deref_of_get hB hlive] at hx
  exact ⟨B, hB, hlive, hown, getElem?_lt hx⟩

/-- every buffer a live set iterates over (`old_bufs` and `current_buf`) exists, is live, has this
    set as its owner, and holds no more elements than its capacity -/
theorem C37_buffers_owned [DecidableEq α] (ops : List (Op α)) (h : Nat) (s : SetS)
    (hs : ((World.empty : World α).run ops).1.sets[h]? = some s) (hl : s.live = true) :
    ∀ b ∈ s.bufIds, ∃ B, ((World.empty : World α).run ops).1.bufs[b]? = some B ∧ B.live = true ∧
      B.owner = h ∧ B.elems.length ≤ B.cap :=
  (winv_run ops h s hs hl).owned

/-- two distinct live sets share no buffer (a buffer has one owner) -/
theorem C37_sets_share_no_buffer [DecidableEq α] (ops : List (Op α)) (h h' : Nat) (s s' : SetS)
    (hs : ((World.empty : World α).run ops).1.sets[h]? = some s) (hl : s.live = true)
    (hs' : ((World.empty : World α).run ops).1.sets[h']? = some s') (hl' : s'.live = true)
    (hne : h ≠ h') : ∀ b ∈ s.bufIds, b ∉ s'.bufIds := by
  intro b hb
  obtain ⟨B, hB, _, ho, _⟩ := (winv_run ops h s hs hl).owned b hb
  exact (winv_run ops h' s' hs' hl').not_mem_of_owner hB (ho ▸ hne)

-- two live sets exist after `new; new` (handles 0 and 1)
example : (((World.empty : World Nat).run [.new, .new]).1.sets.map (·.live)) = [true, true] := by decide

/-- the values of a set are pairwise distinct in every reachable state -/
theorem C37_contents_nodup [DecidableEq α] (ops : List (Op α)) (h : Nat) (l : List α)
    (hs : (Spec.run ([] : List (Option (List α))) ops).1[h]? = some (some l)) : l.Nodup := by
  rw [← (C37_refines ops).2] at hs
  obtain ⟨s, hg, rfl⟩ := getSet_of_abs hs
  exact ((winv_run ops).of_getSet hg).nodup

/-! ## ids are stable -/

/-- an operation that keeps `h` only ever appends to its list -/
theorem step_prefix [DecidableEq α] (hw : WInv w) (op : Op α) (h : Nat) (l : List α)
    (ha : (absW w)[h]? = some (some l)) (hk : op.keeps h = true) :
    ∃ l', (absW (w.step op).1)[h]? = some (some l') ∧ l <+: l' := by
  rcases (step_shape hw op).2 with e | ⟨x, e⟩ | ⟨g, lg, x, hg, e, hx⟩ <;> rw [e]
  · exact ⟨l, ha, List.prefix_refl _⟩
  · exact ⟨l, (List.getElem?_append_left (getElem?_lt ha)).trans ha, List.prefix_refl _⟩
  · by_cases hgh : g = h
    · subst hgh
      obtain ⟨l', rfl, hp⟩ := hx hk
      cases ha.symm.trans hg
      exact ⟨l', List.getElem?_set_self (getElem?_lt ha), hp⟩
    · exact ⟨l, (List.getElem?_set_ne hgh).trans ha, List.prefix_refl _⟩

theorem run_prefix [DecidableEq α] (ops : List (Op α)) : ∀ (w : World α) (h : Nat) (l : List α), WInv w →
    (absW w)[h]? = some (some l) → (∀ op ∈ ops, op.keeps h = true) →
    WInv (w.run ops).1 ∧ ∃ l', (absW (w.run ops).1)[h]? = some (some l') ∧ l <+: l' := by
  induction ops with
  | nil => intro w h l hw ha _; exact ⟨hw, l, ha, List.prefix_refl _⟩
  | cons op ops ih =>
    intro w h l hw ha hk
    obtain ⟨l1, h1, p1⟩ := step_prefix hw op h l ha (hk op List.mem_cons_self)
    obtain ⟨hw2, l2, h2, p2⟩ := ih (w.step op).1 h l1 (C37_step_refines w hw op).1 h1
      fun o ho => hk o (List.mem_cons_of_mem _ ho)
    exact ⟨hw2, l2, h2, p1.trans p2⟩

theorem run_append [DecidableEq α] (ops₁ ops₂ : List (Op α)) : ∀ w : World α,
    (w.run (ops₁ ++ ops₂)).1 = ((w.run ops₁).1.run ops₂).1 := by
  induction ops₁ with
  | nil => intro _; rfl
  | cons o os ih => intro w; exact ih _

/-- From any state with the invariant: an id, once given out, is still the answer of `try_get_id`
    after a history that keeps the set, and `index` maps it back to the value — the list behind the
    handle has only been extended, and `idxOf` and `[i]?` of a member do not see an extension. -/
theorem ids_stable_of_winv [DecidableEq α] (hw : WInv w) (post : List (Op α)) (h : Nat)
    (v : α) (i : Nat) (hk : ∀ op ∈ post, op.keeps h = true)
    (hid : (w.tryGetId h v).2 = .optId (some i)) :
    ((w.run post).1.tryGetId h v).2 = .optId (some i) ∧ ((w.run post).1.index h i).2 = .val v := by
  cases hs : w.getSet h with
  | none => rw [World.tryGetId, hs] at hid; cases hid
  | some s =>
    rw [tryGetId_spec hw hs v] at hid
    have hv : v ∈ w.contents s := Decidable.byContradiction fun hv => by rw [if_neg hv] at hid; cases hid
    rw [if_pos hv] at hid
    cases hid
    obtain ⟨hw', l', hg', t, rfl⟩ := run_prefix post w h (w.contents s) hw (abs_of_getSet hs) hk
    obtain ⟨s', hs', hc'⟩ := getSet_of_abs hg'
    have hv' : v ∈ w.contents s ++ t := List.mem_append_left _ hv
    have hi : (w.contents s ++ t).idxOf v = (w.contents s).idxOf v := by rw [List.idxOf_append, if_pos hv]
    constructor
    · rw [tryGetId_spec hw' hs' v, hc', if_pos hv', hi]
    · have hlt := List.idxOf_lt_length_iff.2 hv'
      rw [index_spec hw' hs' _, hc', ← hi, List.getElem?_eq_getElem hlt, List.getElem_idxOf hlt]

/-- **Ids are stable**: once `try_get_id(v)` on a set answers `Some(i)`, it answers `Some(i)` after
    any further history on any sets that does not clear, drop or consume *that* set — in particular
    after any number of later inserts into it, and after cloning it and dropping the clone; and
    `set[i]` keeps answering `v`. -/
theorem C37_ids_stable [DecidableEq α] (pre post : List (Op α)) (h : Nat) (v : α) (i : Nat)
    (hk : ∀ op ∈ post, op.keeps h = true)
    (hid : (((World.empty : World α).run pre).1.tryGetId h v).2 = .optId (some i)) :
    (((World.empty : World α).run (pre ++ post)).1.tryGetId h v).2 = .optId (some i) ∧
    (((World.empty : World α).run (pre ++ post)).1.index h i).2 = .val v := by
  rw [run_append]
  exact ids_stable_of_winv (winv_run pre) post h v i hk hid

example : ∀ op ∈ ([.insert 0 7, .clone 0, .drop 1, .new] : List (Op Nat)), op.keeps 0 = true := by decide

/-! ## the defect D13 (derived `Clone`), as a theorem about the old code -/

/-- With the *derived* `Clone` (pointers copied verbatim) the history
    `new; insert a; clone; drop original; try_get_id(a) on the clone` dereferences a pointer into a
    freed buffer: undefined behaviour.  (Confirmed on the unrepaired code under Miri.) -/
theorem C37_derived_clone_dangles :
    let w0 := (World.empty : World Nat).new.1
    let w1 := (w0.insert 0 5).1
    let w2 := (w1.cloneDerived 0).1
    let w3 := (w2.drop 0).1
    (w3.tryGetId 1 5).2 = .ub := by decide

/-- the same history with the repaired `clone` answers `Some(0)` -/
theorem C37_repaired_clone_ok :
    ((World.empty : World Nat).run [.new, .insert 0 5, .clone 0, .drop 0, .tryGetId 1 5]).2
      = [.handle 0, .id 0, .handle 1, .unit, .optId (some 0)] := by decide

end Abra.IdSet
