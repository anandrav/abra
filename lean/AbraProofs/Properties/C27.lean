import AbraProofs.Lemmas.HashMapRemove
/-!
# C27 — core/map and core/set behave like a dictionary and a set

Model: `Abra.Lib.HashMap` (`AbraModel/Lib/HashMap.lean`): the chained hash table of `core/map.abra` in
struct-of-arrays form (buckets, entry_keys/values/hashes/nexts/occupied, free list through entry_nexts,
resize when slots ≥ buckets, count), with `Hash.hash` and `Equal.equal` of the key type as parameters.
`Models hash eq t d` (in `Lemmas/HashMapInv.lean`): the table `t` satisfies the representation
invariant `Inv` and represents the dictionary `d : K → Option V`.
All theorems hold for ANY `hash`/`eq` pair that is `Lawful` (equality an equivalence, equal keys hash
equally) — constant and colliding hashes included — and for any table, however it was reached.
-/
namespace Abra.Lib.HashMap

variable {K V : Type}

/-- The bucket index `hash % len` is in range for every hash code — `MIN` included (D9 repaired:
    `%` is the Euclidean remainder and `len > 0`), and it is that remainder. -/
theorem C27_bucket_index_in_range (h : Int) (len : Nat) (hl : len ≠ 0) :
    ∃ b : Nat, bucketIdx h len = .ok (b : Int) ∧ b < len ∧ (b : Int) = h % (len : Int) :=
  bucketIdx_range h len hl

/-- `map.new()` is the empty dictionary, of length 0. -/
theorem C27_new_refines (hash : K → Int) (eq : K → K → Bool) :
    Models hash eq (Table.new : Table K V) (fun _ => none) ∧ (Table.new : Table K V).len = 0 :=
  ⟨new_models hash eq, rfl⟩

/-- `try_get` is dictionary lookup (chain walk through colliding entries included). -/
theorem C27_try_get_refines (hash : K → Int) (eq : K → K → Bool) (law : Lawful hash eq)
    (t : Table K V) (d : K → Option V) (hm : Models hash eq t d) (k : K) :
    tryGet hash eq t k = .ok (d k) := by
  obtain ⟨⟨ch, fr, wf⟩, hd⟩ := hm
  obtain ⟨r, hr, hspec⟩ := tryGet_spec law wf k
  rw [hr]
  congr 1
  exact Option.ext fun v => (hspec v).trans (hd k v).symm

/-- `contains` = the key is in the dictionary. -/
theorem C27_contains_refines (hash : K → Int) (eq : K → K → Bool) (law : Lawful hash eq)
    (t : Table K V) (d : K → Option V) (hm : Models hash eq t d) (k : K) :
    contains hash eq t k = .ok (d k).isSome := by
  simp [contains, C27_try_get_refines hash eq law t d hm k]

/-- `get` and `m[k]`: the value when present, the `panic` runtime error when absent. -/
theorem C27_get_refines (hash : K → Int) (eq : K → K → Bool) (law : Lawful hash eq)
    (t : Table K V) (d : K → Option V) (hm : Models hash eq t d) (k : K) :
    get hash eq t k = (match d k with | some v => .ok v | none => .error .panic) ∧
    indexGet hash eq t k = get hash eq t k := by
  refine ⟨?_, rfl⟩
  simp only [get, C27_try_get_refines hash eq law t d hm k]
  cases d k <;> rfl

/-- The chain walks never run out of fuel under the invariant (chains are acyclic and have at most as
    many links as there are slots). -/
theorem C27_fuel_enough_lookup (hash : K → Int) (eq : K → K → Bool) (law : Lawful hash eq)
    (t : Table K V) (hinv : Inv hash eq t) (k : K) :
    tryGet hash eq t k ≠ .error .fuel ∧ contains hash eq t k ≠ .error .fuel ∧ get hash eq t k ≠ .error .fuel := by
  obtain ⟨d, hm⟩ := hinv.models law
  rw [C27_contains_refines hash eq law t d hm k, (C27_get_refines hash eq law t d hm k).1,
    C27_try_get_refines hash eq law t d hm k]
  cases d k <;> exact ⟨nofun, nofun, nofun⟩

/-- `insert` (and `m[k] = v`): afterwards the table represents the updated dictionary — whether the key
    was updated in place, put into a slot taken from the free list, or appended, with or without a
    resize before — and `len` grows by one exactly when the key was absent. -/
theorem C27_insert_refines (hash : K → Int) (eq : K → K → Bool) (law : Lawful hash eq)
    (t : Table K V) (d : K → Option V) (hm : Models hash eq t d) (k : K) (v : V) :
    ∃ t', insert hash eq t k v = .ok t' ∧ indexSet hash eq t k v = .ok t' ∧
      Models hash eq t' (fun k' => if eq k k' = true then some v else d k') ∧
      t'.len = t.len + (if d k = none then 1 else 0) := by
  obtain ⟨t', e, hm', hc⟩ := insert_spec law t d hm k v
  exact ⟨t', e, e, hm', hc⟩

/-- `remove`: answers whether the key was present; afterwards the table represents the dictionary
    without the key (the slot is unlinked from its chain and pushed on the free list) and `len` shrinks
    by one exactly when the key was present. -/
theorem C27_remove_refines (hash : K → Int) (eq : K → K → Bool) (law : Lawful hash eq)
    (t : Table K V) (d : K → Option V) (hm : Models hash eq t d) (k : K) :
    ∃ t', remove hash eq t k = .ok (t', (d k).isSome) ∧
      Models hash eq t' (fun k' => if eq k k' = true then none else d k') ∧
      t'.len = t.len - (if (d k).isSome then 1 else 0) :=
  remove_spec law t d hm k

/-- `m[k] op= v` through the `Index` impl of the map (`index_get`, then `index_set`): the `panic` of `get` when
    the key is absent (nothing is inserted), otherwise the value is replaced by `f` of the old one and `len`
    stays as it is. -/
theorem C27_index_update_refines (hash : K → Int) (eq : K → K → Bool) (law : Lawful hash eq)
    (t : Table K V) (d : K → Option V) (hm : Models hash eq t d) (k : K) (f : V → V) :
    (d k = none → indexUpdate hash eq t k f = .error .panic) ∧
    (∀ x, d k = some x → ∃ t', indexUpdate hash eq t k f = .ok t' ∧
      Models hash eq t' (fun k' => if eq k k' = true then some (f x) else d k') ∧ t'.len = t.len) := by
  have hg := (C27_get_refines hash eq law t d hm k).1
  constructor
  · intro hn
    simp only [indexUpdate, indexGet, hg, hn]
  · intro x hx
    obtain ⟨t', e, e2, hm', hc⟩ := C27_insert_refines hash eq law t d hm k (f x)
    refine ⟨t', by simp only [indexUpdate, indexGet, hg, hx, e2], hm', ?_⟩
    rw [hc, hx]; simp

/-- `resize` keeps the invariant and the represented dictionary, doubles the buckets (4 at first). -/
theorem C27_resize_refines (hash : K → Int) (eq : K → K → Bool)
    (t : Table K V) (d : K → Option V) (hm : Models hash eq t d) :
    ∃ t', resize t = .ok t' ∧ Models hash eq t' d ∧ t'.len = t.len ∧
      t'.buckets.length = (if t.buckets.length = 0 then 4 else t.buckets.length * 2) := by
  obtain ⟨t', e, hm', hc, hl, _⟩ := resize_spec t d hm
  exact ⟨t', e, hm', hc, hl⟩

/-! ## histories: the table against a reference dictionary -/

/-- the reference dictionary: an association list, looked up / updated / erased with the key type's `Equal` -/
def dlookup (eq : K → K → Bool) (k : K) : List (K × V) → Option V
  | [] => none
  | (k', v) :: r => if eq k' k = true then some v else dlookup eq k r

def dinsert (eq : K → K → Bool) (k : K) (v : V) : List (K × V) → List (K × V)
  | [] => [(k, v)]
  | (k', v') :: r => if eq k' k = true then (k', v) :: r else (k', v') :: dinsert eq k v r

def derase (eq : K → K → Bool) (k : K) : List (K × V) → List (K × V)
  | [] => []
  | (k', v') :: r => if eq k' k = true then r else (k', v') :: derase eq k r

inductive Op (K V : Type) where
  | insert (k : K) (v : V) | indexSet (k : K) (v : V)
  | tryGet (k : K) | get (k : K) | indexGet (k : K) | contains (k : K) | remove (k : K) | len
  | indexUpd (k : K) (f : V → V)      -- `m[k] op= v`

/-- what the program prints for an operation (`fault` = the model hit an internal error) -/
inductive Out (V : Type) where
  | unit | opt (o : Option V) | val (v : V) | bool (b : Bool) | int (n : Int) | panic | fault (e : Err)

/-- the history run on the hash table; a `get` of an absent key panics and ends the program -/
def runTable (hash : K → Int) (eq : K → K → Bool) : Table K V → List (Op K V) → List (Out V × Int)
  | _, [] => []
  | t, .insert k v :: ops | t, .indexSet k v :: ops =>
    match insert hash eq t k v with
    | .ok t' => (.unit, t'.len) :: runTable hash eq t' ops
    | .error e => [(.fault e, 0)]
  | t, .tryGet k :: ops =>
    match tryGet hash eq t k with
    | .ok o => (.opt o, t.len) :: runTable hash eq t ops
    | .error e => [(.fault e, 0)]
  | t, .get k :: ops | t, .indexGet k :: ops =>
    match get hash eq t k with
    | .ok v => (.val v, t.len) :: runTable hash eq t ops
    | .error .panic => [(.panic, 0)]
    | .error e => [(.fault e, 0)]
  | t, .contains k :: ops =>
    match contains hash eq t k with
    | .ok b => (.bool b, t.len) :: runTable hash eq t ops
    | .error e => [(.fault e, 0)]
  | t, .remove k :: ops =>
    match remove hash eq t k with
    | .ok (t', b) => (.bool b, t'.len) :: runTable hash eq t' ops
    | .error e => [(.fault e, 0)]
  | t, .len :: ops => (.int t.len, t.len) :: runTable hash eq t ops
  | t, .indexUpd k f :: ops =>
    match indexUpdate hash eq t k f with
    | .ok t' => (.unit, t'.len) :: runTable hash eq t' ops
    | .error .panic => [(.panic, 0)]
    | .error e => [(.fault e, 0)]

/-- the same history on the reference dictionary -/
def runDict (eq : K → K → Bool) : List (K × V) → List (Op K V) → List (Out V × Int)
  | _, [] => []
  | s, .insert k v :: ops | s, .indexSet k v :: ops =>
    (.unit, ((dinsert eq k v s).length : Int)) :: runDict eq (dinsert eq k v s) ops
  | s, .tryGet k :: ops => (.opt (dlookup eq k s), (s.length : Int)) :: runDict eq s ops
  | s, .get k :: ops | s, .indexGet k :: ops =>
    match dlookup eq k s with
    | some v => (.val v, (s.length : Int)) :: runDict eq s ops
    | none => [(.panic, 0)]
  | s, .contains k :: ops => (.bool (dlookup eq k s).isSome, (s.length : Int)) :: runDict eq s ops
  | s, .remove k :: ops =>
    (.bool (dlookup eq k s).isSome, ((derase eq k s).length : Int)) :: runDict eq (derase eq k s) ops
  | s, .len :: ops => (.int s.length, (s.length : Int)) :: runDict eq s ops
  | s, .indexUpd k f :: ops =>
    match dlookup eq k s with
    | some x => (.unit, ((dinsert eq k (f x) s).length : Int)) :: runDict eq (dinsert eq k (f x) s) ops
    | none => [(.panic, 0)]

def NoDupKeys (eq : K → K → Bool) : List (K × V) → Prop
  | [] => True
  | (k, _) :: r => dlookup eq k r = none ∧ NoDupKeys eq r

section dict
variable {eq : K → K → Bool} {hash : K → Int}

theorem dlookup_cons (k k' : K) (v : V) (r : List (K × V)) :
    dlookup eq k ((k', v) :: r) = if eq k' k = true then some v else dlookup eq k r := rfl

theorem dinsert_cons (k k' : K) (v v' : V) (r : List (K × V)) :
    dinsert eq k v ((k', v') :: r) = if eq k' k = true then (k', v) :: r else (k', v') :: dinsert eq k v r := rfl

theorem derase_cons (k k' : K) (v' : V) (r : List (K × V)) :
    derase eq k ((k', v') :: r) = if eq k' k = true then r else (k', v') :: derase eq k r := rfl

theorem dlookup_congr (law : Lawful hash eq) {a b : K} (h : eq a b = true) (s : List (K × V)) :
    dlookup eq a s = dlookup eq b s := by
  induction s with
  | nil => rfl
  | cons p r ih =>
    obtain ⟨k1, v1⟩ := p
    have : eq k1 a = true ↔ eq k1 b = true :=
      ⟨fun e => law.trans _ _ _ e h, fun e => law.trans _ _ _ e (law.symm _ _ h)⟩
    simp only [dlookup_cons, this, ih]

theorem dlookup_dinsert (law : Lawful hash eq) (k : K) (v : V) (k' : K) (s : List (K × V)) :
    dlookup eq k' (dinsert eq k v s) = if eq k k' = true then some v else dlookup eq k' s := by
  induction s with
  | nil => rfl
  | cons p r ih =>
    obtain ⟨k1, v1⟩ := p
    by_cases h1 : eq k1 k = true
    · have : eq k1 k' = true ↔ eq k k' = true :=
        ⟨fun e => law.trans _ _ _ (law.symm _ _ h1) e, fun e => law.trans _ _ _ h1 e⟩
      simp only [dinsert_cons, h1, if_true, dlookup_cons, this]
      split <;> rfl
    · simp only [dinsert_cons, h1, Bool.false_eq_true, if_false, dlookup_cons, ih]
      by_cases h2 : eq k1 k' = true
      · -- `k'` cannot equal both `k1` and `k`
        have hk : ¬ eq k k' = true := fun h => h1 (law.trans _ _ _ h2 (law.symm _ _ h))
        simp only [h2, hk, if_true, Bool.false_eq_true, if_false]
      · simp only [h2, Bool.false_eq_true, if_false]

theorem dinsert_length (k : K) (v : V) (s : List (K × V)) :
    ((dinsert eq k v s).length : Int) = s.length + (if dlookup eq k s = none then 1 else 0) := by
  induction s with
  | nil => rfl
  | cons p r ih =>
    obtain ⟨k1, v1⟩ := p
    by_cases h1 : eq k1 k = true
    · simp [dinsert_cons, dlookup_cons, h1]
    · simp only [dinsert_cons, dlookup_cons, h1, Bool.false_eq_true, if_false, List.length_cons, Int.natCast_add, ih]
      omega

theorem dinsert_nodup (law : Lawful hash eq) (k : K) (v : V) (s : List (K × V)) (h : NoDupKeys eq s) :
    NoDupKeys eq (dinsert eq k v s) := by
  induction s with
  | nil => exact ⟨rfl, trivial⟩
  | cons p r ih =>
    obtain ⟨k1, v1⟩ := p
    by_cases h1 : eq k1 k = true
    · simp only [dinsert_cons, h1, if_true]
      exact h
    · simp only [dinsert_cons, h1, Bool.false_eq_true, if_false]
      exact ⟨by rw [dlookup_dinsert law, if_neg fun e => h1 (law.symm _ _ e)]; exact h.1, ih h.2⟩

theorem dlookup_derase (law : Lawful hash eq) (k k' : K) (s : List (K × V)) (h : NoDupKeys eq s) :
    dlookup eq k' (derase eq k s) = if eq k k' = true then none else dlookup eq k' s := by
  induction s with
  | nil => exact (ite_self none).symm
  | cons p r ih =>
    obtain ⟨k1, v1⟩ := p
    by_cases h1 : eq k1 k = true
    · simp only [derase_cons, h1, if_true, dlookup_cons]
      by_cases h2 : eq k k' = true
      · -- the entry erased was the only one with a key equal to `k'`
        rw [if_pos h2, ← dlookup_congr law (law.trans _ _ _ h1 h2) r]
        exact h.1
      · rw [if_neg h2, if_neg fun e => h2 (law.trans _ _ _ (law.symm _ _ h1) e)]
    · simp only [derase_cons, h1, Bool.false_eq_true, if_false, dlookup_cons, ih h.2]
      by_cases h2 : eq k1 k' = true
      · have hk : ¬ eq k k' = true := fun h => h1 (law.trans _ _ _ h2 (law.symm _ _ h))
        simp only [h2, hk, if_true, Bool.false_eq_true, if_false]
      · simp only [h2, Bool.false_eq_true, if_false]

theorem derase_length (k : K) (s : List (K × V)) :
    ((derase eq k s).length : Int) = s.length - (if (dlookup eq k s).isSome then 1 else 0) := by
  induction s with
  | nil => rfl
  | cons p r ih =>
    obtain ⟨k1, v1⟩ := p
    by_cases h1 : eq k1 k = true
    · simp [derase_cons, dlookup_cons, h1]
    · simp only [derase_cons, dlookup_cons, h1, Bool.false_eq_true, if_false, List.length_cons, Int.natCast_add, ih]
      omega

theorem derase_nodup (law : Lawful hash eq) (k : K) (s : List (K × V)) (h : NoDupKeys eq s) :
    NoDupKeys eq (derase eq k s) := by
  induction s with
  | nil => trivial
  | cons p r ih =>
    obtain ⟨k1, v1⟩ := p
    by_cases h1 : eq k1 k = true
    · simpa only [derase_cons, h1, if_true] using h.2
    · simp only [derase_cons, h1, Bool.false_eq_true, if_false]
      exact ⟨by rw [dlookup_derase law k k1 r h.2, h.1]; split <;> rfl, ih h.2⟩

end dict

def Sim (hash : K → Int) (eq : K → K → Bool) (t : Table K V) (s : List (K × V)) : Prop :=
  Models hash eq t (fun k => dlookup eq k s) ∧ t.len = (s.length : Int) ∧ NoDupKeys eq s

theorem sim_run (hash : K → Int) (eq : K → K → Bool) (law : Lawful hash eq) :
    ∀ (ops : List (Op K V)) (t : Table K V) (s : List (K × V)), Sim hash eq t s →
      runTable hash eq t ops = runDict eq s ops := by
  intro ops
  induction ops with
  | nil => intro t s _; rfl
  | cons op ops ih =>
    intro t s hsim
    obtain ⟨hm, hlen, hnd⟩ := hsim
    have ins : ∀ k v, ∃ t', insert hash eq t k v = .ok t' ∧ Sim hash eq t' (dinsert eq k v s) := by
      intro k v
      obtain ⟨t', e, _, hm', hc⟩ := C27_insert_refines hash eq law t _ hm k v
      exact ⟨t', e, models_congr hm' (fun k' => dlookup_dinsert law k v k' s), by rw [hc, hlen, dinsert_length],
        dinsert_nodup law k v s hnd⟩
    have getc : ∀ k, get hash eq t k = (match dlookup eq k s with | some v => .ok v | none => .error .panic) :=
      fun k => (C27_get_refines hash eq law t _ hm k).1
    have same := ih t s ⟨hm, hlen, hnd⟩
    unfold runTable runDict
    cases op with
    | insert k v | indexSet k v =>
      obtain ⟨t', e, hs'⟩ := ins k v
      simp only [e, hs'.2.1]
      rw [ih t' _ hs']
    | tryGet k =>
      simp only [C27_try_get_refines hash eq law t _ hm k, hlen]
      rw [same]
    | get k | indexGet k =>
      simp only [getc k]
      cases dlookup eq k s with
      | none => rfl
      | some v => simp only [hlen]; rw [same]
    | contains k =>
      simp only [C27_contains_refines hash eq law t _ hm k, hlen]
      rw [same]
    | remove k =>
      obtain ⟨t', e, hm', hc⟩ := C27_remove_refines hash eq law t _ hm k
      have hs' : Sim hash eq t' (derase eq k s) :=
        ⟨models_congr hm' (fun k' => dlookup_derase law k k' s hnd), by rw [hc, hlen, derase_length],
          derase_nodup law k s hnd⟩
      simp only [e, hs'.2.1]
      rw [ih t' _ hs']
    | len =>
      simp only [hlen]
      rw [same]
    | indexUpd k f =>
      -- `m[k] op= v` is `get`, then `insert`
      simp only [indexUpdate, indexGet, indexSet, getc k]
      cases dlookup eq k s with
      | none => rfl
      | some x =>
        obtain ⟨t', e, hs'⟩ := ins k (f x)
        simp only [e, hs'.2.1]
        rw [ih t' _ hs']

/-- **The map refines the dictionary.**  For ANY history of insert / `m[k] = v` / `m[k] op= v` / try_get / get / `m[k]` /
    contains / remove / len, starting from `map.new()`, the hash table prints exactly what the
    reference dictionary (an association list) prints — results and `len()` after every operation, and
    the `panic` of `get` on an absent key — for any `Hash`/`Equal` pair where equality is an
    equivalence and equal keys hash equally: colliding and constant hashes, every resize, every slot
    reuse through the free list included.  No internal fault (bounds, fuel) is ever reached. -/
theorem C27_map_refines_dict (hash : K → Int) (eq : K → K → Bool) (law : Lawful hash eq) (ops : List (Op K V)) :
    runTable hash eq (Table.new : Table K V) ops = runDict eq [] ops :=
  sim_run hash eq law ops Table.new [] ⟨new_models hash eq, rfl, trivial⟩

/-- `set<T>` is `map<T, void>`: the same theorem at `V = Unit` (insert / contains / remove / len). -/
theorem C27_set_refines_set (hash : K → Int) (eq : K → K → Bool) (law : Lawful hash eq) (ops : List (Op K Unit)) :
    runTable hash eq (Table.new : Table K Unit) ops = runDict eq [] ops :=
  C27_map_refines_dict hash eq law ops

/-- The walks of `insert` and `remove` never run out of fuel either (and no bound check fails): under the
    invariant every operation ends normally. -/
theorem C27_fuel_enough (hash : K → Int) (eq : K → K → Bool) (law : Lawful hash eq)
    (t : Table K V) (hinv : Inv hash eq t) (k : K) (v : V) :
    (∃ t', insert hash eq t k v = .ok t' ∧ Inv hash eq t') ∧ (∃ t' b, remove hash eq t k = .ok (t', b) ∧ Inv hash eq t') := by
  obtain ⟨d, hmod⟩ := hinv.models law
  obtain ⟨t1, e1, _, hm1, _⟩ := C27_insert_refines hash eq law t d hmod k v
  obtain ⟨t2, e2, hm2, _⟩ := C27_remove_refines hash eq law t d hmod k
  exact ⟨⟨t1, e1, hm1.1⟩, ⟨t2, _, e2, hm2.1⟩⟩

/-! ## non-vacuity: the hypotheses are satisfiable, by colliding hashes too -/

/-- propositional equality with ANY hash function is lawful: identity, constant and modulo-64 hashes alike -/
theorem lawful_of_eq (hash : Int → Int) : Lawful hash (fun a b => decide (a = b)) where
  refl := fun _ => decide_eq_true rfl
  symm := fun _ _ h => decide_eq_true (of_decide_eq_true h).symm
  trans := fun _ _ _ h1 h2 => decide_eq_true ((of_decide_eq_true h1).trans (of_decide_eq_true h2))
  hash_eq := fun _ _ h => congrArg hash (of_decide_eq_true h)

example : Lawful (fun k : Int => k) (fun a b => decide (a = b)) := lawful_of_eq _
example : Lawful (fun _ : Int => 7) (fun a b => decide (a = b)) := lawful_of_eq _
example : Lawful (fun k : Int => k % 64) (fun a b => decide (a = b)) := lawful_of_eq _
-- `Models` is inhabited (under a constant hash), so the hypotheses of the per-operation theorems can be met
example : Models (fun _ : Int => 7) (fun a b => decide (a = b)) (Table.new : Table Int Int) (fun _ => none) :=
  new_models _ _

end Abra.Lib.HashMap
