import AbraModel.Lib.Render
/-!
# C28 — values are rendered as text exactly as documented

`render` below is the specification, written from the documentation (book: `println([1,2,3])` prints
`[ 1, 2, 3 ]`, strings are spliced verbatim, `"got " .. arr` is `"got [ 1, 2, 3 ]"`) and the property
statement: ints in decimal, `true`/`false`, `nil`, strings verbatim, `[ a, b ]`, `(a, b)`, `some(x)`/`none`,
`ok(x)`/`err(e)`, recursively.  The documentation is silent about the empty array; the code prints
`[  ]` (two spaces) and the specification follows the code there — recorded in the evidence.
The model `strV` (`AbraModel/Lib/Render.lean`) is the prelude's `ToString` code.
The theorems hold for every value of the nested built-in types, of any depth and size.
-/
namespace Abra.Lib.Render

/-- `a, b, c`: the texts separated by `", "` -/
def joinComma : List String → String
  | [] => ""
  | [a] => a
  | a :: b :: rest => a ++ ", " ++ joinComma (b :: rest)

mutual
  /-- the documented text of a value -/
  def render : Val → String
    | .int n => toString n
    | .bool b => if b then "true" else "false"
    | .nil => "nil"
    | .str s => s
    | .arr xs => "[ " ++ joinComma (renderAll xs) ++ " ]"
    | .tup2 a b => "(" ++ joinComma [render a, render b] ++ ")"
    | .tup3 a b c => "(" ++ joinComma [render a, render b, render c] ++ ")"
    | .tup4 a b c d => "(" ++ joinComma [render a, render b, render c, render d] ++ ")"
    | .some x => "some(" ++ render x ++ ")"
    | .none => "none"
    | .ok x => "ok(" ++ render x ++ ")"
    | .err x => "err(" ++ render x ++ ")"
    | .ext t => t
  def renderAll : List Val → List String
    | [] => []
    | x :: xs => render x :: renderAll xs
end

theorem renderAll_eq_map (xs : List Val) : renderAll xs = xs.map render := by
  induction xs with
  | nil => simp [renderAll]
  | cons x xs ih => simp [renderAll, ih]

mutual
  /-- `ToString.str` produces exactly the documented text, for every value. -/
  theorem C28_str_eq_render : ∀ v : Val, strV v = render v
    | .int n => rfl
    | .bool b => rfl
    | .nil => rfl
    | .str s => rfl
    | .arr xs => by simp only [strV, render, C28_helper_eq_join xs]
    | .tup2 a b => by
      simp only [strV, render, joinComma, C28_str_eq_render a, C28_str_eq_render b, String.append_assoc]
    | .tup3 a b c => by
      simp only [strV, render, joinComma, C28_str_eq_render a, C28_str_eq_render b, C28_str_eq_render c,
        String.append_assoc]
    | .tup4 a b c d => by
      simp only [strV, render, joinComma, C28_str_eq_render a, C28_str_eq_render b, C28_str_eq_render c,
        C28_str_eq_render d, String.append_assoc]
    | .some x => by simp only [strV, render, C28_str_eq_render x]
    | .none => rfl
    | .ok x => by simp only [strV, render, C28_str_eq_render x]
    | .err x => by simp only [strV, render, C28_str_eq_render x]
    | .ext t => rfl
  /-- `array_to_string_helper(arr, idx)` is the `", "`-separated list of the texts of `arr[idx ..]`. -/
  theorem C28_helper_eq_join : ∀ xs : List Val, helper xs = joinComma (renderAll xs)
    | [] => rfl
    | [x] => by simp only [helper, renderAll, joinComma, C28_str_eq_render x]
    | x :: y :: rest => by
      simp only [helper, renderAll, joinComma, C28_str_eq_render x, C28_helper_eq_join (y :: rest)]
end

/-- `a .. b` renders as the text of `a` followed by the text of `b`. -/
theorem C28_format_append_spec (a b : Val) : formatAppend a b = render a ++ render b := by
  simp [formatAppend, C28_str_eq_render]

/-- `print(x)` emits the documented text, `println(x)` the text followed by a newline. -/
theorem C28_print_spec (x : Val) : printed x = render x ∧ printedLn x = render x ++ "\n" := by
  simp [printed, printedLn, formatAppend, strV, C28_str_eq_render]

/-- arrays: `[ a, b, c ]` with the element texts separated by `", "`; the empty array is `[  ]`. -/
theorem C28_array_shape (xs : List Val) :
    strV (.arr xs) = "[ " ++ joinComma (xs.map render) ++ " ]" ∧ strV (.arr []) = "[  ]" := by
  constructor
  · rw [C28_str_eq_render, render, renderAll_eq_map]
  · simp [strV, helper]

/-- strings are spliced verbatim, also inside containers (no quotes, no escaping). -/
theorem C28_string_verbatim (s : String) : strV (.str s) = s ∧ strV (.some (.str s)) = "some(" ++ s ++ ")" := by
  constructor
  · simp [strV]
  · simp [strV, String.append_assoc]

theorem foldl_formatAppend (vs : List Val) (acc : String) :
    vs.foldl (fun acc w => formatAppend (.str acc) w) acc = acc ++ String.join (vs.map render) := by
  induction vs generalizing acc with
  | nil => simp
  | cons w vs ih =>
    rw [List.foldl_cons, ih, C28_format_append_spec]
    simp only [render, List.map_cons, String.join_cons, String.append_assoc]

/-- a chain `v1 .. v2 .. … .. vn` renders as the texts of its operands one after the other -/
theorem C28_format_chain_spec (vs : List Val) : formatChain vs = String.join (vs.map render) := by
  cases vs with
  | nil => simp [formatChain]
  | cons v vs => simp only [formatChain, foldl_formatAppend, C28_str_eq_render, List.map_cons, String.join_cons]

/-- the documented text of one rendering statement -/
def Stmt.spec : Stmt → String
  | .print v => render v
  | .println v => render v ++ "\n"
  | .str v => render v
  | .chain vs => String.join (vs.map render)
  | .lit s => s

/-- In the model a sequence of rendering statements (`print`, `println`, `ToString.str`, `..` in any mix, over the
    same values, any number of times) prints, statement by statement, the documented text of that statement's
    operands.  The model has no store — its values are immutable terms — so this is what "rendering is pure"
    means at the model level: the text of the k-th rendering cannot depend on earlier renderings.  That the
    implementation (which does have a heap of shared string objects) behaves like this store-free model is not
    proved here; it is what the purity stream of the correspondence checks on every run. -/
theorem C28_rendering_is_pure (l : List Stmt) : emitAll l = String.join (l.map Stmt.spec) := by
  unfold emitAll
  congr 1
  apply List.map_congr_left
  intro s _
  cases s with
  | print v => exact (C28_print_spec v).1
  | println v => exact (C28_print_spec v).2
  | str v => exact C28_str_eq_render v
  | chain vs => exact C28_format_chain_spec vs
  | lit s => rfl

/-- An int renders as its canonical decimal numeral: the sign first (only for negative numbers), then the
    digits of the magnitude — decimal digits only, denoting exactly the magnitude, and as few of them as the
    magnitude needs (`len ≤ k ↔ m < 10^k`, so 999999999999999 has 15 digits and 10^15 has 16: a leading `0`
    is impossible, and so is a dropped digit). -/
theorem C28_int_decimal (m : Nat) :
    render (.int (Int.ofNat m)) = m.repr ∧
    render (.int (Int.negSucc m)) = "-" ++ (m + 1).repr ∧
    (∀ c ∈ m.repr.toList, c.isDigit = true) ∧
    Nat.ofDigitChars 10 m.repr.toList 0 = m ∧
    (∀ k, 0 < k → (m.repr.length ≤ k ↔ m < 10 ^ k)) := by
  refine ⟨rfl, rfl, ?_, ?_, fun k hk => Nat.length_repr_le_iff hk⟩
  · intro c hc
    rw [Nat.toList_repr] at hc
    exact Nat.isDigit_of_mem_toDigits (by decide) (by decide) hc
  · rw [Nat.toList_repr]; exact Nat.ofDigitChars_ten_toDigits

/-- values of other types (floats, user types and channels with their own `ToString`) are spliced into the
    built-in containers with exactly the text their own `str` yields -/
theorem C28_foreign_leaf_spliced (t : String) :
    strV (.arr [.ext t, .ext t]) = "[ " ++ t ++ ", " ++ t ++ " ]" ∧ strV (.some (.tup2 (.ext t) (.bool true))) = "some(" ++ ("(" ++ t ++ ", " ++ "true" ++ ")") ++ ")" := by
  exact ⟨by simp only [strV, helper, String.append_assoc], by simp only [strV, if_true, String.append_assoc]⟩

-- the statement is about concrete text: a nested sample evaluated through the model
example : strV (.arr [.tup2 (.int 1) (.str "a, b"), .tup2 (.int (-2)) (.str "")]) = "[ (1, a, b), (-2, ) ]" := by
  simp [strV, helper, stringFromInt]; rfl
example : strV (.ok (.some (.arr [.bool true, .bool false]))) = "ok(some([ true, false ]))" := by
  simp [strV, helper]

end Abra.Lib.Render
