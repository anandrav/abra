import AbraProofs.Lemmas.PreludeCmp
/-!
# C24 — built-in equality, ordering and hashing are lawful

Model: `Abra.PreludeCmp`, a function-by-function transliteration of the `Equal`/`Ord`/`Hash`
implementations in `modules/prelude.abra` with the component comparisons as parameters; `int`,
`float`, `string` instantiate them from `Int`, `Abra.F64` (C16) and `Abra.StrOps` (C17).

`LawfulOrd o e` says: `e` (`==`) is an equivalence, exactly one of `a < b`, `a == b`, `b < a` holds,
`<` is transitive, `a > b` is `b < a`, `a <= b` is `not (b < a)`, `a >= b` is `not (a < b)`.
All theorems are for ALL values of the type (all ints, all 2^64 float patterns, all byte strings,
all tuples/arrays over lawful components, by induction) — no enumeration.
-/
namespace Abra.PreludeCmp

/-! ## scalars -/

theorem C24_void_lawful : LawfulOrd voidOrd voidEqual where
  refl _ := rfl
  symm _ _ _ := rfl
  trans _ _ _ _ _ := rfl
  tri _ _ := .inr (.inl ⟨rfl, rfl, rfl⟩)
  lt_trans _ _ _ h := absurd h Bool.false_ne_true
  gt_def _ _ := rfl
  le_def _ _ := rfl
  ge_def _ _ := rfl

/-- bool, with `>=` as repaired (D5) -/
theorem C24_bool_lawful : LawfulOrd boolOrd boolEqual where
  refl := by decide
  symm := by decide
  trans := by decide
  tri := by decide
  lt_trans := by decide
  gt_def := by decide
  le_def := by decide
  ge_def := by decide

theorem C24_int_lawful : LawfulOrd intOrd intEqual :=
  lawful_of_key id (· < ·) (fun x y => by omega) (fun _ _ _ => Int.lt_trans)
    (fun _ _ => decide_eq_true_iff) (fun _ _ => decide_eq_true_iff.trans Int.not_lt.symm)
    (fun _ _ => decide_eq_true_iff) (fun _ _ => decide_eq_true_iff.trans Int.not_lt.symm)
    (fun _ _ => decide_eq_true_iff)

/-- float: the `total_cmp` order on all bit patterns (NaNs included), `==` is equality of bits -/
theorem C24_float_lawful : LawfulOrd floatOrd floatEqual :=
  lawful_of_key F64.key (· < ·) (fun x y => by omega) (fun _ _ _ => Nat.lt_trans)
    F64.flt_iff (fun a b => (F64.fle_iff a b).trans Nat.not_lt.symm)
    F64.fgt_iff (fun a b => (F64.fge_iff a b).trans Nat.not_lt.symm)
    (fun a b => (F64.feq_iff a b).trans F64.key_inj.symm)

/-- string: the byte-wise VM instructions run to completion -/
theorem C24_string_lawful : LawfulOrd strOrd strEqual := by
  rw [strOrd_eq]
  exact lawful_of_key id (fun a b => StrOps.lexLt a b = true) lexLt_tri lexLt_trans
    (fun _ _ => Iff.rfl) (fun _ _ => by rw [Bool.not_eq_true', Bool.not_eq_true]; rfl)
    (fun _ _ => Iff.rfl) (fun _ _ => by rw [Bool.not_eq_true', Bool.not_eq_true]; rfl)
    (fun a b => by rw [strRun_eq]; exact decide_eq_true_iff)

/-- string `==` is equality of the byte sequences and `<` is core's lexicographic order -/
theorem C24_string_is_lexicographic (a b : StrOps.Bytes) :
    strEqual a b = decide (a = b) ∧ strOrd.lt a b = decide (a < b) := by
  refine ⟨strRun_eq a b, ?_⟩
  show strRun (StrOps.cmpStep .lt) a b = _
  rw [strRun_cmp, StrOps.Cmp.spec, StrOps.lexLt_eq_decide]

/-- the pre-repair definition of bool `>=` (`a and not b`) was not lawful: `true >= true` was false -/
theorem C24_bool_ge_old_counterexample :
    let oldGe : Bool → Bool → Bool := fun a b => a && !b
    oldGe true true = false ∧ boolOrd.ge true true = true ∧ boolOrd.le true true = true := by decide

/-! ## tuples of 2, 3, 4 and arrays, over any lawful components -/

theorem C24_tuple2_lawful {α β : Type} {o1 : Ord' α} {e1 : Eq' α} {o2 : Ord' β} {e2 : Eq' β}
    (L1 : LawfulOrd o1 e1) (L2 : LawfulOrd o2 e2) :
    LawfulOrd (tuple2Ord o1 o2) (tuple2Equal e1 e2) := tuple2_lawful L1 L2

theorem C24_tuple3_lawful {α β γ : Type} {o1 : Ord' α} {e1 : Eq' α} {o2 : Ord' β} {e2 : Eq' β}
    {o3 : Ord' γ} {e3 : Eq' γ} (L1 : LawfulOrd o1 e1) (L2 : LawfulOrd o2 e2) (L3 : LawfulOrd o3 e3) :
    LawfulOrd (tuple3Ord o1 o2 o3) (tuple3Equal e1 e2 e3) := by
  rw [tuple3Ord_eq, tuple3Equal_eq]
  exact tuple2_lawful L1 (tuple2_lawful L2 L3)

theorem C24_tuple4_lawful {α β γ δ : Type} {o1 : Ord' α} {e1 : Eq' α} {o2 : Ord' β} {e2 : Eq' β}
    {o3 : Ord' γ} {e3 : Eq' γ} {o4 : Ord' δ} {e4 : Eq' δ}
    (L1 : LawfulOrd o1 e1) (L2 : LawfulOrd o2 e2) (L3 : LawfulOrd o3 e3) (L4 : LawfulOrd o4 e4) :
    LawfulOrd (tuple4Ord o1 o2 o3 o4) (tuple4Equal e1 e2 e3 e4) := by
  rw [tuple4Ord_eq, tuple4Equal_eq]
  exact tuple2_lawful L1 (tuple2_lawful L2 (tuple2_lawful L3 L4))

-- non-vacuity: concrete lawful instances, nested
example : LawfulOrd (tuple2Ord boolOrd intOrd) (tuple2Equal boolEqual intEqual) :=
  C24_tuple2_lawful C24_bool_lawful C24_int_lawful
example : LawfulOrd (tuple3Ord floatOrd strOrd voidOrd) (tuple3Equal floatEqual strEqual voidEqual) :=
  C24_tuple3_lawful C24_float_lawful C24_string_lawful C24_void_lawful
example : LawfulOrd (tuple4Ord boolOrd (tuple2Ord intOrd boolOrd) strOrd floatOrd)
    (tuple4Equal boolEqual (tuple2Equal intEqual boolEqual) strEqual floatEqual) :=
  C24_tuple4_lawful C24_bool_lawful (C24_tuple2_lawful C24_int_lawful C24_bool_lawful) C24_string_lawful
    C24_float_lawful

/-- the tuple order is the lexicographic order of the component orders (independent reading) -/
theorem C24_tuple_lt_is_lexicographic {α β : Type} {o1 : Ord' α} {e1 : Eq' α} {o2 : Ord' β}
    (L1 : LawfulOrd o1 e1) (a b : α × β) :
    (tuple2Ord o1 o2).lt a b = true ↔
      o1.lt a.1 b.1 = true ∨ (e1 a.1 b.1 = true ∧ o2.lt a.2 b.2 = true) := tuple2_lt_iff L1 a b

example : (tuple2Ord boolOrd intOrd).lt (false, 5) (true, 1) = true :=
  (C24_tuple_lt_is_lexicographic C24_bool_lawful (o2 := intOrd) (false, 5) (true, 1)).2 (Or.inl (by decide))

/-- array `==`: the index loop never leaves the arrays and computes "same length and element-wise
    equal" -/
theorem C24_array_equal_spec {α : Type} (e : Eq' α) (a b : List α) :
    arrayEqual? e a b = some (listAll2 e a b) ∧ arrayEqual e a b = listAll2 e a b :=
  arrayEqual_spec e a b

theorem C24_array_equal_lawful {α : Type} {e : Eq' α} (L : LawfulEq e) : LawfulEq (arrayEqual e) := by
  have : arrayEqual e = listAll2 e := by
    funext a b; exact (arrayEqual_spec e a b).2
  rw [this]; exact listAll2_lawful L

example : LawfulEq (arrayEqual (tuple2Equal boolEqual voidEqual)) :=
  C24_array_equal_lawful (tuple2Equal_lawful C24_bool_lawful.toLawfulEq C24_void_lawful.toLawfulEq)

/-! ## the laws as the property states them, for every lawful type -/

theorem C24_ne_is_negation {α : Type} (e : Eq' α) (a b : α) : ne e a b = !(e a b) := rfl

/-- for any `LawfulOrd`: `x <= y` exactly when not `y < x`; `x >= y` exactly when `y <= x`;
    `x > y` exactly when `y < x`; `<=` is `<` or `==`; `<` is irreflexive and incompatible with `==`;
    `<=` is total, transitive and antisymmetric up to `==` -/
theorem C24_order_laws {α : Type} {o : Ord' α} {e : Eq' α} (L : LawfulOrd o e) (a b c : α) :
    (o.le a b = true ↔ ¬ o.lt b a = true) ∧
    (o.ge a b = o.le b a) ∧
    (o.gt a b = o.lt b a) ∧
    (o.le a b = (o.lt a b || e a b)) ∧
    (o.ge a b = (o.gt a b || e a b)) ∧
    (o.lt a a = false) ∧
    (e a b = true → o.lt a b = false ∧ o.le a b = true ∧ o.ge a b = true) ∧
    (o.le a b = true ∨ o.le b a = true) ∧
    (o.le a b = true → o.le b c = true → o.le a c = true) ∧
    (o.le a b = true → o.le b a = true → e a b = true) := by
  have tab := L.tri a b
  refine ⟨?_, ?_, L.gt_def a b, ?_, ?_, ?_, ?_, ?_, ?_, ?_⟩
  · rw [L.le_def]; simp
  · rw [L.ge_def, L.le_def]
  · rw [L.le_def]; rcases tab with h | h | h <;> simp [h.1, h.2.1, h.2.2]
  · rw [L.ge_def, L.gt_def]; rcases tab with h | h | h <;> simp [h.1, h.2.1, h.2.2]
  · exact L.not_lt_of_eq (L.refl a)
  · intro h
    rw [L.le_def, L.ge_def, L.not_lt_of_eq h, L.not_lt_of_eq (L.symm a b h)]
    exact ⟨rfl, rfl, rfl⟩
  · rw [L.le_def, L.le_def]; rcases tab with h | h | h <;> simp [h.1, h.2.2]
  · rw [L.le_def, L.le_def, L.le_def]
    intro h1 h2
    -- ¬ b < a, ¬ c < b ⊢ ¬ c < a
    cases hca : o.lt c a with
    | false => rfl
    | true =>
      exfalso
      rcases tab with t | t | t
      · rw [L.lt_trans c a b hca t.1] at h2; cases h2
      · rw [L.lt_of_lt_of_eq hca t.2.1] at h2; cases h2
      · rw [t.2.2] at h1; cases h1
  · rw [L.le_def, L.le_def]; rcases tab with h | h | h <;> simp [h.1, h.2.1, h.2.2]

example : (boolOrd.le true true = true ↔ ¬ boolOrd.lt true true = true) :=
  (C24_order_laws C24_bool_lawful true true true).1

/-! ## hashing -/

/-- equal values have equal hashes: scalars (int, void, bool, string) … -/
theorem C24_hash_congr_scalars :
    HashCongr voidEqual voidHash ∧ HashCongr boolEqual boolHash ∧ HashCongr intEqual intHash ∧
    HashCongr strEqual strHash := by
  refine ⟨fun _ _ _ => rfl, by unfold HashCongr; decide, ?_, ?_⟩
  · intro a b h
    simp only [intEqual, decide_eq_true_eq] at h
    rw [h]
  · intro a b h
    rw [strRun_eq, decide_eq_true_eq] at h
    rw [h]

/-- the string hash as the prelude computes it — an index loop over `string_count_bytes` /
    `string_nth_byte` — never indexes out of range and is FNV-1a folded over the bytes -/
theorem C24_string_hash_loop (s : StrOps.Bytes) : strHashIndexed s = some (strHash s) := by
  have := strHashLoop_spec s [] 0xcbf29ce484222325
  simpa [strHashIndexed, strHash, StrOps.countBytes] using this

example : strHashIndexed [97] = some 0xaf63dc4c8601ec8c := by decide

/-- … tuples of 2, 3, 4 and arrays over components with that property -/
theorem C24_hash_congr_compound {α β γ δ : Type} {e1 : Eq' α} {e2 : Eq' β} {e3 : Eq' γ} {e4 : Eq' δ}
    {h1 : Hash' α} {h2 : Hash' β} {h3 : Hash' γ} {h4 : Hash' δ}
    (H1 : HashCongr e1 h1) (H2 : HashCongr e2 h2) (H3 : HashCongr e3 h3) (H4 : HashCongr e4 h4) :
    HashCongr (tuple2Equal e1 e2) (tuple2Hash h1 h2) ∧
    HashCongr (tuple3Equal e1 e2 e3) (tuple3Hash h1 h2 h3) ∧
    HashCongr (tuple4Equal e1 e2 e3 e4) (tuple4Hash h1 h2 h3 h4) ∧
    HashCongr (arrayEqual e1) (arrayHash h1) := by
  refine ⟨tuple2Hash_congr H1 H2, ?_, ?_, arrayHash_congr H1⟩
  · intro ⟨a1, a2, a3⟩ ⟨b1, b2, b3⟩ h
    simp only [tuple3Equal, Bool.and_eq_true] at h
    exact hashCombine_congr H3 (hashCombine_congr H2 (hashCombine_congr H1 rfl h.1.1) h.1.2) h.2
  · intro ⟨a1, a2, a3, a4⟩ ⟨b1, b2, b3, b4⟩ h
    simp only [tuple4Equal, Bool.and_eq_true] at h
    exact hashCombine_congr H4 (hashCombine_congr H3 (hashCombine_congr H2
      (hashCombine_congr H1 rfl h.1.1.1) h.1.1.2) h.1.2) h.2

example : HashCongr (arrayEqual (tuple2Equal boolEqual strEqual)) (arrayHash (tuple2Hash boolHash strHash)) :=
  (C24_hash_congr_compound (e2 := voidEqual) (e3 := voidEqual) (e4 := voidEqual)
    (tuple2Hash_congr C24_hash_congr_scalars.2.1 C24_hash_congr_scalars.2.2.2)
    C24_hash_congr_scalars.1 C24_hash_congr_scalars.1 C24_hash_congr_scalars.1).2.2.2

end Abra.PreludeCmp
