import AbraProofs.Lemmas.SchedSolo
/-!
# C10 — results do not depend on how the embedder slices execution

Model: `Abra.Sched` (M4), for ANY deterministic thread step function `step : T → Action T V E`.
`NoDone r` ("no thread that `finish_thread_turn` releases — finished, or a task stopped by an error — is
waiting in a queue") holds for `Runtime.new` and is preserved by every operation (`C10_noDone_invariant`);
it is needed: on a state with a finished task at the head of the run queue the real loop counts the
dropped thread as skipped and can end the call early.
-/
namespace Abra.Sched
variable {T V E : Type}

/-- `NoDone` is an invariant of everything an embedder can do. -/
theorem C10_noDone_invariant (step : T → Action T V E) :
    (∀ m : T, NoDone (Runtime.new m : Runtime T V E)) ∧
    (∀ b (r : Runtime T V E), NoDone r → NoDone (runN step b r).rt) ∧
    (∀ {H : Type} (host : H → Nat → T → H × T) h (r : Runtime T V E), NoDone r → NoDone (serviceAll host h r).2) :=
  ⟨noDone_new, runN_noDone step, fun host h r hd => serviceAll_noDone host h r hd⟩

/-- **Budgets add up**: `run_n_steps(a + b)` is `run_n_steps(a)` followed by `run_n_steps(b)` — same
    runtime state (run queue order, channels, trace of executed instructions), same final status, the
    step counts add — unless the first call is the one in which the main thread finished (then the
    embedder has its answer and `a + b` stops at the very same point).  In particular whenever the
    first call returned `OutOfSteps`, `PendingHostFunc` or `MainThreadError`. -/
theorem C10_runN_add (step : T → Action T V E) (a b : Nat) (r : Runtime T V E) (hd : NoDone r) :
    runN step (a + b) r =
      (if (runN step a r).doneNow then runN step a r
       else { runN step b (runN step a r).rt with
              steps := (runN step a r).steps + (runN step b (runN step a r).rt).steps }) :=
  runN_add step a b r hd

example : ∃ r : Runtime Nat Nat Nat, NoDone r := ⟨Runtime.new 0, noDone_new 0⟩

/-- the special case named in the design: the first part ended `OutOfSteps` -/
theorem C10_runN_add_outOfSteps (step : T → Action T V E) (a b : Nat) (r : Runtime T V E) (hd : NoDone r)
    (h : (runN step a r).status = .outOfSteps) :
    (runN step (a + b) r).rt = (runN step b (runN step a r).rt).rt ∧
    (runN step (a + b) r).status = (runN step b (runN step a r).rt).status ∧
    (runN step (a + b) r).steps = (runN step a r).steps + (runN step b (runN step a r).rt).steps := by
  have hnd : (runN step a r).doneNow = false := by
    rw [runN_eq] at h ⊢
    cases hf : (roundRobin step a r).2.1
    · rfl
    · simp [hf] at h
  rw [C10_runN_add step a b r hd]
  simp [hnd]

/-- **Slicing invariance**: calling `run_n_steps` with the budgets `bs` one after the other is the same
    as one call with their sum. -/
theorem C10_runSeq_eq_sum (step : T → Action T V E) (bs : List Nat) (r : Runtime T V E) (hd : NoDone r) :
    runSeq step bs r = runN step bs.sum r := by
  induction bs generalizing r with
  | nil => rfl
  | cons b bs ih =>
    have hnd := (C10_noDone_invariant step).2.1 b r hd
    simp only [runSeq, List.sum_cons]
    rw [C10_runN_add step b bs.sum r hd, ih _ hnd]

/-- Any two budget sequences with the same total reach the same runtime state — run queue, every
    thread's state, channel contents, the whole interleaving of executed instructions (`trace`) — with the
    same status and the same total `steps_consumed`. -/
theorem C10_slicing_invariant (step : T → Action T V E) (bs₁ bs₂ : List Nat) (r : Runtime T V E)
    (hd : NoDone r) (h : bs₁.sum = bs₂.sum) : runSeq step bs₁ r = runSeq step bs₂ r := by
  rw [C10_runSeq_eq_sum step bs₁ r hd, C10_runSeq_eq_sum step bs₂ r hd, h]

example : ([1, 2, 3] : List Nat).sum = [3, 3].sum := rfl

/-- **The one-call slicings `Runtime::run()` / `run_with_granularity(n)`.**  Whenever the loop returns (after
    `k` calls of `run_n_steps(n)`, the first `k - 1` of which answered `OutOfSteps`), the runtime state and the
    status are exactly those of the single call `run_n_steps(k * n)` — one more way to slice, same result. -/
theorem C10_run_with_granularity (step : T → Action T V E) (n : Nat) :
    ∀ (fuel : Nat) (r : Runtime T V E) (x : RunResult T V E), NoDone r → runG step n fuel r = some x →
      ∃ k, 1 ≤ k ∧ k ≤ fuel ∧ x.rt = (runN step (k * n) r).rt ∧ x.status = (runN step (k * n) r).status ∧
        x.status ≠ .outOfSteps := by
  intro fuel
  induction fuel with
  | zero => intro r x _ h; cases h
  | succ fuel ih =>
    intro r x hd h
    rw [runG] at h
    split at h
    · rename_i hs
      obtain ⟨k, hk1, hk2, e1, e2, e3⟩ := ih _ x (runN_noDone step n r hd) h
      have hadd := C10_runN_add_outOfSteps step n (k * n) r hd hs
      rw [← hadd.1, show n + k * n = (k + 1) * n by rw [Nat.succ_mul, Nat.add_comm]] at e1
      rw [← hadd.2.1, show n + k * n = (k + 1) * n by rw [Nat.succ_mul, Nat.add_comm]] at e2
      exact ⟨k + 1, Nat.le_add_left 1 k, Nat.succ_le_succ hk2, e1, e2, e3⟩
    · rename_i hs
      cases h
      exact ⟨1, Nat.le_refl _, Nat.le_add_left 1 fuel, by rw [Nat.one_mul], by rw [Nat.one_mul], hs⟩

example : ∃ x, runG (fun (t : Nat) => if t < 5 then (Action.cont (t + 1) : Action Nat Nat Nat) else .stop t) 2 10
    (Runtime.new 0) = some x ∧ x.status = .done := ⟨_, rfl, rfl⟩

/-- **Host delay**: while every thread is blocked (pending host call, or the main thread stopped by an
    error) and nothing waits to be enqueued, any further `run_n_steps` call executes nothing and leaves the
    runtime exactly as it was. -/
theorem C10_host_delay_invariant (step : T → Action T V E) (b : Nat) (r : Runtime T V E) (h : Stuck r) :
    runN step b r = ⟨r, updateStatus r, 0, false⟩ :=
  runN_stuck step b r h

/-- the single-thread case of the property: main alone, waiting for the host -/
theorem C10_host_delay_single (step : T → Action T V E) (b n : Nat) (r : Runtime T V E) (m : Thread T E)
    (hq : r.runQueue = [m]) (hn : r.newThreads = []) (hm : m.isMain = true) (hp : m.pending = some n)
    (hdone : m.gone = false) :
    runN step b r = ⟨r, .pendingHost, 0, false⟩ := by
  have hs : Stuck r := ⟨hn, by simp [hq, Thread.canRun, hp, hdone]⟩
  rw [C10_host_delay_invariant step b r hs]
  simp [updateStatus, tryGetMain, hq, hm, Thread.status, hp]

example : ∃ (r : Runtime Nat Nat Nat) (m : Thread Nat Nat), r.runQueue = [m] ∧ r.newThreads = [] ∧
    m.isMain = true ∧ m.pending = some 2 ∧ m.gone = false :=
  ⟨{ runQueue := [{ id := 0, isMain := true, st := 0, pending := some 2 }], nextId := 1 }, _, rfl, rfl, rfl, rfl, rfl⟩

/-- **Programs without tasks (first sentence of the property), for every embedder.**  `drive` is an
    embedder that makes the `run_n_steps` calls of a schedule — any budgets, and after each call either
    services the pending host call or, being slow, calls again first — and stops when main finishes or
    fails.  For a program that never spawns, the output collected by the host and the whole runtime state
    (program state, result value, error) are, up to servicing a still pending call, those of the reference
    embedder (`canon`: service at once, one instruction at a time) after the same number of executed
    instructions — so two schedules that executed equally many instructions cannot be told apart by them
    (the status of the last call is not part of the claim: a further call with budget 0 after servicing
    answers `OutOfSteps` where the call before it answered `PendingHostFunc`).
    Partial with respect to the whole property: the hypothesis `NoSpawn` excludes tasks (see the
    findings below for what happens with tasks). -/
theorem C10_output_schedule_invariant_partial {H : Type} (step : T → Action T V E) (hs : NoSpawn step)
    (host : H → Nat → T → H × T) (s₁ s₂ : List (Nat × Bool)) (h : H) (main : T)
    (hk : (drive step host s₁ h (Runtime.new main) 0).2.2.1 = (drive step host s₂ h (Runtime.new main) 0).2.2.1) :
    serviceAll host (drive step host s₁ h (Runtime.new main) 0).1 (drive step host s₁ h (Runtime.new main) 0).2.1 =
    serviceAll host (drive step host s₂ h (Runtime.new main) 0).1 (drive step host s₂ h (Runtime.new main) 0).2.1 := by
  obtain ⟨k₁, h1, e1⟩ := drive_single_canon step hs host s₁ h _ 0 (single_new main)
  obtain ⟨k₂, h2, e2⟩ := drive_single_canon step hs host s₂ h _ 0 (single_new main)
  obtain rfl : k₁ = k₂ := by rw [Nat.zero_add] at h1 h2; exact h1.symm.trans (hk.trans h2)
  exact e1.trans e2.symm

/-- the same with the reference embedder named: every schedule is `canon` after as many instructions -/
theorem C10_schedule_is_reference_partial {H : Type} (step : T → Action T V E) (hs : NoSpawn step)
    (host : H → Nat → T → H × T) (s : List (Nat × Bool)) (h : H) (main : T) :
    serviceAll host (drive step host s h (Runtime.new main) 0).1 (drive step host s h (Runtime.new main) 0).2.1 =
    serviceAll host (canon step host (drive step host s h (Runtime.new main) 0).2.2.1 (h, (Runtime.new main : Runtime T V E))).1
      (canon step host (drive step host s h (Runtime.new main) 0).2.2.1 (h, Runtime.new main)).2 := by
  obtain ⟨k, h1, e1⟩ := drive_single_canon step hs host s h _ 0 (single_new main)
  rw [h1, Nat.zero_add]
  exact e1

/-- **Runs to the end agree.**  For a program without tasks, any two embedder schedules that both ran the
    program to its end — the run queue is empty (main finished) or holds only the failed main thread —
    end with the same host state (the complete output) and the same runtime (final value, error kind and
    location carried by the main thread, total number of executed instructions = length of `trace`). -/
theorem C10_finished_runs_agree_partial {H : Type} (step : T → Action T V E) (hs : NoSpawn step)
    (host : H → Nat → T → H × T) (s₁ s₂ : List (Nat × Bool)) (h : H) (main : T)
    (hf₁ : Fin (drive step host s₁ h (Runtime.new main : Runtime T V E) 0).2.1)
    (hf₂ : Fin (drive step host s₂ h (Runtime.new main : Runtime T V E) 0).2.1) :
    (drive step host s₁ h (Runtime.new main : Runtime T V E) 0).1 = (drive step host s₂ h (Runtime.new main) 0).1 ∧
    (drive step host s₁ h (Runtime.new main : Runtime T V E) 0).2.1 = (drive step host s₂ h (Runtime.new main) 0).2.1 :=
  Prod.mk.inj (drive_single_finished step hs host s₁ s₂ h _ (single_new main) hf₁ hf₂)

/-- non-vacuity: a three-instruction program (`cont`, `host`, `stop`) run to its end under two schedules -/
example :
    let step : Nat → Action Nat Nat Nat := fun t =>
      if t = 0 then .cont 1 else if t = 1 then .host 0 2 else .stop 3
    Fin (drive step (fun (h : List Nat) n t => (h ++ [n], t)) (List.replicate 4 (1, true)) [] (Runtime.new 0 : Runtime Nat Nat Nat) 0).2.1 ∧
    Fin (drive step (fun (h : List Nat) n t => (h ++ [n], t)) [(5, false), (2, true), (9, true)] [] (Runtime.new 0 : Runtime Nat Nat Nat) 0).2.1 := by
  refine ⟨⟨rfl, Or.inl rfl⟩, ⟨rfl, Or.inl rfl⟩⟩

example : NoSpawn (fun (t : Nat) => (Action.cont (t + 1) : Action Nat Nat Nat)) := by
  intro t c t' h; cases h

/-! ### Where slicing does change the output (recorded findings, replayed by the harness)

A host call is serviced only between `run_n_steps` calls, so a thread waiting for the host waits until
the end of the slice while the other threads keep running.  Two consequences, each with a witness in the
model (the harness replays the corresponding Abra programs on the implementation):
* a task that prints races with the end of the main thread (completion is reported as soon as main stops);
* two writers to one channel are merged in an order that depends on when main's host call was serviced.
With one reader and one writer per channel and a main thread that joins the printing task (the
generator's discipline) no difference is found; a proof of that (Kahn determinism of the model) is
-- OPEN: any two schedules that both finish such a program give equal output — not attempted: it needs a
-- confluence argument over all interleavings, not an induction over one run.
-/
namespace Witness

/-- a tiny thread language for witnesses: one register, constants written, the register printed -/
inductive I where
  | o | n | r (c : Nat) | w (c v : Nat) | s (child : List I) | h | x

structure MT where
  code : List I
  reg : Nat := 0

def mstep : MT → Action MT Nat Nat
  | ⟨[], r⟩ => .error 0 ⟨[], r⟩
  | ⟨.o :: c, r⟩ => .cont ⟨c, r⟩
  | ⟨.n :: c, r⟩ => .newChan fun _ => ⟨c, r⟩
  | ⟨.r ch :: c, _⟩ => .read ch fun v => ⟨c, v⟩
  | ⟨.w ch v :: c, r⟩ => .write ch v ⟨c, r⟩
  | ⟨.s child :: c, r⟩ => .spawn ⟨child, 0⟩ ⟨c, r⟩
  | ⟨.h :: c, r⟩ => .host 0 ⟨c, r⟩
  | ⟨.x :: c, r⟩ => .stop ⟨c, r⟩

/-- the host prints the register -/
def mhost (out : List Nat) (_ : Nat) (t : MT) : List Nat × MT := (out ++ [t.reg], t)

def output (main : List I) (sched : List (Nat × Bool)) : List Nat × Bool :=
  let d := drive mstep mhost sched [] (Runtime.new ⟨main, 0⟩ : Runtime MT Nat Nat) 0
  (d.1, match d.2.2.2 with | some .done => true | _ => false)

/-- `task { print }` racing with the end of main -/
def taskPrint : List I := [.s [.h, .x], .o, .o, .o, .x]

/-- main prints, releases task 1 (`go`), and reads twice from `out`, which both tasks write -/
def mergeRace : List I :=
  [.n, .n, .s [.r 0, .w 1 1, .x], .s [.o, .o, .o, .o, .o, .o, .o, .o, .w 1 2, .x],
   .h, .w 0 0, .r 1, .h, .r 1, .h, .x]

end Witness

open Witness in
/-- **Finding (task print race).**  Output of a program that prints only from one task depends on the
    slicing: with budget 1 the task's print is serviced before main stops, with one large budget main
    stops first and completion is reported with the print still pending.  Both runs end `Done`. -/
theorem C10_task_print_race_counterexample :
    output taskPrint (List.replicate 7 (1, true)) = ([0], true) ∧
    output taskPrint [(100, true)] = ([], true) := by
  decide +kernel

open Witness in
/-- **Finding (merge race).**  Tasks communicate only through channels and only main prints, yet the
    order in which two writers reach one channel — and so the output — depends on the slicing. -/
theorem C10_channel_merge_race_counterexample :
    output mergeRace (List.replicate 60 (1, true)) = ([0, 1, 2], true) ∧
    output mergeRace (List.replicate 10 (100, true)) = ([0, 2, 1], true) := by
  decide +kernel

end Abra.Sched
