import AbraProofs.Lemmas.ArrClone
/-!
# C26 — array operations match a list model and fail cleanly

Model: `Abra.Lib.Arr` (`AbraModel/Lib/Arr.lean`): the VM's array instructions on an explicit heap of
arrays (a value of array type is an address, so aliasing is visible) and the prelude's extension
functions written on top of them as the Abra source spells them.  Every theorem is about an
arbitrary heap `h`, an arbitrary allocated address `a` and arbitrary (64-bit) indices; the
specification side is in terms of `List` (`++`, `set`, `dropLast`, `getLast`, `getD`, `findIdx?`, `any`,
`replicate`, `map`).  "Frame" = every other array of the heap is untouched.
-/
namespace Abra.Lib.Arr

/-- what an operation on the array at `a` may change: only the contents of `a` -/
def Frame (a : Nat) (h h' : Heap) : Prop := h'.length = h.length ∧ ∀ b, b ≠ a → h'.arr b = h.arr b

theorem Frame.of_set {h : Heap} {a : Nat} (ha : a < h.length) (l : List Val) :
    Heap.arr (h.set a l) a = l ∧ Frame a h (h.set a l) :=
  ⟨arr_set_same h a l ha, List.length_set, fun b hb => arr_set_other h a b l hb⟩

/-- the shape of the bounds-checked writes: in range the write, out of range the error -/
theorem Frame.of_ite {h : Heap} {a : Nat} (ha : a < h.length) {p : Prop} [Decidable p] {r : Except Err Heap}
    {l : List Val} (e : r = if p then .ok (h.set a l) else .error .oob) :
    if p then ∃ h', r = .ok h' ∧ h'.arr a = l ∧ Frame a h h' else r = .error .oob := by
  subst e
  split
  · exact ⟨_, rfl, Frame.of_set ha l⟩
  · rfl

/-! ## instructions

Each operation on an allocated address gets an equation that names the resulting heap, `h.set a l`; the
statements with `Frame` follow by `Frame.of_set`, and the composite operations are computed by rewriting
with the equations of their parts. -/

/-- `ArrayLength` is the length of the list. -/
theorem C26_len_spec (h : Heap) (a : Nat) (ha : a < h.length) :
    lenOp h (.ref a) = .ok ((h.arr a).length : Int) := by
  simp only [lenOp, addrOf_ref ha]

/-- `GetIndex`: the element at `idx` when `0 ≤ idx < len`, the ArrayOutOfBounds error otherwise
    (negative and huge indices included). -/
theorem C26_get_spec (h : Heap) (a : Nat) (idx : Int) (ha : a < h.length) (hi : inI64 idx) :
    getIndex h (.ref a) idx =
      if 0 ≤ idx ∧ idx < (h.arr a).length then .ok ((h.arr a).getD idx.toNat .nil) else .error .oob := by
  simp only [getIndex, addrOf_ref ha, outOfBounds_eq hi, Bool.not_eq_true', decide_eq_false_iff_not, ite_not]
  by_cases hr : 0 ≤ idx ∧ idx < (h.arr a).length
  · rw [if_pos hr, if_pos hr, List.getD_eq_getElem?_getD, List.getElem?_eq_getElem ((Int.toNat_lt hr.1).mpr hr.2)]; rfl
  · rw [if_neg hr, if_neg hr]

theorem getIndex_nat {h : Heap} {a : Nat} (ha : a < h.length) {k : Nat} (hk : k < (h.arr a).length)
    (hlen : (h.arr a).length < 9223372036854775808) : getIndex h (.ref a) k = .ok (h.arr a)[k] := by
  rw [C26_get_spec h a k ha (inI64_natCast (Nat.lt_trans hk hlen)), if_pos (natCast_inBounds hk), Int.toNat_natCast,
    List.getElem_eq_getD .nil]

theorem setIndex_ref {h : Heap} {a : Nat} (ha : a < h.length) {idx : Int} (hi : inI64 idx) (x : Val) :
    setIndex h (.ref a) idx x =
      if 0 ≤ idx ∧ idx < (h.arr a).length then .ok (h.set a ((h.arr a).set idx.toNat x)) else .error .oob := by
  simp only [setIndex, addrOf_ref ha, outOfBounds_eq hi, Bool.not_eq_true', decide_eq_false_iff_not, ite_not]

/-- `SetIndex`: `l.set idx x` when `0 ≤ idx < len` (nothing else changes), the error otherwise. -/
theorem C26_set_spec (h : Heap) (a : Nat) (idx : Int) (x : Val) (ha : a < h.length) (hi : inI64 idx) :
    if 0 ≤ idx ∧ idx < (h.arr a).length then
      ∃ h', setIndex h (.ref a) idx x = .ok h' ∧ h'.arr a = (h.arr a).set idx.toNat x ∧ Frame a h h'
    else setIndex h (.ref a) idx x = .error .oob :=
  Frame.of_ite ha (setIndex_ref ha hi x)

theorem pushOp_ref {h : Heap} {a : Nat} (ha : a < h.length) (x : Val) :
    pushOp h (.ref a) x = .ok (h.set a (h.arr a ++ [x])) := by
  simp only [pushOp, addrOf_ref ha]

/-- `ArrayPush` appends: `l ++ [x]`, never fails, nothing else changes. -/
theorem C26_push_spec (h : Heap) (a : Nat) (x : Val) (ha : a < h.length) :
    ∃ h', pushOp h (.ref a) x = .ok h' ∧ h'.arr a = h.arr a ++ [x] ∧ Frame a h h' :=
  ⟨_, pushOp_ref ha x, Frame.of_set ha _⟩

/-- `ArrayPop` on an empty array is the ArrayOutOfBounds runtime error (not a host panic). -/
theorem C26_pop_empty_is_error (h : Heap) (a : Nat) (ha : a < h.length) (he : h.arr a = []) :
    popOp h (.ref a) = .error .oob := by
  simp only [popOp, addrOf_ref ha, he, List.getLast?_nil]

theorem popOp_ref {h : Heap} {a : Nat} (ha : a < h.length) (hne : h.arr a ≠ []) :
    popOp h (.ref a) = .ok (h.set a (h.arr a).dropLast, (h.arr a).getLast hne) := by
  simp only [popOp, addrOf_ref ha, List.getLast?_eq_some_getLast hne]

/-- `ArrayPop` on a non-empty array returns `l.getLast` and leaves `l.dropLast`. -/
theorem C26_pop_spec (h : Heap) (a : Nat) (ha : a < h.length) (hne : h.arr a ≠ []) :
    ∃ h', popOp h (.ref a) = .ok (h', (h.arr a).getLast hne) ∧ h'.arr a = (h.arr a).dropLast ∧ Frame a h h' :=
  ⟨_, popOp_ref ha hne, Frame.of_set ha _⟩

/-- `ConstructArray n`: a fresh address holding the given values in order; old arrays untouched. -/
theorem C26_construct_spec (h : Heap) (vs : List Val) :
    (construct h vs).2 = .ref h.length ∧ (construct h vs).1.length = h.length + 1 ∧
    (construct h vs).1.arr h.length = vs ∧ ∀ b, b < h.length → (construct h vs).1.arr b = h.arr b :=
  ⟨rfl, List.length_append, arr_append_new h vs, fun b hb => arr_append_old h vs b hb⟩

theorem pushAll_ref (a : Nat) : ∀ (xs : List Val) (h : Heap), a < h.length →
    pushAll (.ref a) xs h = .ok (h.set a (h.arr a ++ xs))
  | [], h, _ => by rw [List.append_nil, set_arr_self]; rfl
  | x :: xs, h, ha => by
    simp only [pushAll, pushOp_ref ha]
    rw [pushAll_ref a xs _ (lt_length_set ha _ _), arr_set_same _ _ _ ha, List.set_set, List.append_assoc]; rfl

/-- the pushes after `ConstructArray` complete the literal: of any length it is one unbounded `ConstructArray` -/
theorem constructLit_eq (h : Heap) (vs : List Val) : constructLit h vs = .ok (construct h vs) := by
  simp only [constructLit, construct]
  -- the pushes rewrite the last array of `h ++ [_]`
  rw [pushAll_ref h.length _ _ (by simp), arr_append_new, List.take_append_drop,
    List.set_append_right _ _ (Nat.le_refl _), Nat.sub_self]
  rfl

/-- An array literal of ANY length — also beyond the 65535 elements one `ConstructArray` can count, where the
    compiler constructs the first 65535 and pushes the rest — is a fresh array holding exactly the listed
    values in order; existing arrays are untouched. -/
theorem C26_literal_spec (h : Heap) (vs : List Val) :
    ∃ h', constructLit h vs = .ok (h', .ref h.length) ∧ h'.arr h.length = vs ∧ h'.length = h.length + 1 ∧
      ∀ b, b < h.length → h'.arr b = h.arr b :=
  have ⟨_, c2, c3, c4⟩ := C26_construct_spec h vs
  ⟨_, constructLit_eq h vs, c3, c2, c4⟩

/-- Reference semantics: an update through one variable holding address `a` is what every other
    variable holding `a` then reads (here: push through `v`, read through `w`), and arrays at other
    addresses are not affected. -/
theorem C26_ref_semantics (h : Heap) (a : Nat) (v w x : Val) (ha : a < h.length)
    (hlen63 : (h.arr a).length < 9223372036854775807) (hv : v = .ref a) (hw : w = .ref a) :
    ∃ h', pushOp h v x = .ok h' ∧
      lenOp h' w = .ok (((h.arr a).length : Int) + 1) ∧
      getIndex h' w (h.arr a).length = .ok x ∧
      ∀ b, b ≠ a → b < h.length → lenOp h' (.ref b) = lenOp h (.ref b) ∧ h'.arr b = h.arr b := by
  subst hv hw
  have ha' := lt_length_set ha a (h.arr a ++ [x])
  have harr := arr_set_same h a (h.arr a ++ [x]) ha
  refine ⟨_, pushOp_ref ha x, ?_, ?_, fun b hb hbl => ?_⟩
  · rw [C26_len_spec _ a ha', harr, List.length_append]; rfl
  · rw [getIndex_nat ha' (k := (h.arr a).length) (by rw [harr, List.length_append]; exact Nat.lt_succ_self _)
      (by rw [harr, List.length_append, List.length_singleton]; omega)]
    simp only [harr, List.getElem_concat_length]
  · rw [C26_len_spec _ b (lt_length_set hbl _ _), C26_len_spec h b hbl, arr_set_other _ _ _ _ hb]
    exact ⟨rfl, rfl⟩

/-! ## prelude extension functions -/

/-- `is_empty` -/
theorem C26_is_empty_spec (h : Heap) (a : Nat) (ha : a < h.length) :
    isEmpty h (.ref a) = .ok ((h.arr a).isEmpty) := by
  simp only [isEmpty, C26_len_spec h a ha]
  cases h.arr a <;> rfl

theorem swap_ref {h : Heap} {a : Nat} (ha : a < h.length) {i j : Int} (hi : inI64 i) (hj : inI64 j) :
    swap h (.ref a) i j =
      if (0 ≤ i ∧ i < (h.arr a).length) ∧ (0 ≤ j ∧ j < (h.arr a).length) then
        .ok (h.set a (((h.arr a).set i.toNat ((h.arr a).getD j.toNat .nil)).set j.toNat ((h.arr a).getD i.toNat .nil)))
      else .error .oob := by
  simp only [swap, C26_get_spec h a _ ha hi, C26_get_spec h a _ ha hj, setIndex_ref ha hi]
  by_cases hri : 0 ≤ i ∧ i < (h.arr a).length
  · by_cases hrj : 0 ≤ j ∧ j < (h.arr a).length
    · simp only [hri, hrj, and_self, if_true, setIndex_ref (lt_length_set ha _ _) hj, arr_set_same _ _ _ ha,
        List.length_set, List.set_set]
    · simp only [hri, hrj, and_self, and_false, if_true, if_false]
  · simp only [hri, false_and, if_false]

/-- `swap(i, j)`: both indices in range → the two elements are exchanged and nothing else changes;
    otherwise the result is the ArrayOutOfBounds error (an error carries no heap in the model — the program
    stops there; that both reads precede the first write is visible in the definition of `swap`, not in this statement). -/
theorem C26_swap_spec (h : Heap) (a : Nat) (i j : Int) (ha : a < h.length) (hi : inI64 i) (hj : inI64 j) :
    if (0 ≤ i ∧ i < (h.arr a).length) ∧ (0 ≤ j ∧ j < (h.arr a).length) then
      ∃ h', swap h (.ref a) i j = .ok h' ∧
        h'.arr a = ((h.arr a).set i.toNat ((h.arr a).getD j.toNat .nil)).set j.toNat ((h.arr a).getD i.toNat .nil) ∧
        Frame a h h'
    else swap h (.ref a) i j = .error .oob :=
  Frame.of_ite ha (swap_ref ha hi hj)

theorem remove_ref {h : Heap} {a : Nat} (ha : a < h.length) {idx : Int} (hi : inI64 idx)
    (hlen : (h.arr a).length < 9223372036854775808) (hr : 0 ≤ idx ∧ idx < (h.arr a).length) :
    remove h (.ref a) idx =
      .ok (h.set a ((h.arr a).set idx.toNat ((h.arr a).getLast (ne_nil_of_inBounds hr))).dropLast) := by
  have hne := ne_nil_of_inBounds hr
  have hpos : 0 < (h.arr a).length := List.length_pos_iff.mpr hne
  have hk : (h.arr a).length - 1 < (h.arr a).length := Nat.sub_one_lt (Nat.ne_of_gt hpos)
  have e : ((h.arr a).length : Int) - 1 = (((h.arr a).length - 1 : Nat) : Int) := (Int.ofNat_sub hpos).symm
  simp only [remove, C26_len_spec h a ha, e,
    -- the swap with the last position is in range
    swap_ref ha hi (inI64_natCast (Nat.lt_trans hk hlen)), if_pos (And.intro hr (natCast_inBounds hk)), Int.toNat_natCast,
    -- the pop finds the swapped array, which is not empty
    popOp_ref, ha, hne, arr_set_same _ _ _ ha, List.length_set, List.set_eq_nil_iff, ne_eq, not_false_eq_true,
    List.set_set]
  -- and forgets what the swap wrote to the last position
  rw [getD_last _ hne, dropLast_set_of_le (by rw [List.length_set]; exact Nat.le_refl _)]

/-- `remove(idx)` = swap with the last element, then pop: `(l.set idx l.getLast).dropLast` (the
    order of the remaining elements is *not* preserved); out of range (in particular on an empty
    array) it is the ArrayOutOfBounds error. -/
theorem C26_remove_spec (h : Heap) (a : Nat) (idx : Int) (ha : a < h.length) (hi : inI64 idx)
    (hlen : (h.arr a).length < 9223372036854775808) :
    if hr : 0 ≤ idx ∧ idx < (h.arr a).length then
      ∃ h', remove h (.ref a) idx = .ok h' ∧
        h'.arr a = ((h.arr a).set idx.toNat ((h.arr a).getLast (by intro e; rw [e] at hr; simp at hr; omega))).dropLast ∧
        Frame a h h'
    else remove h (.ref a) idx = .error .oob := by
  by_cases hr : 0 ≤ idx ∧ idx < (h.arr a).length
  · rw [dif_pos hr]
    exact ⟨_, remove_ref ha hi hlen hr, Frame.of_set ha _⟩
  · rw [dif_neg hr]
    -- the swap already fails at its first read
    simp only [remove, C26_len_spec h a ha, swap, C26_get_spec h a idx ha hi, if_neg hr]

theorem clearLoop_ref (a : Nat) : ∀ (fuel : Nat) (h : Heap), a < h.length → (h.arr a).length < fuel →
    clearLoop (.ref a) fuel h = .ok (h.set a []) := by
  intro fuel
  induction fuel with
  | zero => intro h _ hf; exact absurd hf (Nat.not_lt_zero _)
  | succ fuel ih =>
    intro h ha hf
    simp only [clearLoop, C26_len_spec h a ha]
    by_cases hne : h.arr a = []
    · rw [hne, if_neg (by decide)]
      exact congrArg Except.ok (hne ▸ set_arr_self h a).symm
    · have hpos : 0 < (h.arr a).length := List.length_pos_iff.mpr hne
      rw [if_pos (Int.natCast_pos.mpr hpos), popOp_ref ha hne]
      simp only
      have hlt : (h.arr a).dropLast.length < fuel := List.length_dropLast ▸
        Nat.lt_of_lt_of_le (Nat.sub_one_lt (Nat.ne_of_gt hpos)) (Nat.le_of_lt_succ hf)
      rw [ih _ (lt_length_set ha _ _) (by rw [arr_set_same _ _ _ ha]; exact hlt), List.set_set]

/-- `clear()` empties the array (by popping), never fails, nothing else changes. -/
theorem C26_clear_spec (h : Heap) (a : Nat) (ha : a < h.length) :
    ∃ h', clear h (.ref a) = .ok h' ∧ h'.arr a = [] ∧ Frame a h h' := by
  refine ⟨_, ?_, Frame.of_set ha []⟩
  simp only [clear, C26_len_spec h a ha]
  exact clearLoop_ref a _ h ha (by simp)

/-- from position `k` on the loop finds the least index `≥ k` whose element is `==` to `x` -/
theorem findLoop_spec (eq : Val → Val → Bool) (h : Heap) (a : Nat) (x : Val) (ha : a < h.length)
    (hlen : (h.arr a).length < 9223372036854775808) :
    ∀ (fuel k : Nat), k ≤ (h.arr a).length → (h.arr a).length < k + fuel →
      findLoop eq h (.ref a) x (h.arr a).length fuel k =
        .ok ((((h.arr a).drop k).findIdx? (fun y => eq y x)).map (fun i => ((i + k : Nat) : Int))) := by
  intro fuel
  induction fuel with
  | zero => intro k hk hf; exact absurd hf (Nat.not_lt.mpr hk)
  | succ fuel ih =>
    intro k hk hf
    simp only [findLoop, ge_iff_le, Int.ofNat_le]
    by_cases hge : (h.arr a).length ≤ k
    · rw [if_pos hge, List.drop_eq_nil_of_le hge]; rfl
    · have hklt : k < (h.arr a).length := Nat.lt_of_not_le hge
      rw [if_neg hge, getIndex_nat ha hklt hlen, List.drop_eq_getElem_cons hklt, List.findIdx?_cons]
      simp only
      cases eq (h.arr a)[k] x with
      | true => simp
      | false =>
        simp only [Bool.false_eq_true, if_false]
        rw [← Int.natCast_succ, ih (k + 1) hklt (Nat.add_right_comm k 1 fuel ▸ hf), Option.map_map]
        exact congrArg (fun f => Except.ok (Option.map f _)) (funext fun i => congrArg Nat.cast (Nat.add_right_comm i k 1))

/-- `find(x)`: the least index whose element is `==` to `x` (`eq` is the element type's `Equal`),
    `none` when there is none; never fails. -/
theorem C26_find_spec (eq : Val → Val → Bool) (h : Heap) (a : Nat) (x : Val) (ha : a < h.length)
    (hlen : (h.arr a).length < 9223372036854775808) :
    find eq h (.ref a) x = .ok (((h.arr a).findIdx? (fun y => eq y x)).map (fun (i : Nat) => Int.ofNat i)) := by
  simp only [find, C26_len_spec h a ha]
  exact findLoop_spec eq h a x ha hlen _ 0 (Nat.zero_le _) (by simp)

/-- `contains(x)`: some element is `==` to `x`. -/
theorem C26_contains_spec (eq : Val → Val → Bool) (h : Heap) (a : Nat) (x : Val) (ha : a < h.length)
    (hlen : (h.arr a).length < 9223372036854775808) :
    contains eq h (.ref a) x = .ok ((h.arr a).any (fun y => eq y x)) := by
  simp only [contains, C26_find_spec eq h a x ha hlen]
  rw [← List.findIdx?_isSome]
  cases (h.arr a).findIdx? (fun y => eq y x) <;> rfl

/-! ## clone and filled (values of nested array types, any nesting depth) -/

/-- `Clone.clone` on a value of array type of nesting depth `d` (well-typed in `h`): it succeeds, the
    clone denotes the same nested list (`den`), no existing array is modified, and every array the
    clone consists of — to any nesting depth — is a new one. -/
theorem C26_clone_spec (d : Nat) (h : Heap) (v : Val) (hwt : WT d h v) :
    ∃ h' v', cloneAt d h v = .ok (h', v') ∧
      den d h' v' = den d h v ∧
      (∀ b, b < h.length → h'.arr b = h.arr b) ∧
      (∀ b ∈ reach d h' v', h.length ≤ b) := by
  obtain ⟨h', v', e, ok⟩ := cloneSpec_all d h v hwt
  exact ⟨h', v', e, ok.den, ok.old, ok.fresh⟩

/-- The clone is independent of the original, in both directions and to any nesting depth:
    (1) whatever is later done to arrays that existed before the clone (`h''` differs from `h'` only
        below `h.length`) does not change what the clone denotes;
    (2) whatever is later done to the clone's arrays (`h''` differs from `h'` only from `h.length` on)
        does not change what any value `w` of the old heap denotes. -/
theorem C26_clone_independent (d : Nat) (h : Heap) (v : Val) (hwt : WT d h v)
    (h' : Heap) (v' : Val) (hc : cloneAt d h v = .ok (h', v')) :
    (∀ h'' : Heap, (∀ b, h.length ≤ b → h''.arr b = h'.arr b) → den d h'' v' = den d h' v') ∧
    (∀ (h'' : Heap) (e : Nat) (w : Val), WT e h w → (∀ b, b < h.length → h''.arr b = h'.arr b) →
        den e h'' w = den e h w) := by
  obtain ⟨h1, v1, e1, ok⟩ := cloneSpec_all d h v hwt
  cases hc.symm.trans e1
  refine ⟨fun h'' hag => (congr_of_agree d h' h'' v' fun b hb => hag b (ok.fresh b hb)).1, fun h'' e w hw hag => ?_⟩
  have hr := WT_reach_lt e h w hw
  exact (congr_of_agree e h h'' w fun b hb => (hag b (hr b hb)).trans (ok.old b (hr b hb))).1

/-- `array.filled(x, n)` with `x` of nesting depth `d`: a new array denoting `n` copies of what `x`
    denotes (none for `n ≤ 0`), every copy a deep clone (all its arrays new), nothing old modified. -/
theorem C26_filled_spec (d : Nat) (h : Heap) (x : Val) (n : Int) (hwt : WT d h x) :
    ∃ h' v', filled d h x n = .ok (h', v') ∧
      den (d + 1) h' v' = .node (List.replicate n.toNat (den d h x)) ∧
      (∀ b, b < h.length → h'.arr b = h.arr b) ∧
      (∀ b ∈ reach (d + 1) h' v', h.length ≤ b) := by
  have hxs : ∀ y ∈ List.replicate n.toNat x, WT d h y := by
    intro y hy; rw [(List.mem_replicate.mp hy).2]; exact hwt
  obtain ⟨hf, ef, lenf, oldf, denf, freshf, wtf⟩ := freshLoop_spec d (cloneSpec_all d) h _ hxs
  refine ⟨hf, .ref h.length, ?_, ?_, oldf, freshf⟩
  · simp only [filled, filledLoop_eq, ef]; rfl
  · rw [denf, List.map_replicate]

/-! ## non-vacuity -/

-- an allocated address with a three-element array; a nested well-typed value
example : (1 : Nat) < ([[], [.int 0, .int 1, .int 2]] : Heap).length := by decide
example : inI64 (-1) ∧ inI64 9223372036854775807 := by unfold inI64; omega
example : WT 2 [[.int 1], [.ref 0, .ref 0]] (.ref 1) :=
  have inner : WT 1 [[.int 1], [.ref 0, .ref 0]] (.ref 0) :=
    ⟨0, rfl, by decide, List.forall_mem_singleton.mpr fun _ => nofun⟩
  ⟨1, rfl, by decide, List.forall_mem_cons.mpr ⟨inner, List.forall_mem_singleton.mpr inner⟩⟩
-- pop on the empty array is the error, remove swaps with the last element
example : popOp [[]] (.ref 0) = .error .oob := by rfl
example : remove [[.int 0, .int 1, .int 2]] (.ref 0) 0 = .ok [[.int 2, .int 1]] := by rfl
example : getIndex [[.int 0]] (.ref 0) (-1) = .error .oob ∧ getIndex [[.int 0]] (.ref 0) 4294967296 = .error .oob := ⟨by rfl, by rfl⟩

end Abra.Lib.Arr
