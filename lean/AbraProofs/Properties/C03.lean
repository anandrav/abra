import AbraProofs.Lemmas.Analysis
/-!
# C03 — every program accepted by the checker compiles (analysis tables and loop context)

Model: `Abra.Analysis` (the repaired `collect_locals_*`, `collect_captures_*`,
`calculate_args_captures_locals`, the offset table, the two loop stacks).

* `C03_offsets_complete` (`_task`, `_own_assign`) — every key the translator looks up in a function's offset table
  (variable reads, pattern binders, hidden temporaries, assigned variables, the captures loaded when a nested
  lambda/task is created) has an entry, for every lambda/task the checker accepts (the checker rejects assignment
  to a captured variable, fdfd074).
* `C03_checker_rejects_captured_assign` — the former D20 shape is rejected by the checker model.
* `C03_loop_ctx_agree` — a `break`/`continue` the checker's loop stack accepts finds a loop on the code
  generator's loop stack (lambda/task bodies start with an empty stack on both sides);
  `C03_loop_ctx_rejects_break_in_lambda` — and the checker does reject a `break` inside a lambda whose only loop is
  the enclosing function's.

-- OPEN: the other panic sites of translate_bytecode.rs (`unreachable!`, `panic!("unexpected pattern")`) are not
-- modelled; they are reached only through the tie (accepted ⇒ compiles, over the nesting stream and the template
-- families of harness/src/bg9cov.rs).  (The `unimplemented!()` for compound assignment through a user `Index` is gone:
-- D79, 33617bc.)
-/
namespace Abra.Analysis

/-- named functions and `<main>` (no enclosing function: every resolved local they assign is their own
    parameter or local — a fact of name resolution, taken as hypothesis) -/
theorem C03_offsets_complete_own_assign (ps : List Nat) (body : RExpr)
    (hassign : ∀ x ∈ assignedE body, x ∈ ps ∨ x ∈ localsE body) :
    ∀ k ∈ lookupsE body, k ∈ tableKeys ps body := by
  intro k hk
  rw [tableKeys_eq]
  simp only [List.mem_append, List.mem_reverse]
  rcases lookupsE_sub body k hk with h | h | h
  · -- a variable read that is neither a local nor a parameter is a capture, by definition
    by_cases hl : k ∈ localsE body
    · exact .inr hl
    · by_cases hp : k ∈ ps
      · exact .inl (.inl hp)
      · exact .inl (.inr (mem_filter_not.2 ⟨h, hl, hp⟩))
  · exact .inr h
  · exact (hassign k h).elim (.inl ∘ .inl) .inr

/-- **Offset tables are complete** for every lambda `(ps) -> body` (and, with `ps = []`, `localsE body` alone, every
    task) that the checker accepts: each key looked up while translating `body` — variable reads, pattern binders,
    hidden temporaries, assigned variables, the captures loaded when a nested lambda/task is created — has an entry
    in the table `translate_func_body_helper` builds.  The checker's rule (fdfd074) is what makes assigned variables
    the function's own. -/
theorem C03_offsets_complete (ps : List Nat) (body : RExpr)
    (hchk : checkerAssignE none (.lam ps body) = true) :
    ∀ k ∈ lookupsE body, k ∈ tableKeys ps body :=
  -- accepting the lambda is checking its body against `ps ++ localsE body`
  C03_offsets_complete_own_assign ps body fun x hx =>
    List.mem_append.1 (assignedE_own body (ps ++ localsE body) hchk x hx)

theorem C03_offsets_complete_task (body : RExpr) (hchk : checkerAssignE none (.task body) = true) :
    ∀ k ∈ lookupsE body, k ∈ tableKeys [] body :=
  C03_offsets_complete_own_assign [] body fun x hx => .inr (assignedE_own body (localsE body) hchk x hx)

/-- the former D20 shape `() -> { x = 3 }` (x bound outside) is rejected by the checker model; it is also exactly
    the shape for which a lookup would have no entry -/
theorem C03_checker_rejects_captured_assign :
    checkerAssignE none (.lam [] (.block (RStmts.ofList [.assignVar 7 .lit]))) = false ∧
    (∃ k ∈ lookupsE (.block (RStmts.ofList [.assignVar 7 .lit])), k ∉ tableKeys [] (.block (RStmts.ofList [.assignVar 7 .lit]))) :=
  ⟨by decide, 7, by decide, by decide⟩

/-- **The loop contexts agree**: whatever the checker's loop stack lets through (starting outside any loop,
    as at the top of a function body) does not make the code generator unwrap an empty loop stack. -/
theorem C03_loop_ctx_agree (e : RExpr) (h : checkerLoopsE false e = true) : codegenLoopsE 0 e = true :=
  loops_agreeE e false 0 nofun h

/-- and the checker does reject a `break` that only an enclosing function's loop surrounds -/
theorem C03_loop_ctx_rejects_break_in_lambda :
    checkerLoopsS false (.while_ .lit (RStmts.ofList [.expr (.lam [] (.block (RStmts.ofList [.break_])))])) = false := by
  decide

/-! ### non-vacuity -/

/-- `(a) -> { let t = a + k; for i in n { if c { break }; arr[{ let j = i; j }] += t }; (b) -> b + t + k }` -/
def demoBody : RExpr :=
  .block (RStmts.ofList [
    .let_ [10] (.op (RExprs.ofList [.var 1, .var 2])),
    .for_ [11] (.var 3) (RStmts.ofList [
      .expr (.ite (.var 4) (.block (RStmts.ofList [.break_])) (.block .nil)),
      .assignPlace [30, 31] (.op (RExprs.ofList [.var 5, .block (RStmts.ofList [.let_ [12] (.var 11), .expr (.var 12)])])) (.var 10)]),
    .expr (.lam [20] (.op (RExprs.ofList [.var 20, .var 10, .var 2])))])

example : checkerAssignE none (.lam [1] demoBody) = true
    ∧ lookupsE demoBody ≠ [] ∧ checkerLoopsE false demoBody = true := by decide

example : capturesOf [1] demoBody = [2, 3, 4, 5, 2] ∧ localsE demoBody = [10, 11, 30, 31, 12] := by decide

end Abra.Analysis
