import AbraProofs.Lemmas.SortLoops
/-!
# C25 — sorting yields a sorted permutation, stably for sort_by

Model: `Abra.Lib.sortBy` (`AbraModel/Lib/Sort.lean`), a loop-by-loop transliteration of the prelude's
`sort_by` / `insertion_sort_by` / `merge_by` with the comparator as a parameter.  All theorems
quantify over every list (no length bound) and every comparator of the stated kind; the
specification side uses only `List.Perm`, `List.Pairwise` and `List.filter`.
-/
namespace Abra.Lib

variable {α : Type}

/-- The result is a permutation of the input — for ANY comparator, lawful or not. -/
theorem C25_sort_perm (le : α → α → Bool) (l : List α) : (sortBy le l).Perm l :=
  (mergeLoop_perm le _ _ _).trans (runs_perm le 32 l)

/-- For a total, transitive comparator the result is sorted: every element is `le` every later one. -/
theorem C25_sort_sorted (le : α → α → Bool)
    (total : ∀ a b, le a b = true ∨ le b a = true)
    (trans : ∀ a b c, le a b = true → le b c = true → le a c = true) (l : List α) :
    (sortBy le l).Pairwise (fun a b => le a b = true) :=
  mergeLoop_sorted le total trans l.length 32 (by decide) (runs le 32 l)
    (runs_perm le 32 l).length_eq (runs_blocks le total trans 32 (by decide) l)

/-- Stability: for every `x`, the elements equivalent to `x` (`le x y ∧ le y x`) appear in the
    result in exactly their original relative order. -/
theorem C25_sort_stable (le : α → α → Bool)
    (total : ∀ a b, le a b = true ∨ le b a = true)
    (trans : ∀ a b c, le a b = true → le b c = true → le a c = true) (l : List α) (x : α) :
    (sortBy le l).filter (fun y => le x y && le y x) = l.filter (fun y => le x y && le y x) :=
  filter_sortBy le total trans _ (fun a b ha hb => by
    simp only [Bool.and_eq_true] at ha hb
    exact trans a x b ha.2 hb.1) l

/-- `sort` on an element type whose `<=` is a total preorder (instantiated for `int` below). -/
theorem C25_sort_spec (leT : α → α → Bool)
    (total : ∀ a b, leT a b = true ∨ leT b a = true)
    (trans : ∀ a b c, leT a b = true → leT b c = true → leT a c = true) (l : List α) :
    (sort leT l).Perm l ∧ (sort leT l).Pairwise (fun a b => leT a b = true) :=
  ⟨C25_sort_perm _ l, C25_sort_sorted _ total trans l⟩

/-- `<=` on `int`, on the elements or on a key, is total and transitive -/
theorem int_le_total (key : α → Int) (a b : α) : decide (key a ≤ key b) = true ∨ decide (key b ≤ key a) = true := by
  simp only [decide_eq_true_eq]
  omega

theorem int_le_trans (key : α → Int) (a b c : α) :
    decide (key a ≤ key b) = true → decide (key b ≤ key c) = true → decide (key a ≤ key c) = true := by
  simp only [decide_eq_true_eq]
  omega

/-- `array<int>.sort()`: a permutation in non-decreasing order. -/
theorem C25_sort_int (l : List Int) :
    (sort (fun a b => decide (a ≤ b)) l).Perm l ∧ (sort (fun a b => decide (a ≤ b)) l).Pairwise (· ≤ ·) :=
  have h := C25_sort_spec (fun a b : Int => decide (a ≤ b)) (int_le_total id) (int_le_trans id) l
  ⟨h.1, h.2.imp of_decide_eq_true⟩

/-- `sort_by_key(key)` for a key type whose `<=` is a total preorder: a permutation, sorted by key,
    and elements with equivalent keys keep their original order. -/
theorem C25_sort_by_key_spec {κ : Type} (leK : κ → κ → Bool) (key : α → κ)
    (total : ∀ a b, leK a b = true ∨ leK b a = true)
    (trans : ∀ a b c, leK a b = true → leK b c = true → leK a c = true) (l : List α) :
    (sortByKey leK key l).Perm l ∧
    (sortByKey leK key l).Pairwise (fun a b => leK (key a) (key b) = true) ∧
    ∀ x, (sortByKey leK key l).filter (fun y => leK (key x) (key y) && leK (key y) (key x))
          = l.filter (fun y => leK (key x) (key y) && leK (key y) (key x)) :=
  ⟨C25_sort_perm _ l,
   C25_sort_sorted (fun a b => leK (key a) (key b)) (fun a b => total (key a) (key b))
     (fun a b c => trans (key a) (key b) (key c)) l,
   fun x => C25_sort_stable (fun a b => leK (key a) (key b)) (fun a b => total (key a) (key b))
     (fun a b c => trans (key a) (key b) (key c)) l x⟩

/-- `sort_by_key` with integer keys: for every key value `k`, the elements with key `k` come out in
    their original order. -/
theorem C25_sort_by_key_int (key : α → Int) (l : List α) :
    (sortByKey (fun a b : Int => decide (a ≤ b)) key l).Perm l ∧
    (sortByKey (fun a b : Int => decide (a ≤ b)) key l).Pairwise (fun a b => key a ≤ key b) ∧
    ∀ k : Int, (sortByKey (fun a b : Int => decide (a ≤ b)) key l).filter (fun y => key y == k)
          = l.filter (fun y => key y == k) := by
  refine ⟨C25_sort_perm _ l, (C25_sort_sorted _ (int_le_total key) (int_le_trans key) l).imp of_decide_eq_true,
    fun k => ?_⟩
  -- the elements with key `k` are pairwise `≤` by key, so they keep their order
  exact filter_sortBy _ (int_le_total key) (int_le_trans key) _
    (fun a b ha hb => by simp only [beq_iff_eq] at ha hb; simp [ha, hb]) l

theorem lexLe_iff (a b : Int × Int) : lexLe a b = true ↔ (a.1 < b.1 ∨ (a.1 = b.1 ∧ a.2 ≤ b.2)) := by
  unfold lexLe
  by_cases h1 : a.1 < b.1
  · rw [if_pos h1]
    exact ⟨fun _ => Or.inl h1, fun _ => rfl⟩
  · rw [if_neg h1]
    by_cases h2 : a.1 > b.1
    · rw [if_pos h2]
      exact ⟨nofun, fun h => absurd (h.resolve_left h1).1 (Int.ne_of_gt h2)⟩
    · rw [if_neg h2, decide_eq_true_eq]
      exact ⟨fun h => Or.inr ⟨Int.le_antisymm (Int.not_lt.mp h2) (Int.not_lt.mp h1), h⟩,
        fun h => (h.resolve_left h1).2⟩

/-- `array<(int, int)>.sort()`: the prelude's tuple `<=` is the lexicographic order, so the result is
    a permutation in lexicographic order. -/
theorem C25_sort_lex_pairs (l : List (Int × Int)) :
    (sort lexLe l).Perm l ∧
    (sort lexLe l).Pairwise (fun a b => a.1 < b.1 ∨ (a.1 = b.1 ∧ a.2 ≤ b.2)) := by
  have h := C25_sort_spec lexLe
    (by intro a b; rw [lexLe_iff, lexLe_iff]; omega)
    (by intro a b c; rw [lexLe_iff, lexLe_iff, lexLe_iff]; omega) l
  exact ⟨h.1, h.2.imp (fun h => (lexLe_iff _ _).mp h)⟩

/-- The sweep at width `w` follows the source's index arithmetic: starting at `left` (the head of
    `l`), the blocks `[left, left+w)` and `[left+w, left+2w)` are merged exactly when the second one
    is non-empty (`mid < right`); a lone (possibly short) block is left alone; then `left += 2w`. -/
theorem C25_mergePass_structure (le : α → α → Bool) (w : Nat) (l : List α) (hw : 0 < w) (hl : l ≠ []) :
    mergePass le w l =
      (if w < l.length then merge le (l.take w) ((l.drop w).take w) else l.take w)
        ++ mergePass le w (l.drop (2 * w)) :=
  mergePass_eq le w l hw hl

/-- `merge` is left-biased: on a tie the element of the left run comes first. -/
theorem C25_merge_left_wins (le : α → α → Bool) (a b : α) (l r : List α) (h : le a b = true) :
    merge le (a :: l) (b :: r) = a :: merge le l (b :: r) :=
  merge_cons_pos le a b l r h

/-! ## from the array and its indices to the list model

`Abra.Lib.sortByA` (`AbraModel/Lib/SortLoops.lean`) is `sort_by` once more, this time on the whole array with the
source's variables — `i`, `end`, `size`, `left`, `mid`, `right`, the scratch array `temp`, `i_curr`, `j`, `k`, the
in-place writes `self[k] = …` and `self[j+1] = self[j]` — and it is what the model driver runs against the real VM.
The theorems below carry everything proved about `sortBy` over to it. -/

/-- `merge_by(left, mid, right)` with its scratch copy and in-place writes puts `merge` of the two runs into
    `[left, right]` and touches nothing else (no write ever lands on an unread element of the right run). -/
theorem C25_merge_by_in_place (le : α → α → Bool) (arr : List α) (left mid right : Nat)
    (h1 : left ≤ mid) (h2 : mid < right) (h3 : right < arr.length) :
    mergeByA le arr left mid right =
      arr.take left ++ merge le ((arr.drop left).take (mid - left + 1)) ((arr.drop (mid + 1)).take (right - mid))
        ++ arr.drop (right + 1) :=
  mergeByA_eq le arr left mid right h1 (Nat.le_of_lt h2) h3

/-- `insertion_sort_by(left, right)` with its shifting loop is `insertRun` on the segment, nothing else touched. -/
theorem C25_insertion_sort_in_place (le : α → α → Bool) (arr : List α) (left right : Nat)
    (h1 : left ≤ right) (h2 : right < arr.length) :
    insertionSortByA le arr left right =
      arr.take left ++ insertRun le ((arr.drop left).take (right - left + 1)) ++ arr.drop (right + 1) :=
  insertionSortByA_eq le arr left right h1 h2

/-- The index-level `sort_by` computes exactly the list-level `sortBy`, for every comparator. -/
theorem C25_sort_by_index_level (le : α → α → Bool) (arr : List α) : sortByA le arr = sortBy le arr :=
  sortByA_eq le arr

/-- Hence the index-level `sort_by`: a permutation for any comparator; sorted and stable for a total,
    transitive one. -/
theorem C25_sort_array_level (le : α → α → Bool) (arr : List α) :
    (sortByA le arr).Perm arr ∧
    ((∀ a b, le a b = true ∨ le b a = true) → (∀ a b c, le a b = true → le b c = true → le a c = true) →
      (sortByA le arr).Pairwise (fun a b => le a b = true) ∧
      ∀ x, (sortByA le arr).filter (fun y => le x y && le y x) = arr.filter (fun y => le x y && le y x)) := by
  rw [C25_sort_by_index_level]
  exact ⟨C25_sort_perm le arr, fun total trans =>
    ⟨C25_sort_sorted le total trans arr, fun x => C25_sort_stable le total trans arr x⟩⟩

/-! ## non-vacuity and unlawful comparators -/

-- the hypotheses of the lawful theorems are satisfiable (integers with `≤`), and the theorem applies
example : (sortBy (fun a b : Int => decide (a ≤ b)) [3, 1, 2]).Pairwise (fun a b => decide (a ≤ b) = true) :=
  C25_sort_sorted _ (int_le_total id) (int_le_trans id) _

-- evaluated through the index-level `sortByA`, which recurses on fuel and so reduces
example : sortBy (fun a b : Int => decide (a ≤ b)) [3, 1, 2] = [1, 2, 3] :=
  (sortByA_eq _ _).symm.trans rfl
example : sortBy (fun a b : Int × Int => decide (a.1 ≤ b.1)) [(3, 0), (1, 1), (3, 2), (1, 3)]
    = [(1, 1), (1, 3), (3, 0), (3, 2)] :=
  (sortByA_eq _ _).symm.trans rfl
-- with the strict (unlawful) comparator equal keys are *reversed* by the insertion pass:
-- sortedness/stability genuinely need the hypotheses, the permutation theorem does not
example : sortBy (fun a b : Int × Int => decide (a.1 < b.1)) [(1, 0), (1, 1)] = [(1, 1), (1, 0)] :=
  (sortByA_eq _ _).symm.trans rfl
example : (0 : Nat) < 32 ∧ ([1] : List Int) ≠ [] := by decide
-- index bounds of the in-place lemmas are satisfiable
example : (0 : Nat) ≤ 0 ∧ (0 : Nat) < 1 ∧ 1 < ([5, 3] : List Int).length := by decide

end Abra.Lib
