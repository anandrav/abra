import AbraProofs.Lemmas.Marshal
/-!
# C36 — host-function bindings carry arguments and results without loss

Model: `Abra.Marshal` (`VmType::{to_vm, from_vm}` of `host_bindings.rs`, the `#host` struct/enum impls
generated by `bindings_common.rs`, the generated `HostFunctionArgs::from_vm` / `HostFunctionRet::into_vm`,
on the VM's stack API).  The theorems hold for **every** type built from the constructors (any nesting
depth, any tuple/struct width, any enum), every value and every stack underneath.
-/
namespace Abra.Marshal

/-- **`to_vm` pushes exactly one value** and leaves the rest of the stack alone. -/
theorem C36_to_vm_pushes_one (t : Ty) (v : HV) (s s' : Stack) (h : toVm t v s = some s') :
    ∃ x, s' = x :: s := by
  obtain ⟨x, -, rfl⟩ := Option.map_eq_some_iff.1 (toVm_enc t v s ▸ h)
  exact ⟨x, rfl⟩

/-- **Round trip** (`from_to_vm`): whatever `to_vm` pushed, `from_vm` at the same type reads the same
    value back and restores the stack. -/
theorem C36_from_to_vm (t : Ty) (v : HV) (s s' : Stack) (h : toVm t v s = some s') :
    fromVm t s' = some (v, s) := by
  obtain ⟨x, hx, rfl⟩ := Option.map_eq_some_iff.1 (toVm_enc t v s ▸ h)
  exact fromVm_enc t v x s hx

example : toVm (.res (.arr (.opt .int)) .bool) (.ok (.arr [.some (.int 3), .none])) [.bool true]
    = some [.variant 0 (.arr [.variant 0 (.int 3), .variant 1 (.int 0)]), .bool true] := rfl

mutual
/-- the value has the type (what rustc guarantees for the real `to_vm`) -/
def HasTy : Ty → HV → Bool
  | .int, .int _ => true
  | .float, .float _ => true
  | .bool, .bool _ => true
  | .str, .str _ => true
  | .unit, .unit => true
  | .opt t, .some v => HasTy t v
  | .opt _, .none => true
  | .res t _, .ok v => HasTy t v
  | .res _ e, .err v => HasTy e v
  | .arr t, .arr vs => vs.attach.all (fun ⟨v, _⟩ => HasTy t v)
  | .tup ts, .tup vs => HasTyElems ts vs
  | .strct ts, .tup vs => HasTyElems ts vs
  | .enm vars, .variant tag p => HasTyVariant vars tag p
  | _, _ => false
def HasTyElems : TyList → List HV → Bool
  | .nil, [] => true
  | .cons t ts, v :: vs => HasTy t v && HasTyElems ts vs
  | _, _ => false
def HasTyVariant : VarList → Nat → Option HV → Bool
  | .bare _, 0, .none => true
  | .payload t _, 0, .some v => HasTy t v
  | .bare rest, k + 1, p => HasTyVariant rest k p
  | .payload _ rest, k + 1, p => HasTyVariant rest k p
  | _, _, _ => false
end

theorem mapOpt_isSome {β γ : Type} {g : β → Option γ} {p : β → Bool} (h : ∀ v, (g v).isSome = p v) :
    ∀ vs : List β, (mapOpt g vs).isSome = vs.all p
  | [] => rfl
  | v :: vs => by rw [mapOpt_cons, consOpt_isSome, h, mapOpt_isSome h vs, List.all_cons]

mutual
theorem enc_isSome : ∀ (t : Ty) (v : HV), (enc t v).isSome = HasTy t v
  | .int, v | .float, v | .bool, v | .str, v | .unit, v => by cases v <;> rfl
  | .opt t, v => by
    cases v with
    | some v => exact Option.isSome_map.trans (enc_isSome t v)
    | _ => rfl
  | .res t e, v => by
    cases v with
    | ok v => exact Option.isSome_map.trans (enc_isSome t v)
    | err v => exact Option.isSome_map.trans (enc_isSome e v)
    | _ => rfl
  | .arr t, v => by
    cases v with
    | arr vs =>
      refine Option.isSome_map.trans ((mapOpt_isSome (enc_isSome t) vs).trans ?_)
      exact (List.unattach_attach (l := vs) ▸ List.all_subtype fun _ _ => rfl).symm
    | _ => rfl
  | .tup ts, v => by
    cases v with
    | tup vs => exact Option.isSome_map.trans (encElems_isSome ts vs)
    | _ => rfl
  | .strct ts, v => by
    cases v with
    | tup vs => exact Option.isSome_map.trans (encFields_isSome ts vs)
    | _ => rfl
  | .enm vars, v => by
    cases v with
    | variant tag p => exact encVariant_isSome vars tag tag p
    | _ => rfl

theorem encElems_isSome : ∀ (ts : TyList) (vs : List HV), (encElems ts vs).isSome = HasTyElems ts vs
  | .nil, [] | .nil, _ :: _ | .cons _ _, [] => rfl
  | .cons t ts, v :: vs => by
    rw [encElems_cons, consOpt_isSome, enc_isSome t v, encElems_isSome ts vs]; rfl

theorem encFields_isSome : ∀ (ts : TyList) (vs : List HV), (encFields ts vs).isSome = HasTyElems ts vs
  | .nil, [] | .nil, _ :: _ => rfl
  | .cons t _, [] => by cases t <;> rfl
  | .cons t ts, v :: vs => by
    by_cases ht : t = .unit
    · subst ht
      cases v with
      | unit => exact encFields_isSome ts vs
      | _ => rfl
    · rw [encFields_cons ht, consOpt_isSome, enc_isSome t v, encFields_isSome ts vs]; rfl

theorem encVariant_isSome : ∀ (vars : VarList) (k tag : Nat) (p : Option HV),
    (encVariant vars k tag p).isSome = HasTyVariant vars k p
  | .nil, _, _, _ | .bare _, 0, _, none | .bare _, 0, _, some _ | .payload _ _, 0, _, none => rfl
  | .payload t _, 0, _, some v => Option.isSome_map.trans (enc_isSome t v)
  | .bare rest, k + 1, tag, p | .payload _ rest, k + 1, tag, p => encVariant_isSome rest k tag p
end

/-- `to_vm` cannot fail on the elements, fields or variant of a typed value: the direction of the
    three `isSome` equations that `C36_round_trip_typed` rests on, per component -/
theorem encElems_total : ∀ (ts : TyList) (vs : List HV), HasTyElems ts vs = true → ∃ xs, encElems ts vs = some xs :=
  fun ts vs h => Option.isSome_iff_exists.1 (encElems_isSome ts vs ▸ h)

theorem encFields_total : ∀ (ts : TyList) (vs : List HV), HasTyElems ts vs = true → ∃ xs, encFields ts vs = some xs :=
  fun ts vs h => Option.isSome_iff_exists.1 (encFields_isSome ts vs ▸ h)

theorem encVariant_total : ∀ (vars : VarList) (k tag : Nat) (p : Option HV),
    HasTyVariant vars k p = true → ∃ x, encVariant vars k tag p = some x :=
  fun vars k tag p h => Option.isSome_iff_exists.1 (encVariant_isSome vars k tag p ▸ h)

/-- **No loss, no failure on typed values**: for a value of the type, `to_vm` succeeds, pushes one
    value, and `from_vm` gives the value back with the stack restored. -/
theorem C36_round_trip_typed (t : Ty) (v : HV) (s : Stack) (h : HasTy t v = true) :
    ∃ x, toVm t v s = some (x :: s) ∧ fromVm t (x :: s) = some (v, s) := by
  obtain ⟨x, hx⟩ := Option.isSome_iff_exists.1 (enc_isSome t v ▸ h)
  exact ⟨x, by rw [toVm_enc, hx]; rfl, fromVm_enc t v x s hx⟩

example : HasTy (.tup (.cons .int (.cons (.arr .bool) .nil))) (.tup [.int 1, .arr [.bool true, .bool false]]) = true :=
  rfl

/-- the calling convention pushes one value per non-void argument, the first argument deepest -/
theorem pushArgs_enc (ts : TyList) (vs : List HV) (s : Stack) :
    pushArgs ts vs s = (encFields ts vs).map (fun xs => xs.reverse ++ s) :=
  toVmFields_enc ts vs s

theorem fromVmArgs_enc : ∀ (ts : TyList) (vs : List HV) (xs : List VV) (s : Stack),
    encFields ts vs = some xs → fromVmArgs ts (xs.reverse ++ s) = some (vs, s)
  | .nil, [], _, _, h => by cases h; rfl
  | .nil, _ :: _, _, _, h => by contradiction
  | .cons t _, [], _, _, h => by cases t <;> contradiction
  | .cons t ts, v :: vs, xs, s, h => by
    by_cases ht : t = .unit
    · subst ht
      cases v with
      | unit => exact read_someList (fromVmArgs_enc ts vs xs s h)
      | _ => contradiction
    · obtain ⟨x, xs, h1, h2, rfl⟩ := consOpt_eq_some (encFields_cons ht ts v vs ▸ h)
      have ih := fromVmArgs_enc ts vs xs (x :: s) h2
      simp only [List.reverse_cons, List.append_assoc, List.singleton_append, fromVmArgs, ih,
        fromVm_enc t v x s h1]

/-- **Argument order** (`args_order`): the generated `HostFunctionArgs::from_vm`, which reads the last
    parameter first, returns exactly the arguments the Abra call pushed, in parameter order, and
    consumes exactly them (void parameters occupy no slot on either side). -/
theorem C36_args_order : ∀ (ts : TyList) (vs : List HV) (s s' : Stack),
    pushArgs ts vs s = some s' → fromVmArgs ts s' = some (vs, s) := by
  intro ts vs s s' h
  obtain ⟨xs, hxs, rfl⟩ := Option.map_eq_some_iff.1 (pushArgs_enc ts vs s ▸ h)
  exact fromVmArgs_enc ts vs xs s hxs

example : pushArgs (.cons .int (.cons .unit (.cons .bool .nil))) [.int 7, .unit, .bool true] []
    = some [.bool true, .int 7] := rfl

theorem intoVm_enc {ret : Ty} (hne : ret ≠ .unit) (v : HV) (th : Thread) :
    intoVm ret v th = (enc ret v).map fun x => ⟨x :: th.stack, none⟩ := by
  unfold intoVm
  split
  · exact absurd rfl hne
  · rw [toVm_enc]; cases enc ret v <;> rfl

/-- **The result arrives and the thread resumes** (`ret_resumes`): after `HostFunctionRet::into_vm`
    the pending flag is cleared (the thread can run); for a non-void result exactly one value has been
    pushed on top of the untouched stack and it decodes to the returned value; for a void result the
    stack is unchanged. -/
theorem C36_ret_resumes (ret : Ty) (v : HV) (th th' : Thread) (h : intoVm ret v th = some th') :
    th'.pending = none ∧ canRun th' = true ∧
    (ret = .unit → th'.stack = th.stack) ∧
    (ret ≠ .unit → ∃ x, th'.stack = x :: th.stack ∧ fromVm ret th'.stack = some (v, th.stack)) := by
  by_cases hu : ret = .unit
  · subst hu; cases h
    exact ⟨rfl, rfl, fun _ => rfl, fun hne => absurd rfl hne⟩
  · obtain ⟨x, hx, rfl⟩ := Option.map_eq_some_iff.1 (intoVm_enc hu v th ▸ h)
    exact ⟨rfl, rfl, fun e => absurd e hu, fun _ => ⟨x, rfl, fromVm_enc ret v x th.stack hx⟩⟩

example : intoVm (.tup (.cons .int (.cons .int .nil))) (.tup [.int 4, .int 6]) ⟨[.bool true], some 3⟩
    = some ⟨[.strct [.int 4, .int 6], .bool true], none⟩ := rfl

/-- The three facts about one host call with a non-void, well-typed result, side by side (they are
    stated separately, not as one run of a combined machine): if the Abra side's `pushArgs` on `s`
    succeeds with `s'`, then (1) `fromVmArgs` on the suspended thread's stack `s'` returns the
    arguments and `s`; (2) `intoVm` on the thread `⟨s, some i⟩` yields `⟨x :: s, none⟩` for some `x`;
    (3) `fromVm ret (x :: s)` returns the result and `s`. -/
theorem C36_host_call (params : TyList) (ret : Ty) (args : List HV) (result : HV) (i : Nat)
    (s s' : Stack) (hpush : pushArgs params args s = some s') (hret : HasTy ret result = true)
    (hne : ret ≠ .unit) :
    ∃ x, fromVmArgs params (hostCall i ⟨s', none⟩).stack = some (args, s) ∧
      intoVm ret result ⟨s, some i⟩ = some ⟨x :: s, none⟩ ∧
      fromVm ret (x :: s) = some (result, s) := by
  obtain ⟨x, hx⟩ := Option.isSome_iff_exists.1 (enc_isSome ret result ▸ hret)
  exact ⟨x, C36_args_order params args s s' hpush, by rw [intoVm_enc hne, hx]; rfl,
    fromVm_enc ret result x s hx⟩

end Abra.Marshal
