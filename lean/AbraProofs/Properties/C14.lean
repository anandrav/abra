-- `2 ^ orCount p` in `C14_let_binds_first_combination` is elaborated with the `Nat` monoid instance of this module
import Mathlib.Algebra.Group.Nat.Defs
import AbraProofs.Lemmas.PatCompile
import AbraProofs.Properties.C12
/-!
# C14 — match and destructuring select the first matching arm and bind correctly

Model: `Abra.PatCompile` (the pattern part of M8: `translate_pat_comparison`,
`translate_product_pat_comparison`, `traverse_arm_pat`, `handle_pat_binding`, the `ExprKind::Match`
code) run on the model VM (`step`/`run`, forward jumps as skipping).  `pmatch` (M9) is the meaning
of source patterns; `repr` is the run-time representation of typed values.
-/
namespace Abra.PatCompile
open Abra.PatMatrix

/-- **Comparison code is correct** — for every enum environment, pattern, type, value of that type,
    decision set, label path and machine context: running `translate_pat_comparison`'s code with the
    value on top of the stack (nothing for `void`) replaces it by `Bool (matches p' v)` where `p'` is the
    alternative of each or-pattern that the decision set selects (`resolveP`), and leaves the rest of
    the stack, the locals and the control state untouched — in particular a product whose i-th
    component fails is cleaned up completely (`failChain`).  All pattern kinds are covered: literals,
    wildcard, binding, `nil`, tuples, structs, variants without data, with positional data (incl. the
    tuple encoding of several fields), with named fields (one field, several fields, void fields),
    or-patterns. -/
theorem C14_patCompare_correct (env : EnumEnv) (p : Pat) (π : Path) (ty : Ty) (D : List Path) (v : Val)
    (stk : List SVal) (locs : List (Nat × SVal)) (tk : Option Nat)
    (ht : patTyped env p ty = true) (hv : hasTy env v ty = true) :
    run (cmp env π ty p D) (mk (slot env ty v ++ stk) locs tk none) =
      some (mk (.bool (pmatch (resolveP env π ty p D) v) :: stk) locs tk none) :=
  (pat_ok env p π ty D v stk locs tk ht hv).1

/-- non-vacuity: the hypotheses hold for `(true | false, 2)` against `(false, 2)`; with the or-pattern
    already decided right the theorem yields `true` on top of the untouched `7` -/
example : patTyped (fun _ => []) (.tuple [.or (.bool true) (.bool false), .int 2]) (.tuple [.bool, .int]) = true ∧
    hasTy (fun _ => []) (.prod [.bool false, .int 2]) (.tuple [.bool, .int]) = true := by decide +kernel

example : run (cmp (fun _ => []) [0] (.tuple [.bool, .int]) (.tuple [.or (.bool true) (.bool false), .int 2]) [[0, 0]])
    (mk (slot (fun _ => []) (.tuple [.bool, .int]) (.prod [.bool false, .int 2]) ++ [.int 7]) [] none none) =
    some (mk [.bool (pmatch (resolveP (fun _ => []) [0] (.tuple [.bool, .int])
      (.tuple [.or (.bool true) (.bool false), .int 2]) [[0, 0]]) (.prod [.bool false, .int 2])), .int 7] [] none none) :=
  C14_patCompare_correct (fun _ => []) (.tuple [.or (.bool true) (.bool false), .int 2]) [0] (.tuple [.bool, .int])
    [[0, 0]] (.prod [.bool false, .int 2]) [.int 7] [] none (by decide +kernel) (by decide +kernel)

/-- **Binding code is correct** — the same `handle_pat_binding` serves `match` arms, `let` and `for`:
    on a value of the pattern's type that the selected alternative (`resolveP`) matches, the code
    consumes exactly the value's stack slot(s), leaves everything below untouched, and stores for
    every variable the representation of the component it stands for (`bindingsOf`: left to right,
    nothing for `void` components, through tuples, positional and named struct/variant fields). -/
theorem C14_patBind_correct (env : EnumEnv) (p : Pat) (π : Path) (ty : Ty) (D : List Path) (v : Val)
    (stk : List SVal) (locs : List (Nat × SVal)) (tk : Option Nat)
    (ht : patTyped env p ty = true) (hv : hasTy env v ty = true)
    (hm : pmatch (resolveP env π ty p D) v = true) :
    run (bind env π ty p D) (mk (slot env ty v ++ stk) locs tk none) =
      some (mk stk ((bindingsOf env ty (resolveP env π ty p D) v).reverse ++ locs) tk none) :=
  (pat_ok env p π ty D v stk locs tk ht hv).2 hm

/-- **`let` / `var` / `for` as the code is** (`bind_irrefutable_pat`, after D103; any or-patterns): the
    variables are bound under the FIRST combination of or-pattern alternatives, in the order of the arm
    loop, whose selected alternative matches the value; the value is consumed, nothing else touched. -/
theorem C14_let_binds_first_combination (env : EnumEnv) (ty : Ty) (p : Pat) (v : Val) (stk : List SVal)
    (hnv : ty.isVoid = false) (ht : patTyped env p ty = true) (hv : hasTy env v ty = true)
    (r : Nat) (D : List Path) (c : List Instr)
    (hr : (armPasses env ty 0 p (2 ^ orCount p) 0 []).findIdx? (fun x => pmatch (resolveP env [0] ty p x.1) v) = some r)
    (hx : (armPasses env ty 0 p (2 ^ orCount p) 0 [])[r]? = some (D, c)) :
    runLet env ty p v stk = some ((bindingsOf env ty (resolveP env [0] ty p D) v).reverse, stk) :=
  runLet_general env ty p v stk hnv ht hv r D c hr hx

/-- `let` / `for` destructuring: a pattern that is an or-chain `a | b | c` of or-free alternatives
    (a pattern without or-patterns is the chain of length one) and matches `v` binds exactly what it
    binds as a match arm — through its first alternative that matches — and restores the stack -/
theorem C14_let_destructuring (env : EnumEnv) (p : Pat) (ty : Ty) (v : Val) (stk : List SVal)
    (hnv : ty.isVoid = false) (ht : patTyped env p ty = true) (hv : hasTy env v ty = true) (hch : isChain p)
    (hm : pmatch p v = true) :
    runLet env ty p v stk = some ((bindingsOf env ty p v).reverse, stk) :=
  runLet_chain env ty p v stk hnv ht hch hv hm

/-- **Destructuring accepted by the checker binds like the matching arm would** (partial only in
    that or-patterns must form a chain of or-free alternatives, e.g. `(d, _) | (_, d)`,
    `.A(x) | .B(x) | _`): for a pattern that `checkLet`
    (C12) accepts, `let p = v` / `var` / `for p in …` stores, for EVERY well-typed value, exactly what
    a match arm `p` would bind (`bindingsOf`: through the first alternative that matches), and
    restores the stack.  For or-patterns nested inside constructor patterns the proved statement is
    `C14_let_binds_first_combination`. -/
theorem C14_let_accepted_binds (env : EnumEnv) (hinh : Inhabited' env) (p : Pat) (ty : Ty) (fuel : Nat)
    (hnv : ty.isVoid = false) (ht : patTyped env p ty = true) (hch : isChain p)
    (hacc : checkLet env fuel ty p = some true)
    (v : Val) (hv : hasTy env v ty = true) (stk : List SVal) :
    runLet env ty p v stk = some ((bindingsOf env ty p v).reverse, stk) :=
  C14_let_destructuring env p ty v stk hnv ht hv hch (C12_let_accepted_irrefutable hinh ht hacc v hv)

def d103Env : EnumEnv := fun _ => [[.int, .int], [.int]]

/-- **D103 regression** (repaired by ae0a5b4): `let (Ee.Aa(_, _) | _) = Ee.Bb(0)` binds through the
    alternative that matches (nothing to bind, value consumed) instead of deconstructing `Bb`'s payload
    as `Aa`'s; and `let (Ee.Aa(x, _) | Ee.Bb(x)) = Ee.Bb(5)` binds `x` to 5 -/
theorem C14_d103_regression :
    (runLet d103Env (.enum 0) (.or (.variantPos 0 0 (.tuple [.wild, .wild])) .wild) (.variant 1 (.int 0)) []).map
        (fun r => (r.1.length, r.2.length)) = some (0, 0) ∧
    (runLet d103Env (.enum 0) (.or (.variantPos 0 0 (.tuple [.bind 0, .wild])) (.variantPos 0 1 (.bind 0)))
        (.variant 1 (.int 5)) []).map (fun r => (r.1.map (fun x => x.1), r.2.length)) = some ([0], 0) := by
  decide +kernel

/-- **The match as the code is** (every arm list, any or-patterns): the `ExprKind::Match` code enters
    the body of the FIRST PASS, in emission order, whose selected alternative (`passPat`) matches the
    value — and of no other pass —, binds exactly the variables of that alternative to their
    components, and leaves the stack below the scrutinee as it found it.  The passes are those of the
    arm loop (`allPasses`: per arm one pass for every combination of or-pattern alternatives,
    enumerated like a binary counter; a pass is bound under the decisions it was compared under). -/
theorem C14_match_takes_first_pass (env : EnumEnv) (ty : Ty) (arms : List Pat) (v : Val) (stk : List SVal)
    (hnv : ty.isVoid = false) (harms : ∀ p ∈ arms, patTyped env p ty = true) (hv : hasTy env v ty = true)
    (r : Nat) (x : Pass)
    (hr : (allPasses env ty 0 arms 0).findIdx? (fun x => pmatch (passPat env ty arms x) v) = some r)
    (hx : (allPasses env ty 0 arms 0)[r]? = some x) :
    runMatch env ty arms v stk =
      some (some x.1, some r, (bindingsOf env ty (passPat env ty arms x) v).reverse, stk) :=
  runMatch_general env ty arms v stk hnv harms hv r x hr hx

/-- **The match takes the first matching arm and binds through its first matching alternative**
    (`_partial`: every arm is an or-chain `a | b | c` of or-free alternatives — an arm without
    or-patterns is the chain of length one —, scrutinee type not `void`).  For every such arm list of
    well-typed patterns and every well-typed value whose first matching arm (source order,
    `List.findIdx?` over `pmatch`) is `k`: the code enters a body of arm `k` and of no other arm, with
    the variables bound as `bindingsOf` says (an or-pattern binds through its first alternative that
    matches), and leaves `stk` untouched.

    What is missing for the full statement: or-patterns NESTED inside tuple/struct/variant patterns
    (e.g. `(1 | 2, 3 | 4)`).  For those `C14_match_takes_first_pass` says what the code does (first
    matching pass), but that the binary-counter passes enumerate exactly the alternatives of the arm,
    in left-to-right order, is not proved here (it is checked by the correspondence on every run;
    the repaired D27 input is `C14_d27_regression`). -/
theorem C14_match_selects_first_partial (env : EnumEnv) (ty : Ty) (arms : List Pat) (v : Val) (stk : List SVal)
    (hnv : ty.isVoid = false) (harms : ∀ p ∈ arms, patTyped env p ty = true) (hch : ∀ p ∈ arms, isChain p)
    (hv : hasTy env v ty = true) (k : Nat) (hk : arms.findIdx? (fun p => pmatch p v) = some k) :
    ∃ r, runMatch env ty arms v stk =
      some (some k, some r, (bindingsOf env ty (arms.getD k .wild) v).reverse, stk) :=
  runMatch_chain env ty arms v stk hnv harms hch hv k hk

/-- arms without or-patterns are chains -/
theorem C14_orfree_is_chain {p : Pat} (h : orCount p = 0) : isChain p := isChain_orfree h

-- OPEN: C14_match_selects_first — the same conclusion for arms with or-patterns nested inside
-- constructor patterns (the binary-counter enumeration of `armPasses` is complete and ordered).
-- Checked by the correspondence on every run (nested and side-by-side or-patterns, with and without
-- bindings, are in the generator's main stream); not proved.

def d27Ty : Ty := .tuple [.int, .int]
def d27Arms : List Pat := [.tuple [.or (.int 1) (.int 2), .or (.int 3) (.int 4)], .wild]

/-- **D27 regression** (repaired by b67d291): with two or-patterns side by side every combination is
    tried — `(1, 4)`, `(2, 3)`, `(1, 3)`, `(2, 4)` take arm 0, `(1, 5)` takes arm 1. -/
theorem C14_d27_regression :
    ([(1, 4), (2, 3), (1, 3), (2, 4), (1, 5)] : List (Int × Int)).map (fun x =>
      (runMatch (fun _ => []) d27Ty d27Arms (.prod [.int x.1, .int x.2]) []).map (fun r => r.1)) =
    [some (some 0), some (some 0), some (some 0), some (some 0), some (some 1)] := by
  decide +kernel

/-! Non-vacuity of the hypotheses of the match and binding theorems. -/

def exArms14 : List Pat :=
  [.tuple [.variantPos 0 0 (.bind 0), .bool true], .tuple [.variant0 0 1, .bind 1], .tuple [.wild, .wild]]

example : (∀ p ∈ exArms14, orCount p = 0 ∧ patTyped Abra.PatMatrix.exEnv p Abra.PatMatrix.exTy = true) ∧
    (∀ p ∈ exArms14 ++ [Pat.or (.tuple [.wild, .bool true]) (.or (.tuple [.wild, .bool false]) .wild)],
      ∀ q ∈ alts p, orCount q = 0) ∧
    hasTy Abra.PatMatrix.exEnv (.prod [.variant 1 (.prod []), .bool false]) Abra.PatMatrix.exTy = true := by
  decide +kernel

example : exArms14.findIdx? (fun p => pmatch p (.prod [.variant 1 (.prod []), .bool false])) = some 1 := by
  simp [exArms14, List.findIdx?_cons, pmatch, pmatchAll]

end Abra.PatCompile
