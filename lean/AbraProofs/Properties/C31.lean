import AbraProofs.Lemmas.PrattEval
/-!
# C31 — expressions parse according to the documented precedence table

Model: `Abra.Pratt` (`AbraModel/Pratt.lean`), the token-level Pratt loop of `parse_expr_bp` with the
code's precedence numbers.  Specification: `printMinimal` (`AbraModel/PrattPrint.lean`), which
parenthesises exactly where the *documented* table and left associativity require.

The round trip `parseExpr (printMinimal t) = ok t` is the precedence-climbing invariant `MainE`, by
induction on the tree.  That the code yields the reference parser's tree (`-` always an ordinary
prefix operator) on every token list is the simulation `sim`, through the one-step congruence
lemmas of `Lemmas/Pratt.lean`.
-/
namespace Abra.Pratt

theorem docLevel_eq_prec (o : BinOp) : docLevel o = o.prec := by cases o <;> rfl

theorem level_pos (e : Expr) : 1 ≤ e.level := by
  cases e
  case bin o _ _ => cases o <;> exact Nat.le_of_ble_eq_true rfl
  all_goals exact Nat.le_of_ble_eq_true rfl

theorem level_le_16 (e : Expr) : e.level ≤ 16 := by
  cases e
  case bin o _ _ => exact Nat.le_trans (Nat.le_of_eq (docLevel_eq_prec o)) (Nat.le_trans (prec_le_9 o) (by decide))
  all_goals exact Nat.le_of_ble_eq_true rfl

def startTok : Tok → Bool
  | .atom _ | .op .sub | .not | .lparen | .lbrack => true
  | _ => false

def StartsOk (ts : List Tok) : Prop := ∃ t r, ts = t :: r ∧ startTok t = true

theorem StartsOk.wrapIf {ts : List Tok} (c : Bool) (h : StartsOk ts) : StartsOk (wrapIf c ts) := by
  cases c
  · exact h
  · exact ⟨.lparen, ts ++ [.rparen], rfl, rfl⟩

theorem StartsOk.append {ts : List Tok} (h : StartsOk ts) (r : List Tok) : StartsOk (ts ++ r) := by
  obtain ⟨t, r', rfl, ht⟩ := h
  exact ⟨t, r' ++ r, rfl, ht⟩

theorem StartsOk.skipNl {ts : List Tok} (h : StartsOk ts) : skipNl ts = ts := by
  obtain ⟨t, r, rfl, ht⟩ := h
  cases t with
  | nl => cases ht
  | _ => rfl

theorem StartsOk.head {ts : List Tok} (h : StartsOk ts) {close : Tok}
    (hc : close = .rparen ∨ close = .rbrack) :
    ∃ t r, ts = t :: r ∧ t ≠ close ∧ ∀ Z, Pratt.skipNl (t :: r ++ Z) = t :: r ++ Z := by
  obtain ⟨t, r, rfl, ht⟩ := h
  refine ⟨t, r, rfl, fun e => ?_, fun Z => StartsOk.skipNl ⟨t, r ++ Z, rfl, ht⟩⟩
  rcases hc with rfl | rfl <;> (subst e; cases ht)

theorem print_member (e : Expr) (s : String) (rest : List Tok) : (Expr.member e s).print ++ rest =
    wrapIf (decide (e.level < primaryLevel)) e.print ++ .dot :: .atom (.ident s) :: rest :=
  List.append_assoc ..
theorem print_index (e i : Expr) (rest : List Tok) : (Expr.index e i).print ++ rest =
    wrapIf (decide (e.level < primaryLevel)) e.print ++ .lbrack :: (i.print ++ .rbrack :: rest) :=
  (List.append_assoc ..).trans (congrArg (_ ++ Tok.lbrack :: ·) (List.append_assoc ..))
theorem print_unwrap (e : Expr) (rest : List Tok) : (Expr.unwrap e).print ++ rest =
    wrapIf (decide (e.level < primaryLevel)) e.print ++ .bang :: rest :=
  List.append_assoc ..
theorem print_try (e : Expr) (rest : List Tok) : (Expr.try_ e).print ++ rest =
    wrapIf (decide (e.level < primaryLevel)) e.print ++ .question :: rest :=
  List.append_assoc ..
theorem print_call (f : Expr) (as : Args) (rest : List Tok) : (Expr.call f as).print ++ rest =
    wrapIf (decide (f.level < primaryLevel)) f.print ++ .lparen :: (as.print ++ .rparen :: rest) :=
  (List.append_assoc ..).trans (congrArg (_ ++ Tok.lparen :: ·) (List.append_assoc ..))
theorem print_tuple (as : Args) (rest : List Tok) :
    (Expr.tuple as).print ++ rest = .lparen :: (as.print ++ .rparen :: rest) :=
  congrArg (Tok.lparen :: ·) (List.append_assoc ..)
theorem print_array (as : Args) (rest : List Tok) :
    (Expr.array as).print ++ rest = .lbrack :: (as.print ++ .rbrack :: rest) :=
  congrArg (Tok.lbrack :: ·) (List.append_assoc ..)

theorem print_starts : (e : Expr) → StartsOk e.print
  | .atom a => ⟨.atom a, [], rfl, rfl⟩
  | .neg _ => ⟨.op .sub, _, rfl, rfl⟩
  | .not _ => ⟨.not, _, rfl, rfl⟩
  | .bin _ l _ => ((print_starts l).wrapIf _).append _
  | .member e _ => ((print_starts e).wrapIf _).append _
  | .index e _ => ((print_starts e).wrapIf _).append _
  | .unwrap e => ((print_starts e).wrapIf _).append _
  | .try_ e => ((print_starts e).wrapIf _).append _
  | .call f _ => ((print_starts f).wrapIf _).append _
  | .tuple _ => ⟨.lparen, _, rfl, rfl⟩
  | .array _ => ⟨.lbrack, _, rfl, rfl⟩

theorem Args.print_cons_cons (a b : Expr) (c : Args) :
    (Args.cons a (.cons b c)).print = a.print ++ .comma :: (Args.cons b c).print := by
  rw [Args.print]
  -- the side condition of that equation: the tail is not `.nil`
  intro h
  cases h

theorem prefixOp_sub_never (rest : List Tok) : prefixOp? .never (.op .sub :: rest) = some (.neg, rest) := by
  cases rest with
  | nil => rfl
  | cons t r =>
    cases t
    case atom a => cases a <;> rfl
    all_goals rfl

/-- a printed expression of level above unary minus that begins with an atom either *is* that atom
    or continues with a postfix operator / a binary operator binding tighter than unary minus, at
    which the loop at level 6 does not stop -/
def AtomHead (e : Expr) : Prop :=
  ∀ a r rest, e.print ++ rest = .atom a :: r → 6 < e.level → (e = .atom a ∧ r = rest) ∨ stops 6 r = false

theorem wrapIf_atom_head {e : Expr} {c : Bool} {a : Atom} {r rest : List Tok} (ih : AtomHead e)
    (h : wrapIf c e.print ++ rest = .atom a :: r) (hc : c = false → 6 < e.level) :
    (e = .atom a ∧ r = rest) ∨ stops 6 r = false := by
  cases c with
  | true => cases h
  | false => exact ih a r rest h (hc rfl)

theorem postfix_atom_head {e : Expr} {a : Atom} {r Z : List Tok} (ih : AtomHead e)
    (h : wrapIf (decide (e.level < primaryLevel)) e.print ++ Z = .atom a :: r) (hz : stops 6 Z = false) :
    stops 6 r = false :=
  (wrapIf_atom_head ih h fun hc =>
    Nat.lt_of_lt_of_le (by decide) (Nat.le_of_not_lt (of_decide_eq_false hc))).elim (fun hr => hr.2 ▸ hz) id

theorem print_atom_head : (e : Expr) → AtomHead e
  | .atom b => fun a r rest h _ => by cases h; exact .inl ⟨rfl, rfl⟩
  | .neg e => fun a r rest h _ => by cases h
  | .not e => fun a r rest h _ => by cases h
  | .tuple as => fun a r rest h _ => by cases h
  | .array as => fun a r rest h _ => by cases h
  | .bin o l rr => fun a r rest h hl => by
    have hl : 6 < o.prec := docLevel_eq_prec o ▸ hl
    rw [Expr.print, List.append_assoc] at h
    refine (wrapIf_atom_head (print_atom_head l) h fun hc => ?_).elim (fun hr => .inr ?_) .inr
    · exact Nat.lt_of_lt_of_le hl (docLevel_eq_prec o ▸ Nat.le_of_not_lt (of_decide_eq_false hc))
    · rw [hr.2]; exact decide_eq_false (Nat.not_le_of_lt hl)
  | .member e s => fun _ _ _ h _ => .inr (postfix_atom_head (print_atom_head e) (print_member .. ▸ h) rfl)
  | .index e i => fun _ _ _ h _ => .inr (postfix_atom_head (print_atom_head e) (print_index .. ▸ h) rfl)
  | .unwrap e => fun _ _ _ h _ => .inr (postfix_atom_head (print_atom_head e) (print_unwrap .. ▸ h) rfl)
  | .try_ e => fun _ _ _ h _ => .inr (postfix_atom_head (print_atom_head e) (print_try .. ▸ h) rfl)
  | .call f as => fun _ _ _ h _ => .inr (postfix_atom_head (print_atom_head f) (print_call .. ▸ h) rfl)

/-- `parse_expr_bp bp` started at the first token of `print t`, in a position where `bp` is weaker
    than `t`'s level and the token after `t` cannot extend `t`, builds `t` and continues its loop
    with `t` as the left-hand side. -/
def MainE (mode : FoldMode) (t : Expr) : Prop :=
  ∀ bp rest res, bp < t.level → bp ≤ 10 → stops t.level rest = true →
    LP mode bp t rest res → PB mode bp (t.print ++ rest) res

section
variable {mode : FoldMode} {e : Expr} (ih : MainE mode e)
include ih

theorem item_main {Z : List Tok} (hz : stops 0 Z = true) : PB mode 0 (e.print ++ Z) (.ok e Z) :=
  ih 0 Z _ (level_pos e) (by decide) (stops_mono hz (Nat.zero_le _)) (LP.stop hz (by decide))

theorem PL.item_last {close : Tok} (hc : close = .rparen ∨ close = .rbrack) (rest : List Tok) :
    PL mode close (e.print ++ close :: rest) (.ok (.cons e .nil) rest) := by
  have hin := item_main ih (Z := close :: rest) (by rcases hc with rfl | rfl <;> rfl)
  obtain ⟨t, ts, hp, ht, hs⟩ := (print_starts e).head hc
  rw [hp] at hin ⊢
  exact PL.last (hs _) ht (by rcases hc with rfl | rfl <;> decide) hin

theorem PL.item_cons {close sep : Tok} (hc : close = .rparen ∨ close = .rbrack)
    (hsep : sep = .comma ∨ sep = .nl) {Z r' : List Tok} {es : Args}
    (h : PL mode close Z (.ok es r')) : PL mode close (e.print ++ sep :: Z) (.ok (.cons e es) r') := by
  have hin := item_main ih (Z := sep :: Z) (by rcases hsep with rfl | rfl <;> rfl)
  obtain ⟨t, ts, hp, ht, hs⟩ := (print_starts e).head hc
  rw [hp] at hin ⊢
  exact PL.cons (hs _) ht hsep hin h

theorem wrap_main (c : Bool) {bp : Nat} {rest : List Tok} {res : Res Expr}
    (hbp : bp ≤ 10) (hc : c = false → bp < e.level ∧ stops e.level rest = true)
    (h : LP mode bp e rest res) : PB mode bp (wrapIf c e.print ++ rest) res := by
  cases c with
  | true =>
    have : paren e.print ++ rest = .lparen :: (e.print ++ .rparen :: rest) :=
      congrArg (Tok.lparen :: ·) (List.append_assoc ..)
    rw [wrapIf, if_pos rfl, this]
    exact PB.of_term rfl rfl (PT.paren rfl (PL.item_last ih (.inl rfl) rest)) h
  | false => exact ih bp rest res (hc rfl).1 hbp (hc rfl).2 h

/-- the operand of a postfix operator: nothing stops a primary expression -/
theorem postfix_main {bp : Nat} {rest : List Tok} {res : Res Expr} (hbp : bp ≤ 10)
    (h : LP mode bp e rest res) :
    PB mode bp (wrapIf (decide (e.level < primaryLevel)) e.print ++ rest) res :=
  wrap_main ih _ hbp (fun hc =>
    have h16 : 16 ≤ e.level := Nat.le_of_not_lt (of_decide_eq_false hc)
    ⟨Nat.lt_of_le_of_lt hbp (Nat.lt_of_lt_of_le (by decide) h16), stops_primary h16 rest⟩) h

end

mutual
theorem main_expr (mode : FoldMode) (hm : mode ≠ .always) : (t : Expr) → t.WF → MainE mode t
  | .atom a, hwf => by
    intro bp rest res _ _ _ h
    rw [Expr.print]
    exact PB.of_term rfl rfl (PT.atom rfl fun n hn => by subst hn; exact hwf) h
  | .neg e, hwf => by
    intro bp rest res _ _ hs h
    have ih := main_expr mode hm e hwf
    have hs : stops 6 rest = true := hs
    have hc : decide (e.level ≤ docLevelNeg) = false → 6 < e.level :=
      fun hc => Nat.lt_of_not_le (of_decide_eq_false hc)
    rw [Expr.print, List.cons_append]
    rcases prefixOp_cases mode (.op .sub :: (wrapIf (decide (e.level ≤ docLevelNeg)) e.print ++ rest))
      with hp | ⟨a, r, hX, hn, hf, hp⟩
    · rw [prefixOp_sub_never] at hp
      exact PB.of_prefix rfl hp (wrap_main ih _ (by decide)
        (fun hc' => ⟨hc hc', stops_mono hs (Nat.le_of_lt (hc hc'))⟩) (LP.stop hs (by decide))) h
    · -- the literal keeps its sign: `parse_expr_term` builds the same tree
      injection hX with _ hX
      rw [hX] at hp ⊢
      rcases wrapIf_atom_head (print_atom_head e) hX hc with ⟨he, hr⟩ | hb
      · subst he hr
        refine PB.of_term rfl hp (PT.negLit rfl hn fun n hn' => ?_) h
        subst hn'; exact Nat.le_succ_of_le hwf
      · rw [stops_of_folds hm hf] at hb; cases hb
  | .not e, hwf => by
    intro bp rest res _ _ hs h
    have ih := main_expr mode hm e hwf
    have hs : stops 10 rest = true := hs
    rw [Expr.print, List.cons_append]
    refine PB.of_prefix (op := .not) rfl rfl (wrap_main ih _ (by decide) (fun hc => ?_) (LP.stop hs (by decide))) h
    have : 10 < e.level := Nat.lt_of_not_le (of_decide_eq_false hc)
    exact ⟨this, stops_mono hs (Nat.le_of_lt this)⟩
  | .bin o l r, hwf => by
    intro bp rest res hlv hbp hs h
    have ihl := main_expr mode hm l hwf.1
    have ihr := main_expr mode hm r hwf.2
    have hlv : bp < o.prec := docLevel_eq_prec o ▸ hlv
    have hs : stops o.prec rest = true := docLevel_eq_prec o ▸ hs
    have h10 : o.prec ≤ 10 := Nat.le_succ_of_le (prec_le_9 o)
    have hR : PB mode o.prec (wrapIf (decide (r.level ≤ docLevel o)) r.print ++ rest) (.ok r rest) := by
      refine wrap_main ihr _ h10 (fun hc => ?_) (LP.stop hs h10)
      have : o.prec < r.level := docLevel_eq_prec o ▸ Nat.lt_of_not_le (of_decide_eq_false hc)
      exact ⟨this, stops_mono hs (Nat.le_of_lt this)⟩
    rw [Expr.print, List.append_assoc, List.cons_append]
    refine wrap_main ihl _ hbp (fun hc => ?_) (LP.bin hlv hR h)
    have : o.prec ≤ l.level := docLevel_eq_prec o ▸ Nat.le_of_not_lt (of_decide_eq_false hc)
    exact ⟨Nat.lt_of_lt_of_le hlv this, decide_eq_true this⟩
  | .member e s, hwf => by
    intro bp rest res _ hbp _ h
    rw [print_member]
    exact postfix_main (main_expr mode hm e hwf) hbp (LP.member hbp h)
  | .index e i, hwf => by
    intro bp rest res _ hbp _ h
    have hi := item_main (main_expr mode hm i hwf.2) (Z := .rbrack :: rest) rfl
    rw [print_index]
    refine postfix_main (main_expr mode hm e hwf.1) hbp (LP.index (r := .rbrack :: rest) hbp ?_ rfl h)
    rw [((print_starts i).append _).skipNl]; exact hi
  | .unwrap e, hwf => by
    intro bp rest res _ hbp _ h
    rw [print_unwrap]
    exact postfix_main (main_expr mode hm e hwf) hbp (LP.unwrap hbp h)
  | .try_ e, hwf => by
    intro bp rest res _ hbp _ h
    rw [print_try]
    exact postfix_main (main_expr mode hm e hwf) hbp (LP.try_ hbp h)
  | .call f as, hwf => by
    intro bp rest res _ hbp _ h
    rw [print_call]
    exact postfix_main (main_expr mode hm f hwf.1) hbp
      (LP.call hbp (main_args mode hm as hwf.2 .rparen rest (.inl rfl)) h)
  | .tuple as, hwf => by
    intro bp rest res _ _ _ h
    rw [print_tuple]
    exact PB.of_term rfl rfl (PT.tuple rfl (main_args mode hm as hwf.1 .rparen rest (.inl rfl)) hwf.2) h
  | .array as, hwf => by
    intro bp rest res _ _ _ h
    rw [print_array]
    exact PB.of_term rfl rfl (PT.array rfl (main_args mode hm as hwf .rbrack rest (.inr rfl))) h

theorem main_args (mode : FoldMode) (hm : mode ≠ .always) : (as : Args) → as.WF → ∀ close rest,
    (close = .rparen ∨ close = .rbrack) → PL mode close (as.print ++ close :: rest) (.ok as rest)
  | .nil, _, close, rest, hc => PL.nil (by rcases hc with rfl | rfl <;> rfl)
  | .cons e .nil, hwf, close, rest, hc => by
    rw [Args.print]; exact PL.item_last (main_expr mode hm e hwf.1) hc rest
  | .cons e (.cons e2 es), hwf, close, rest, hc => by
    rw [Args.print_cons_cons, List.append_assoc, List.cons_append]
    exact PL.item_cons (main_expr mode hm e hwf.1) hc (.inl rfl) (main_args mode hm (.cons e2 es) hwf.2 close rest hc)
end

mutual
def Expr.subst (σ : Atom → Atom) : Expr → Expr
  | .atom a => .atom (σ a)
  | .neg e => .neg (e.subst σ)
  | .not e => .not (e.subst σ)
  | .bin o l r => .bin o (l.subst σ) (r.subst σ)
  | .member e s => .member (e.subst σ) s
  | .index e i => .index (e.subst σ) (i.subst σ)
  | .unwrap e => .unwrap (e.subst σ)
  | .try_ e => .try_ (e.subst σ)
  | .call f as => .call (f.subst σ) (as.subst σ)
  | .tuple as => .tuple (as.subst σ)
  | .array as => .array (as.subst σ)
def Args.subst (σ : Atom → Atom) : Args → Args
  | .nil => .nil
  | .cons e es => .cons (e.subst σ) (es.subst σ)
end

def Tok.subst (σ : Atom → Atom) : Tok → Tok
  | .atom a => .atom (σ a)
  | t => t

theorem level_subst (σ : Atom → Atom) (e : Expr) : (e.subst σ).level = e.level := by
  cases e <;> rfl

theorem map_wrapIf (σ : Atom → Atom) (c : Bool) (ts : List Tok) :
    (wrapIf c ts).map (Tok.subst σ) = wrapIf c (ts.map (Tok.subst σ)) := by
  cases c <;> simp [wrapIf, paren, Tok.subst]

mutual
theorem print_subst (σ : Atom → Atom) (hid : ∀ s, σ (.ident s) = .ident s) :
    (e : Expr) → (e.subst σ).print = e.print.map (Tok.subst σ)
  | .atom a => by simp [Expr.subst, Expr.print, Tok.subst]
  | .neg e => by
    simp [Expr.subst, Expr.print, level_subst, map_wrapIf, Tok.subst, print_subst σ hid e]
  | .not e => by
    simp [Expr.subst, Expr.print, level_subst, map_wrapIf, Tok.subst, print_subst σ hid e]
  | .bin o l r => by
    simp [Expr.subst, Expr.print, level_subst, map_wrapIf, Tok.subst, print_subst σ hid l,
      print_subst σ hid r]
  | .member e s => by
    simp [Expr.subst, Expr.print, level_subst, map_wrapIf, Tok.subst, print_subst σ hid e, hid]
  | .index e i => by
    simp [Expr.subst, Expr.print, level_subst, map_wrapIf, Tok.subst, print_subst σ hid e,
      print_subst σ hid i]
  | .unwrap e => by
    simp [Expr.subst, Expr.print, level_subst, map_wrapIf, Tok.subst, print_subst σ hid e]
  | .try_ e => by
    simp [Expr.subst, Expr.print, level_subst, map_wrapIf, Tok.subst, print_subst σ hid e]
  | .call f as => by
    simp [Expr.subst, Expr.print, level_subst, map_wrapIf, Tok.subst, print_subst σ hid f,
      printArgs_subst σ hid as]
  | .tuple as => by simp [Expr.subst, Expr.print, Tok.subst, printArgs_subst σ hid as]
  | .array as => by simp [Expr.subst, Expr.print, Tok.subst, printArgs_subst σ hid as]
theorem printArgs_subst (σ : Atom → Atom) (hid : ∀ s, σ (.ident s) = .ident s) :
    (as : Args) → (as.subst σ).print = as.print.map (Tok.subst σ)
  | .nil => by simp [Args.subst, Args.print]
  | .cons e .nil => by simp [Args.subst, Args.print, print_subst σ hid e]
  | .cons e (.cons e2 es) => by
    have := printArgs_subst σ hid (.cons e2 es)
    simp only [Args.subst] at this ⊢
    rw [Args.print_cons_cons, Args.print_cons_cons, this, print_subst σ hid e]
    simp [Tok.subst]
end

theorem length_subst (σ : Atom → Atom) : (as : Args) → (as.subst σ).length = as.length
  | .nil => rfl
  | .cons e es => by simp [Args.subst, Args.length, length_subst σ es]

mutual
theorem wf_subst (σ : Atom → Atom) (hr : ∀ a n, σ a = .int n → n ≤ I64_MAX) :
    (e : Expr) → e.WF → (e.subst σ).WF
  | .atom a, _ => by
    rw [Expr.subst]
    cases h : σ a
    case int n => exact hr a n h
    all_goals trivial
  | .neg e, h => wf_subst σ hr e h
  | .not e, h => wf_subst σ hr e h
  | .bin _ l r, h => ⟨wf_subst σ hr l h.1, wf_subst σ hr r h.2⟩
  | .member e _, h => wf_subst σ hr e h
  | .index e i, h => ⟨wf_subst σ hr e h.1, wf_subst σ hr i h.2⟩
  | .unwrap e, h => wf_subst σ hr e h
  | .try_ e, h => wf_subst σ hr e h
  | .call f as, h => ⟨wf_subst σ hr f h.1, wfArgs_subst σ hr as h.2⟩
  | .tuple as, h => ⟨wfArgs_subst σ hr as h.1, length_subst σ as ▸ h.2⟩
  | .array as, h => wfArgs_subst σ hr as h
theorem wfArgs_subst (σ : Atom → Atom) (hr : ∀ a n, σ a = .int n → n ≤ I64_MAX) :
    (as : Args) → as.WF → (as.subst σ).WF
  | .nil, _ => trivial
  | .cons e es, h => ⟨wf_subst σ hr e h.1, wfArgs_subst σ hr es h.2⟩
end

/-- Where the code leaves `-` in front of a numeric literal to `parse_expr_term`, the reference
    parser reads the literal at binding power 6, stops (nothing tighter follows) and negates. -/
theorem folded_le {f bp : Nat} {a : Atom} {toks r : List Tok}
    (ht : skipNl toks = .op .sub :: .atom a :: r) (hnone : prefixOp? .loose (skipNl toks) = none)
    (hn : a.isNum = true) (hs : stops 6 r = true)
    (hL : ∀ lhs toks, Res.Le false (loop .never f bp lhs toks) (loop .loose f bp lhs toks)) :
    Res.Le false (parseBp .never (f+1) bp toks) (parseBp .loose (f+1) bp toks) := by
  rw [parseBp, parseBp, hnone, ht, prefixOp_sub_never]
  simp only [PrefixOp.prec]
  match f with
  | 0 => trivial
  | 1 => trivial
  | k + 2 =>
    have hstop : loop .never (k + 1) 6 (.atom a) r = .ok (.atom a) r := loop_stop hs (by decide)
    cases a with
    | int v =>
      simp only [parseBp, prefixOp?, skipNl, parseTerm]
      by_cases hv : v ≤ I64_MAX
      · simp only [if_pos hv, if_pos (Nat.le_succ_of_le hv), hstop]
        exact hL _ _
      · simp only [if_neg hv]
        exact Bool.noConfusion
    | float s =>
      simp only [parseBp, prefixOp?, skipNl, parseTerm, hstop]
      exact hL _ _
    | _ => cases hn

/-- every `ok` of the reference parser is the code's answer too -/
theorem sim : ∀ f,
    (∀ bp toks, Res.Le false (parseBp .never f bp toks) (parseBp .loose f bp toks)) ∧
    (∀ bp lhs toks, Res.Le false (loop .never f bp lhs toks) (loop .loose f bp lhs toks)) ∧
    (∀ toks, Res.Le false (parseTerm .never f toks) (parseTerm .loose f toks)) ∧
    (∀ c toks, Res.Le false (parseList .never f c toks) (parseList .loose f c toks))
  | 0 => ⟨fun _ _ => trivial, fun _ _ _ => trivial, fun _ => trivial, fun _ _ => trivial⟩
  | f+1 =>
    have ⟨hB, hL, hT, hA⟩ := sim f
    ⟨fun bp toks =>
        (prefixOp_cases .loose (skipNl toks)).elim (fun heq => parseBp_le hB hL hT bp heq.symm)
          fun ⟨_, _, ht, hn, hf, hnone⟩ => folded_le ht hnone hn (stops_of_folds (by decide) hf) (hL bp),
      loop_le hB hL hA, parseTerm_le hA, parseList_le hB hA⟩

/-- The precedence numbers in `parse.rs` are the documented levels (book, "Operator precedence"). -/
theorem C31_doc_table_matches_code :
    (∀ o : BinOp, o.prec = docLevel o) ∧ PrefixOp.neg.prec = docLevelNeg ∧
      PrefixOp.not.prec = docLevelNot ∧
      (∀ p ∈ [precMember, precIndex, precCall, precUnwrap, precTry], docLevelNot < p) :=
  ⟨fun o => (docLevel_eq_prec o).symm, rfl, rfl, by decide⟩

/-- Termination: on every token list, with any treatment of `-<literal>`, the parser model yields a
    tree with the remaining tokens or a diagnostic — `fuelFor` always suffices. -/
theorem C31_parser_total (mode : FoldMode) (toks : List Tok) :
    (∃ e rest, parseExprWith mode toks = .ok e rest) ∨ parseExprWith mode toks = .err :=
  Res.ok_or_err (fuel_suffices mode toks)

/-- The precedence-climbing invariant, for every tree: at any binding power weaker than the tree's
    level, `parse_expr_bp` reads exactly the tokens of `printMinimal t` (the longest prefix whose
    top-level operators all bind tighter) when the next token cannot extend the expression.  Holds for
    the code today (`loose`) and for the reference treatment (`never`). -/
theorem C31_parse_print_prefix (mode : FoldMode) (hm : mode ≠ .always) (t : Expr) (h : t.WF)
    (rest : List Tok) (hs : stops 0 rest = true) :
    parseExprWith mode (printMinimal t ++ rest) = .ok t rest := by
  apply PB.parseExprWith
  unfold printMinimal
  rw [((print_starts t).append rest).skipNl]
  exact item_main (main_expr mode hm t h) hs

/-- **Round trip.** For every expression tree, the parser of `/repo` (`parseExpr`), run on the
    tree's minimally parenthesised print, gives back exactly that tree and consumes every token:
    operators group as the documented table and left associativity say. -/
theorem C31_parse_print (t : Expr) (h : t.WF) : parseExpr (printMinimal t) = .ok t [] := by
  have := C31_parse_print_prefix codeFoldMode (by decide) t h [] rfl
  simpa [parseExpr] using this

/-- The same for the reference parser in which `-<literal>` is *always* an ordinary prefix minus: on
    printed trees the code and the reference agree. -/
theorem C31_code_agrees_with_reference (t : Expr) (h : t.WF) :
    parseExpr (printMinimal t) = parseExprWith .never (printMinimal t) := by
  have := C31_parse_print_prefix .never (by decide) t h [] rfl
  rw [C31_parse_print t h]
  simpa using this.symm

/-- **Literal and variable operands group alike.** Substituting atoms in the token stream of any
    printed tree — e.g. every numeric literal by a variable, `-2 % 3` ↦ `-x % 3`, or the other way
    round — yields the same tree under the same substitution: the grouping does not depend on what
    the operands are.  (`σ` leaves identifiers alone only because member names are identifier
    tokens too; literals must stay in `i64` range.) -/
theorem C31_neg_literal_uniform (t : Expr) (h : t.WF) (σ : Atom → Atom)
    (hid : ∀ s, σ (.ident s) = .ident s) (hr : ∀ a n, σ a = .int n → n ≤ I64_MAX) :
    parseExpr ((printMinimal t).map (Tok.subst σ)) = .ok (t.subst σ) [] := by
  unfold printMinimal
  rw [← print_subst σ hid t]
  exact C31_parse_print _ (wf_subst σ hr t h)

/-- **Arbitrary context.** On *every* token list — any left context, any enclosing binding power,
    parenthesised or not — whenever the reference parser (in which `-` is a prefix operator of level 6
    whatever its operand and whatever encloses it) produces a tree, the parser of `/repo` produces
    exactly the same tree and remainder.  (One direction only: the converse is not claimed — the code
    accepts `-9223372036854775808`, see `C31_neg_literal_examples`, which the reference cannot spell.)
    In particular whether a literal keeps its sign never depends on the operator to its left:
    `9 % -2 * 4` is `9 % (-(2 * 4))` like `9 % -x * 4`. -/
theorem C31_code_extends_reference (toks : List Tok) (e : Expr) (r : List Tok)
    (h : parseExprWith .never toks = .ok e r) : parseExpr toks = .ok e r :=
  ((sim (fuelFor toks)).1 0 (skipNl toks)).ok h

/-- The reference parser's decision "is this `-` a prefix operator?" does not look at atoms at all,
    so in it a literal and a variable operand are indistinguishable in every context. -/
theorem C31_reference_atom_blind (σ : Atom → Atom) (toks : List Tok) :
    prefixOp? .never (toks.map (Tok.subst σ)) =
      (prefixOp? .never toks).map (fun p => (p.1, p.2.map (Tok.subst σ))) := by
  cases toks with
  | nil => rfl
  | cons t r =>
    cases t
    case op o =>
      cases o
      case sub => rw [prefixOp_sub_never r]; exact prefixOp_sub_never _
      all_goals rfl
    all_goals rfl

/-- **Continuation lines.** Line breaks in front of an operand are skipped *before* the parser looks
    for a prefix operator (fix 7fe8312), for every operand position, binding power and mode: an
    operand that starts with `-`, `not`, a negative literal or a parenthesis on the next line is read
    exactly as on the same line.  So `3 +⏎ -2 ^ 2` is `3 + -2 ^ 2`. -/
theorem C31_newlines_at_operand_start (mode : FoldMode) (f bp k : Nat) (toks : List Tok) :
    parseBp mode f bp (List.replicate k .nl ++ toks) = parseBp mode f bp toks := by
  cases f with
  | zero => rfl
  | succ f => rw [parseBp, parseBp, skipNl_nls]

/-- …and never in front of a binary or postfix operator: at a line break the loop of
    `parse_expr_bp` returns what it has, so `let p = 1⏎-x` stays two statements. -/
theorem C31_newline_ends_expression (mode : FoldMode) (f bp : Nat) (lhs : Expr) (rest : List Tok) :
    loop mode (f + 1) bp lhs (.nl :: rest) = .ok lhs (.nl :: rest) := rfl

/-- the regression for D85, and the statement boundary -/
theorem C31_continuation_examples :
    parseExpr [.atom (.int 3), .op .add, .nl, .op .sub, .atom (.int 2), .op .pow, .atom (.int 2)]
      = parseExpr [.atom (.int 3), .op .add, .op .sub, .atom (.int 2), .op .pow, .atom (.int 2)] ∧
    parseExpr [.atom (.int 3), .op .add, .nl, .op .sub, .atom (.ident "x")]
      = .ok (.bin .add (.atom (.int 3)) (.neg (.atom (.ident "x")))) [] ∧
    parseExpr [.atom (.bool true), .op .and, .nl, .nl, .not, .atom (.ident "b")]
      = .ok (.bin .and (.atom (.bool true)) (.not (.atom (.ident "b")))) [] ∧
    parseExpr [.atom (.int 1), .nl, .op .sub, .atom (.ident "x")]
      = .ok (.atom (.int 1)) [.nl, .op .sub, .atom (.ident "x")] := by
  refine ⟨?_, ?_, ?_, ?_⟩ <;> rfl

/-- `-2 % 3` and `-x % 3` (and `^`): both are `-(… % …)`, as the table says (unary minus is on the
    additive level, below `%` and `^`); and the smallest integer can still be written. -/
theorem C31_neg_literal_examples :
    parseExpr [.op .sub, .atom (.int 2), .op .mod, .atom (.int 3)]
      = .ok (.neg (.bin .mod (.atom (.int 2)) (.atom (.int 3)))) [] ∧
    parseExpr [.op .sub, .atom (.ident "x"), .op .mod, .atom (.int 3)]
      = .ok (.neg (.bin .mod (.atom (.ident "x")) (.atom (.int 3)))) [] ∧
    parseExpr [.op .sub, .atom (.int 2), .op .pow, .atom (.int 2)]
      = .ok (.neg (.bin .pow (.atom (.int 2)) (.atom (.int 2)))) [] ∧
    parseExpr [.op .sub, .atom (.int 9223372036854775808)]
      = .ok (.neg (.atom (.int 9223372036854775808))) [] ∧
    parseExpr [.op .sub, .atom (.int 9223372036854775808), .op .add, .atom (.int 1)]
      = .ok (.bin .add (.neg (.atom (.int 9223372036854775808))) (.atom (.int 1))) [] ∧
    parseExpr [.atom (.int 9), .op .mod, .op .sub, .atom (.int 2), .op .mul, .atom (.int 4)]
      = .ok (.bin .mod (.atom (.int 9)) (.neg (.bin .mul (.atom (.int 2)) (.atom (.int 4))))) [] ∧
    parseExpr [.atom (.int 9), .op .mod, .op .sub, .atom (.ident "x"), .op .mul, .atom (.int 4)]
      = .ok (.bin .mod (.atom (.int 9)) (.neg (.bin .mul (.atom (.ident "x")) (.atom (.int 4))))) [] := by
  refine ⟨?_, ?_, ?_, ?_, ?_, ?_, ?_⟩ <;> rfl

/-- What the treatment before the fix of D11 (`always`: the literal swallows the sign before binary
    operators are looked at) does to the same input: it contradicts the table. -/
theorem C31_fold_breaks_table :
    parseExprWith .always [.op .sub, .atom (.int 2), .op .mod, .atom (.int 3)]
      = .ok (.bin .mod (.neg (.atom (.int 2))) (.atom (.int 3))) [] ∧
    parseExprWith .always (printMinimal (.neg (.bin .mod (.atom (.int 2)) (.atom (.int 3)))))
      ≠ .ok (.neg (.bin .mod (.atom (.int 2)) (.atom (.int 3)))) [] := by
  constructor
  · rfl
  · have : parseExprWith .always (printMinimal (.neg (.bin .mod (.atom (.int 2)) (.atom (.int 3)))))
        = .ok (.bin .mod (.neg (.atom (.int 2))) (.atom (.int 3))) [] := rfl
    rw [this]; intro h; cases h

-- non-vacuity: a `WF` tree with a tuple, a call and an integer literal; the round trip computed; the side conditions met
example : (Expr.bin .add (.neg (.atom (.int 2))) (.call (.member (.atom (.ident "a")) "f")
    (.cons (.tuple (.cons (.atom (.int 1)) (.cons (.not (.atom (.bool true))) .nil))) .nil))).WF := by
  simp [Expr.WF, Args.WF, Args.length, I64_MAX]
example : parseExpr (printMinimal (.bin .mul (.bin .add (.atom (.int 1)) (.atom (.int 2)))
    (.neg (.atom (.ident "x"))))) = .ok (.bin .mul (.bin .add (.atom (.int 1)) (.atom (.int 2)))
    (.neg (.atom (.ident "x")))) [] := by rfl
example : stops 0 [Tok.rparen] = true := rfl
example : FoldMode.loose ≠ FoldMode.always := by decide
example : ∃ σ : Atom → Atom, (∀ s, σ (.ident s) = .ident s) ∧ (∀ a n, σ a = .int n → n ≤ I64_MAX) ∧
    σ (.int 2) = .ident "x" :=
  ⟨fun a => match a with | .int _ => .ident "x" | b => b, fun _ => rfl,
    fun a n h => by cases a <;> simp at h, rfl⟩

end Abra.Pratt
