import AbraProofs.Lemmas.SchedChan
import AbraProofs.Lemmas.HeapIso
/-!
# C09 — channels deliver each value once, in order, as a valid independent copy; a read suspends only the reader

Order/once/blocking: theorems about the scheduler model `Abra.Sched` for every thread step function and
every embedder schedule.  Copy validity: theorems about the value/heap model `Abra.Heap` after fix 97d7808 of
defect D23 — `ChannelWrite` takes a snapshot of the written value (a `Message` owned by the queue),
`ChannelRead` rebuilds it on the reader's heap — proved without any hypothesis on what the writer does after
the write; the two witnesses of the old copy-at-read behaviour (`chanReceiveOld`) are labelled historical.
-/
namespace Abra.Sched
variable {T V E : Type}

/-- the queue refinement holds initially -/
theorem C09_chanInv_new (m : T) : ChanInv (Runtime.new m : Runtime T V E) :=
  fun _ => rfl

/-- **Queue refinement, for every schedule.**  Whatever the embedder does (any budgets, any delay in
    servicing host calls), at the end the values written to a channel are exactly the values read from it,
    in the same order, followed by the values still queued. -/
theorem C09_chan_refines_queue {H : Type} (step : T → Action T V E) (host : H → Nat → T → H × T)
    (s : List (Nat × Bool)) (h : H) (r : Runtime T V E) (n : Nat) (hr : ChanInv r) :
    ChanInv (drive step host s h r n).2.1 :=
  drive_ct_inv step host (fun chans tr => ∀ c, writesOf c tr = readsOf c tr ++ getQ chans c)
    (fun r th hp => exec_chanInv step r th hp) s h r n hr

/-- the same for a single `run_n_steps` call -/
theorem C09_chan_refines_queue_runN (step : T → Action T V E) (b : Nat) (r : Runtime T V E) (hr : ChanInv r) :
    ChanInv (runN step b r).rt :=
  runN_ct_inv step (fun chans tr => ∀ c, writesOf c tr = readsOf c tr ++ getQ chans c)
    (fun r th hp => exec_chanInv step r th hp) b r hr

/-- **FIFO, each value once.**  For every program, every schedule and every channel, the sequence of
    values popped from the channel is a prefix of the sequence of values pushed to it (so the k-th read
    returns the k-th written value: in order, none lost before it, none duplicated). -/
theorem C09_chan_fifo {H : Type} (step : T → Action T V E) (host : H → Nat → T → H × T)
    (s : List (Nat × Bool)) (h : H) (main : T) (c : Nat) :
    readsOf c (drive step host s h (Runtime.new main : Runtime T V E) 0).2.1.trace <+:
      writesOf c (drive step host s h (Runtime.new main : Runtime T V E) 0).2.1.trace := by
  have := C09_chan_refines_queue step host s h _ 0 (C09_chanInv_new (V := V) (E := E) main) c
  exact ⟨_, this.symm⟩

/-- **Counting** (all that can be said for `channel<void>`, whose values carry no information): at every
    moment at most as many reads have succeeded as writes were made — a read never invents a value. -/
theorem C09_chan_count {H : Type} (step : T → Action T V E) (host : H → Nat → T → H × T)
    (s : List (Nat × Bool)) (h : H) (main : T) (c : Nat) :
    (readsOf c (drive step host s h (Runtime.new main : Runtime T V E) 0).2.1.trace).length ≤
      (writesOf c (drive step host s h (Runtime.new main : Runtime T V E) 0).2.1.trace).length :=
  (C09_chan_fifo step host s h main c).length_le

/-- **A blocked read changes nothing but the reader's step count.**  Executing `ChannelRead` on an empty
    queue leaves the reading thread exactly as it was (it will retry the same instruction), leaves every
    channel, the new-thread queue and the id counter as they were, and only logs the attempt. -/
theorem C09_read_blocks_only_reader (step : T → Action T V E) (r : Runtime T V E) (th : Thread T E)
    (c : Nat) (k : V → T) (hs : step th.st = .read c k) (hq : getQ r.chans c = []) :
    exec step r th = ({ r with trace := r.trace ++ [⟨th.id, .readBlocked c⟩] }, th) := by
  unfold exec; rw [hs]; simp only [hq]

/-- … and the scheduler keeps going: the turn of a lone blocked reader at the head of the queue consumes
    one step, rotates it to the back, and every other thread is untouched and gets its turn next. -/
theorem C09_blocked_reader_turn (step : T → Action T V E) (r : Runtime T V E) (th : Thread T E)
    (rest : List (Thread T E)) (c : Nat) (k : V → T) (s : Nat)
    (hq : r.runQueue = th :: rest) (hn : r.newThreads = []) (hc : th.canRun = true)
    (hrest : ∀ t ∈ rest, t.gone = false)
    (hs : step th.st = .read c k) (he : getQ r.chans c = []) :
    loop step 1 s r =
      ({ r with runQueue := rest ++ [th], trace := r.trace ++ [⟨th.id, .readBlocked c⟩] }, false, s + 1) := by
  have hd : NoDone r := by
    refine ⟨?_, by simp [hn]⟩
    intro t ht; rw [hq] at ht
    simp only [List.mem_cons] at ht
    rcases ht with rfl | ht
    · exact canRun_done hc
    · exact hrest t ht
  have hnc : (!th.canRun) = false := by simp [hc]
  rw [loop_succ step 0 s r hn hd]
  simp only [hq, List.dropWhile, hnc, List.takeWhile, List.append_nil]
  have hx := C09_read_blocks_only_reader step { r with runQueue := rest } th c k hs (by simpa using he)
  simp only [hx, ftt_notDone _ _ (canRun_done hc), Bool.false_eq_true, if_false]
  rw [drain_nil _ (by simpa using hn)]
  simp [loop]

example : ∃ (step : Nat → Action Nat Nat Nat) (r : Runtime Nat Nat Nat) (th : Thread Nat Nat),
    step th.st = .read 0 (fun v => v) ∧ getQ r.chans 0 = [] :=
  ⟨fun _ => .read 0 (fun v => v), Runtime.new 0, { id := 0, isMain := true, st := 0 }, rfl, rfl⟩

end Abra.Sched

namespace Abra.Heap

/-- **Scalars.**  For scalar payloads (int, float, bool) the received value is the written value: nothing is
    dereferenced, nothing allocated. -/
theorem C09_chan_copy_scalar (f : Nat) (Hw Hr : Heaps) (t : Nat) (v : Val)
    (hv : (∃ n, v = .int n) ∨ (∃ b, v = .float b) ∨ (∃ b, v = .bool b)) :
    chanReceive (f + 1) Hw Hr t v = some (v, Hr) := by
  rcases hv with ⟨n, rfl⟩ | ⟨b, rfl⟩ | ⟨b, rfl⟩ <;> rfl

/-- **A read returns the value as it was when written — isolation at write time.**  `Hw` = the heaps when the
    value was written, `Hr` = the heaps when it is read: ANY heaps — the writer may have stored into the written
    objects, collected them, or be gone altogether; no hypothesis relates `Hr` to `Hw`.  What the reader gets is
    an isomorphic copy of the graph AS WRITTEN: the result is the image of the written value under a map `M`,
    every copied object holds the image of the object of `Hw` it copies, `M` is injective (sharing and cycles
    kept exactly), everything reachable from the written value was copied and nothing else is reachable from the
    result; every object of the result was allocated by this read in the reader's heap (it did not exist
    before), and no existing object of `Hr` is changed. -/
theorem C09_chan_snapshot_at_write (f : Nat) (Hw Hr : Heaps) (t : Nat) (v v' : Val) (H' : Heaps)
    (hrecv : chanReceive f Hw Hr t v = some (v', H')) :
    ∃ M, mapVal? M v = some v' ∧ Iso Hw H' t M ∧ Ext Hr H' ∧
      (∀ w, ReachV Hw v w → ∃ w', mapVal? M w = some w') ∧
      (∀ w', ReachV H' v' w' → ∃ w, ReachV Hw v w ∧ mapVal? M w = some w') ∧
      (∀ w' x, ReachV H' v' w' → ptr? w' = some x → lookup Hr x = none ∧ x.tid = t) := by
  obtain ⟨M, p, hv⟩ := copy_post hrecv
  have iso := iso_of_post p
  exact ⟨M, hv, iso, p.ext, iso_cover iso hv, iso_onto iso hv, post_fresh p hv⟩

/-- **A channel inside a message is the SAME queue.**  If the written graph holds a handle on queue `q` (at any
    depth: directly, in a struct, an array, a variant), the received copy holds — at the corresponding place — a
    fresh handle object of the reader on that very queue `q`, whatever became of the writer and of every other
    handle: the heaps `Hr` at read time are arbitrary (`dropThread`, collection).  A queue is not an object of any
    thread's heap — in the runtime model it is an entry of `Runtime.chans`, which no thread's end touches — so the
    values pending in it survive the hand-over: `C09_chan_refines_queue` (written = read ++ still queued, for every
    schedule) applies to the inner queue like to any other. -/
theorem C09_chan_in_message_same_queue (f : Nat) (Hw Hr : Heaps) (t : Nat) (v v' : Val) (H' : Heaps)
    (hrecv : chanReceive f Hw Hr t v = some (v', H'))
    (w : Val) (a : Addr) (q : Nat) (hw : ReachV Hw v w) (ha : ptr? w = some a) (hq : lookup Hw a = some (.chan q)) :
    ∃ M c a', mapVal? M v = some v' ∧ mapVal? M w = some c ∧ ptr? c = some a' ∧ a'.tid = t ∧
      lookup Hr a' = none ∧ lookup H' a' = some (.chan q) := by
  obtain ⟨M, p, hv⟩ := copy_post hrecv
  obtain ⟨c, hc⟩ := iso_cover (iso_of_post p) hv w hw
  have hc' := (mapVal_ptr ha).symm.trans hc
  obtain ⟨hd, hf⟩ := p.new a c hc' rfl
  obtain ⟨ks, a', d2, hks, d4, _⟩ := hd.at hq
  -- a handle has no slots: `ks = []`
  cases hks
  have e := hf a' d2
  exact ⟨M, c, a', hv, hc, d2, e.1, e.2, d4⟩

/-- the queues of a runtime are not owned by threads: the end of a thread's turn (its drop included) leaves every
    queue as it is -/
theorem C09_queue_outlives_threads {T V E : Type} (r : Abra.Sched.Runtime T V E) (th : Abra.Sched.Thread T E) :
    (Abra.Sched.finishThreadTurn r th).1.chans = r.chans := Abra.Sched.ftt_chans r th

/-- … in particular a value that rendered as `tr` when it was written is received rendering as `tr`, whatever
    happened to the writer's heap in between. -/
theorem C09_chan_copy_valid (f g : Nat) (Hw Hr : Heaps) (t : Nat) (v v' : Val) (H' : Heaps) (tr : Tree)
    (hwr : render g Hw v = some tr) (hrecv : chanReceive f Hw Hr t v = some (v', H')) :
    render g H' v' = some tr := by
  obtain ⟨M, p, hv⟩ := copy_post hrecv
  exact iso_render (iso_of_post p) g v v' tr hv hwr

/-- the read always succeeds on a well-formed written graph, with fuel = number of written objects + 1 -/
theorem C09_chan_receive_total (Hw Hr : Heaps) (t : Nat) (v : Val) (L : List Addr) (hwf : WF Hw v)
    (hL : ∀ w a, ReachV Hw v w → ptr? w = some a → a ∈ L) :
    ∃ r, chanReceive (L.length + 1) Hw Hr t v = some r := by
  obtain ⟨r, hr⟩ := deepCopyM_total Hw t (L.length + 1) Hr [] v L
    (fun w a hw ha => ⟨hwf w a hw ha, fun _ => hL w a hw ha⟩) (Nat.lt_succ_self _)
  exact ⟨(r.1, r.2.1), by simp [chanReceive, hr]⟩

/-- heaps in which thread 1 owns one struct `{ v: 1 }` -/
def wH : Heaps := fun t => if t = 1 then [.struct [.int 1]] else []
def wV : Val := .struct ⟨1, 0⟩

/-- the two situations of the former defect D23, now harmless: the writer stores into the written struct after
    the write (`c.write(b); b.v = 2; c.read().v` is 1), or the writer is gone before the read -/
example :
    (∃ H', chanReceive 3 wH (setSlot wH ⟨1, 0⟩ 0 (.int 2)) 0 wV = some (.struct ⟨0, 0⟩, H') ∧
      lookup H' ⟨0, 0⟩ = some (.struct [.int 1])) ∧
    (∃ H', chanReceive 3 wH (dropThread wH 1) 0 wV = some (.struct ⟨0, 0⟩, H') ∧
      lookup H' ⟨0, 0⟩ = some (.struct [.int 1])) := ⟨⟨_, rfl, rfl⟩, ⟨_, rfl, rfl⟩⟩

/-- HISTORICAL (before fix 97d7808, defect D23): copying at read time, the reader saw `{ v: 2 }` although
    `{ v: 1 }` was written … -/
theorem C09_prerepair_mutated_witness :
    ∃ v' H', chanReceiveOld 3 (setSlot wH ⟨1, 0⟩ 0 (.int 2)) 0 wV = some (v', H') ∧
      v' = .struct ⟨0, 0⟩ ∧ lookup H' ⟨0, 0⟩ = some (.struct [.int 2]) ∧
      lookup wH ⟨1, 0⟩ = some (.struct [.int 1]) :=
  ⟨_, _, rfl, rfl, rfl, rfl⟩

/-- … and HISTORICAL: with the writer finished before the read the pointer dangled (a fault in the model, a
    read of freed memory in the code). -/
theorem C09_prerepair_reclaimed_witness :
    chanReceiveOld 3 (dropThread wH 1) 0 wV = none ∧ ∃ p, chanReceiveOld 3 wH 0 wV = some p :=
  ⟨rfl, _, rfl⟩

end Abra.Heap
