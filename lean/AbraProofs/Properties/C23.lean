import AbraModel.TryLower
import AbraProofs.Lemmas.VMCore
/-!
# C23 — `?` and `!` follow option/result semantics

* `C23_prelude_*` — the prelude's `branch` / `from_residual` / `unwrap` (transliterated, `Abra.TryLower`)
  evaluate to the documented variants, for every payload, state and sufficient fuel.
* `C23_try_follows_prelude`, `C23_unwrap_follows_prelude` — the reference interpreter's `e?` / `e!` are what
  the lowering composes out of those prelude functions.
* `C23_return_restores`, `C23_return_void_restores` — `Return` truncates the operand stack to the caller's
  pre-call stack plus the result, whatever temporaries the callee had pushed.
* `C23_try_lowering_continue`, `C23_try_lowering_break` — the instruction sequence emitted for `e?` on the VM core:
  with `branch`'s result on top it either continues with the payload, or calls `from_residual` and returns its
  result from the enclosing function with the caller's stack restored — from any operand position (`X`).
* `C23_try_lowering_continue_void` — the same continuation when the output type is void: the nil payload is popped.
* `C23_unwrap_lowering` — `e!` is one call: its result replaces the argument on the caller's stack;
  `C23_panic_instr` — the `Panic` instruction the failing `unwrap` ends in stops with the Panic error kind.
* `C23_try_accepted_iff`, `C23_try_residual_in_family`, `C23_try_plain_has_no_meaning` — the static rule: `?` is
  accepted exactly between equal families, which is where its early return is a value of the function's type.
-/
namespace Abra.TryLower
open Abra.Sem Abra.VM

/-! ### the prelude functions -/

theorem C23_prelude_branch_option_some (k : Nat) (x : Sem.Val) (s : St) :
    callPrelude (k + 8) branchOption (.variant "some" [x]) s = .ok (.variant "Continue" [x]) s := by
  rfl

theorem C23_prelude_branch_option_none (k : Nat) (s : St) :
    callPrelude (k + 8) branchOption (.variant "none" []) s = .ok (.variant "Break" [.unit]) s := by
  rfl

theorem C23_prelude_from_residual_option (k : Nat) (r : Sem.Val) (s : St) :
    callPrelude (k + 8) fromResidualOption r s = .ok (.variant "none" []) s := by
  rfl

theorem C23_prelude_branch_result_ok (k : Nat) (x : Sem.Val) (s : St) :
    callPrelude (k + 8) branchResult (.variant "ok" [x]) s = .ok (.variant "Continue" [x]) s := by
  rfl

theorem C23_prelude_branch_result_err (k : Nat) (e : Sem.Val) (s : St) :
    callPrelude (k + 8) branchResult (.variant "err" [e]) s = .ok (.variant "Break" [e]) s := by
  rfl

theorem C23_prelude_from_residual_result (k : Nat) (r : Sem.Val) (s : St) :
    callPrelude (k + 8) fromResidualResult r s = .ok (.variant "err" [r]) s := by
  rfl

theorem C23_prelude_unwrap_option_some (k : Nat) (x : Sem.Val) (s : St) :
    callPrelude (k + 8) unwrapOption (.variant "some" [x]) s = .ok x s := by
  rfl

theorem C23_prelude_unwrap_option_none (k : Nat) (s : St) :
    callPrelude (k + 8) unwrapOption (.variant "none" []) s = .sig (.err .panic) s := by
  rfl

theorem C23_prelude_unwrap_result_ok (k : Nat) (x : Sem.Val) (s : St) :
    callPrelude (k + 8) unwrapResult (.variant "ok" [x]) s = .ok x s := by
  rfl

theorem C23_prelude_unwrap_result_err (k : Nat) (e : Sem.Val) (s : St) :
    callPrelude (k + 8) unwrapResult (.variant "err" [e]) s = .sig (.err .panic) s := by
  rfl

inductive IsOption : Sem.Val → Prop where
  | some (x : Sem.Val) : IsOption (.variant "some" [x])
  | none : IsOption (.variant "none" [])

inductive IsResult : Sem.Val → Prop where
  | ok (x : Sem.Val) : IsResult (.variant "ok" [x])
  | err (e : Sem.Val) : IsResult (.variant "err" [e])

/-- `e?` in the reference interpreter = `branch`, then payload or early return of `from_residual`. -/
theorem C23_try_follows_prelude (k : Nat) (v : Sem.Val) (s : St) :
    (IsOption v → tryVal v s = tryViaPrelude (k + 8) branchOption fromResidualOption v s) ∧
    (IsResult v → tryVal v s = tryViaPrelude (k + 8) branchResult fromResidualResult v s) := by
  constructor <;> intro h <;> cases h
  · simp only [tryViaPrelude, C23_prelude_branch_option_some, Res.bind]; rfl
  · simp only [tryViaPrelude, C23_prelude_branch_option_none, C23_prelude_from_residual_option, Res.bind]; rfl
  · simp only [tryViaPrelude, C23_prelude_branch_result_ok, Res.bind]; rfl
  · simp only [tryViaPrelude, C23_prelude_branch_result_err, C23_prelude_from_residual_result, Res.bind]; rfl

/-- `e!` in the reference interpreter = the prelude's `unwrap`. -/
theorem C23_unwrap_follows_prelude (k : Nat) (v : Sem.Val) (s : St) :
    (IsOption v → unwrapVal v s = callPrelude (k + 8) unwrapOption v s) ∧
    (IsResult v → unwrapVal v s = callPrelude (k + 8) unwrapResult v s) := by
  constructor <;> intro h <;> cases h
  · exact (C23_prelude_unwrap_option_some k _ s).symm
  · exact (C23_prelude_unwrap_option_none k s).symm
  · exact (C23_prelude_unwrap_result_ok k _ s).symm
  · exact (C23_prelude_unwrap_result_err k _ s).symm

/-! ### the VM side -/

theorem set_take_append (S R : List VM.Val) (v : VM.Val) (hR : R ≠ []) :
    ((S ++ R).set S.length v).take (S.length + 1) = S ++ [v] := by
  induction S with
  | nil =>
    cases R with
    | nil => exact absurd rfl hR
    | cons r rs => simp
  | cons a S ih => simpa using ih

/-- **`Return` restores the caller's operand stack.**  The callee was entered with `args` on top of the
    caller's stack `S`; whatever it pushed since (`X`: its locals and any pending temporaries), `Return`
    leaves exactly `S ++ [v]`, in the caller's frame. -/
theorem C23_return_restores (P : Program) (pc : Nat) (S args X : List VM.Val) (v : VM.Val) (fr : Frame)
    (rest : List Frame) (heap : List VM.Obj) (out : List String)
    (hi : P[pc]? = some (.ret args.length)) (hn : fr.nargs = args.length) :
    VM.step P { pc := pc, stack := S ++ args ++ X ++ [v], base := S.length + args.length, frames := fr :: rest,
                heap := heap, out := out }
      = .ok { pc := fr.pc, stack := S ++ [v], base := fr.base, frames := rest, heap := heap, out := out } := by
  have hlen : S.length < (S ++ args ++ X ++ [v]).length := by simp; omega
  have hset := set_take_append S (args ++ X ++ [v]) v (by simp)
  simp only [List.append_assoc] at hset hlen ⊢
  simp only [VM.step, hi, pop?_append_append_snoc]
  simp only [Nat.add_sub_cancel, Nat.le_add_left, hlen, and_self, if_true, hn, hset,
    show args.length ≤ S.length + args.length + 1 from by omega]

/-- `ReturnVoid`: the caller's stack without the arguments. -/
theorem C23_return_void_restores (P : Program) (pc : Nat) (S args X : List VM.Val) (fr : Frame)
    (rest : List Frame) (heap : List VM.Obj) (out : List String)
    (hi : P[pc]? = some .retVoid) (hn : fr.nargs = args.length) :
    VM.step P { pc := pc, stack := S ++ args ++ X, base := S.length + args.length, frames := fr :: rest,
                heap := heap, out := out }
      = .ok { pc := fr.pc, stack := S, base := fr.base, frames := rest, heap := heap, out := out } := by
  simp only [VM.step, hi, hn, Nat.le_add_left, if_true, Nat.add_sub_cancel, List.append_assoc, List.take_left']

/-- the code of `tryCode` sits in the program -/
def TryAt (P : Program) (pos residualArgs frAddr retNargs : Nat) (outVoid : Bool) : Prop :=
  ∀ i (h : i < (tryCode pos residualArgs frAddr retNargs outVoid).length),
    P[pos + i]? = some ((tryCode pos residualArgs frAddr retNargs outVoid)[i])

/-- the six instructions every `tryCode` starts with -/
theorem TryAt.instrs {P : Program} {pos ra fa rn : Nat} {ov : Bool} (h : TryAt P pos ra fa rn ov) :
    P[pos]? = some .deconstructVariant ∧ P[pos + 1]? = some (.pushInt 0) ∧
    P[pos + 2]? = some (.intCmp .eq .top .top .top) ∧ P[pos + 3]? = some (.jumpIfFalse (pos + 6)) ∧
    P[pos + 4]? = some (.call ra fa) ∧ P[pos + 5]? = some (.ret rn) :=
  have hl : ∀ i, i < 6 → i < (tryCode pos ra fa rn ov).length := fun i hi => by
    simp only [tryCode, List.length_append, List.length_cons, List.length_nil]; omega
  ⟨h 0 (hl 0 (by decide)), h 1 (hl 1 (by decide)), h 2 (hl 2 (by decide)), h 3 (hl 3 (by decide)),
    h 4 (hl 4 (by decide)), h 5 (hl 5 (by decide))⟩

/-- the first four instructions: the variant is taken apart and its tag compared with `Break` -/
theorem try_prefix {P : Program} {pos ra fa rn : Nat} {ov : Bool} (h : TryAt P pos ra fa rn ov)
    (S : List VM.Val) (a tag : Nat) (payload : VM.Val) (base : Nat) (frames : List Frame) (heap : List VM.Obj)
    (out : List String) (hobj : heap[a]? = some (.variant tag payload)) :
    Steps P { pc := pos, stack := S ++ [.variant a], base := base, frames := frames, heap := heap, out := out }
      { pc := if tag = 0 then pos + 4 else pos + 6, stack := S ++ [payload], base := base, frames := frames,
        heap := heap, out := out } := by
  obtain ⟨h0, h1, h2, h3, -, -⟩ := h.instrs
  -- the operands are written as they are pushed (`_ ++ [x] ++ [y]`), the form in which `pop?_snoc` takes them off
  have s0 : VM.step P { pc := pos, stack := S ++ [.variant a], base := base, frames := frames, heap := heap, out := out }
      = .ok { pc := pos + 1, stack := S ++ [payload] ++ [.int tag], base := base, frames := frames, heap := heap, out := out } := by
    simp only [VM.step, h0, pop?_snoc, hobj, List.append_assoc, List.cons_append, List.nil_append]
  have s1 : VM.step P { pc := pos + 1, stack := S ++ [payload] ++ [.int tag], base := base, frames := frames, heap := heap, out := out }
      = .ok { pc := pos + 2, stack := S ++ [payload] ++ [.int tag] ++ [.int 0], base := base, frames := frames, heap := heap, out := out } := by
    simp only [VM.step, h1]
  have s2 : VM.step P { pc := pos + 2, stack := S ++ [payload] ++ [.int tag] ++ [.int 0], base := base, frames := frames, heap := heap, out := out }
      = .ok { pc := pos + 3, stack := S ++ [payload] ++ [.bool (decide (tag = 0))], base := base, frames := frames, heap := heap, out := out } := by
    simp only [VM.step, h2, loadReg, pop?_snoc, getInt, storeReg, CmpOp.eval, Int.natCast_eq_zero]
  have s3 : VM.step P { pc := pos + 3, stack := S ++ [payload] ++ [.bool (decide (tag = 0))], base := base, frames := frames, heap := heap, out := out }
      = .ok { pc := if tag = 0 then pos + 4 else pos + 6, stack := S ++ [payload], base := base, frames := frames, heap := heap, out := out } := by
    simp only [VM.step, h3, pop?_snoc, getBool, decide_eq_true_eq]
  exact (((Steps.single s0).snoc s1).snoc s2).snoc s3

/-- **`e?` on `Continue`** (tag ≠ 0, i.e. `some`/`ok`): execution continues after the sequence with the payload
    in place of the `ControlFlow` value; the enclosing function does not return. -/
theorem C23_try_lowering_continue {P : Program} {pos ra fa rn : Nat} (h : TryAt P pos ra fa rn false)
    (S : List VM.Val) (a tag : Nat) (payload : VM.Val) (base : Nat) (frames : List Frame) (heap : List VM.Obj)
    (out : List String) (hobj : heap[a]? = some (.variant tag payload)) (ht : tag ≠ 0) :
    Steps P { pc := pos, stack := S ++ [.variant a], base := base, frames := frames, heap := heap, out := out }
      { pc := pos + 6, stack := S ++ [payload], base := base, frames := frames, heap := heap, out := out } := by
  have := try_prefix h S a tag payload base frames heap out hobj
  simpa [ht] using this

/-- the same when the output type is void: the nil payload is popped -/
theorem C23_try_lowering_continue_void {P : Program} {pos ra fa rn : Nat} (h : TryAt P pos ra fa rn true)
    (S : List VM.Val) (a tag : Nat) (payload : VM.Val) (base : Nat) (frames : List Frame) (heap : List VM.Obj)
    (out : List String) (hobj : heap[a]? = some (.variant tag payload)) (ht : tag ≠ 0) :
    Steps P { pc := pos, stack := S ++ [.variant a], base := base, frames := frames, heap := heap, out := out }
      { pc := pos + 7, stack := S, base := base, frames := frames, heap := heap, out := out } := by
  have hp := try_prefix h S a tag payload base frames heap out hobj
  simp only [ht, if_false] at hp
  have h6 := h 6 (by simp [tryCode])
  simp only [tryCode, if_true, List.cons_append, List.nil_append, List.getElem_cons_succ, List.getElem_cons_zero] at h6
  refine hp.snoc ?_
  simp only [VM.step, h6, pop?_snoc]

/-- **`e?` on `Break`** (tag 0, i.e. `none`/`err`), from any operand position: the enclosing function was
    entered with `args` above the caller's stack `S0` and has pushed `X` (locals and pending temporaries) before
    the `ControlFlow` value.  If the call to `from_residual` made by the sequence comes back with `r'`
    (hypothesis `hfr`: the callee, started by `Call residualArgs`, returns to the instruction after the call with
    its arguments replaced by `r'`), then the enclosing function returns: the caller continues at its return
    address with exactly `S0 ++ [r']` — none of `X`, the residual or the rest of the body survives. -/
theorem C23_try_lowering_break {P : Program} {pos ra fa : Nat} {ov : Bool} (S0 args X : List VM.Val)
    (h : TryAt P pos ra fa args.length ov)
    (a : Nat) (payload r' : VM.Val) (fr : Frame) (rest : List Frame) (heap heap' : List VM.Obj) (out : List String)
    (hobj : heap[a]? = some (.variant 0 payload)) (hn : fr.nargs = args.length) (hra : ra ≤ 1)
    (hfr : Steps P
      { pc := fa, stack := S0 ++ args ++ X ++ [payload], base := (S0 ++ args ++ X ++ [payload]).length,
        frames := ({ pc := pos + 5, base := S0.length + args.length, nargs := ra } : Frame) :: fr :: rest, heap := heap, out := out }
      { pc := pos + 5, stack := (S0 ++ args ++ X ++ [payload]).take ((S0 ++ args ++ X ++ [payload]).length - ra) ++ [r'],
        base := S0.length + args.length, frames := fr :: rest, heap := heap', out := out }) :
    Steps P
      { pc := pos, stack := S0 ++ args ++ X ++ [.variant a], base := S0.length + args.length, frames := fr :: rest,
        heap := heap, out := out }
      { pc := fr.pc, stack := S0 ++ [r'], base := fr.base, frames := rest, heap := heap', out := out } := by
  have hp := try_prefix h (S0 ++ args ++ X) a 0 payload (S0.length + args.length) (fr :: rest) heap out hobj
  simp only [if_true] at hp
  obtain ⟨-, -, -, -, h4, h5⟩ := h.instrs
  have scall : VM.step P (⟨pos + 4, S0 ++ args ++ X ++ [payload], S0.length + args.length, fr :: rest, heap, out⟩ : State)
      = .ok (⟨fa, S0 ++ args ++ X ++ [payload], (S0 ++ args ++ X ++ [payload]).length,
          (⟨pos + 5, S0.length + args.length, ra⟩ : Frame) :: fr :: rest, heap, out⟩ : State) := by
    simp only [VM.step, h4]
  -- what is below `r'` when `from_residual` is back: `S0 ++ args ++ X'`
  obtain ⟨X', hX'⟩ : ∃ X', (S0 ++ args ++ X ++ [payload]).take ((S0 ++ args ++ X ++ [payload]).length - ra)
      = S0 ++ args ++ X' := by
    rcases Nat.le_one_iff_eq_zero_or_eq_one.mp hra with rfl | rfl
    · exact ⟨X ++ [payload], by rw [Nat.sub_zero, List.take_length, List.append_assoc _ X]⟩
    · exact ⟨X, by rw [← List.dropLast_eq_take, List.dropLast_concat]⟩
  rw [hX'] at hfr
  have sret := C23_return_restores P (pos + 5) S0 args X' r' fr rest heap' out h5 hn
  exact ((hp.snoc scall).trans hfr).snoc sret

/-- **`e!`**: the lowering is a single `Call 1 unwrap`.  IF the callee, started in its own frame on the argument,
    comes back (hypothesis `hret`) with the payload in place of the argument, then so does the caller's `Call`.  The
    failing case is not part of this statement: `C23_prelude_unwrap_*` say when the prelude function panics and
    `C23_panic_instr` what the `Panic` instruction does. -/
theorem C23_unwrap_lowering {P : Program} {pc ua : Nat} (hcall : P[pc]? = some (.call 1 ua))
    (S : List VM.Val) (v payload : VM.Val) (base : Nat) (frames : List Frame) (heap heap' : List VM.Obj)
    (out : List String)
    (hret : Steps P
      { pc := ua, stack := S ++ [v], base := (S ++ [v]).length, frames := ({ pc := pc + 1, base := base, nargs := 1 } : Frame) :: frames,
        heap := heap, out := out }
      { pc := pc + 1, stack := S ++ [payload], base := base, frames := frames, heap := heap', out := out }) :
    Steps P { pc := pc, stack := S ++ [v], base := base, frames := frames, heap := heap, out := out }
      { pc := pc + 1, stack := S ++ [payload], base := base, frames := frames, heap := heap', out := out } := by
  refine .cons ?_ hret
  simp only [VM.step, hcall]

/-- the `Panic` instruction stops with the Panic error kind -/
theorem C23_panic_instr {P : Program} {pc : Nat} (hi : P[pc]? = some .panic) (S : List VM.Val) (a : Nat) (msg : String)
    (base : Nat) (frames : List Frame) (heap : List VM.Obj) (out : List String) (hobj : heap[a]? = some (.str msg)) :
    ∃ s', VM.step P { pc := pc, stack := S ++ [.str a], base := base, frames := frames, heap := heap, out := out }
      = .error .panic s' := by
  simp only [VM.step, hi, pop?_snoc, hobj]
  exact ⟨_, rfl⟩

/-! ### non-vacuity -/

/-- a program holding the try sequence for a one-argument function whose `from_residual` is
    `result.err`-like: `ConstructVariant 1; Return 1` -/
def demoProg : Program :=
  tryCode 0 1 6 1 false ++ [.constructVariant 1, .ret 1]

example : TryAt demoProg 0 1 6 1 false := by
  unfold TryAt
  decide

/-- the whole early return, executed: caller stack `[7]`, argument `5`, a pending temporary `9`,
    `Break(42)` on top → the caller resumes with `[7, err(42)]` -/
example :
    VM.run demoProg 8
      { pc := 0, stack := [.int 7, .int 5, .int 9, .variant 0], base := 2,
        frames := [{ pc := 100, base := 0, nargs := 1 }], heap := [.variant 0 (.int 42)], out := [] }
      = .outOfFuel
        { pc := 100, stack := [.int 7, .variant 1], base := 0, frames := [],
          heap := [.variant 0 (.int 42), .variant 1 (.int 42)], out := [] } := by decide +kernel

example : (IsOption (.variant "some" [.int 3])) ∧ tryVal (.variant "none" []) St.init = .sig (.ret (.variant "none" [])) St.init :=
  ⟨.some _, rfl⟩

/-! ### the static rule and why it is the right one -/

/-- **`?` is accepted exactly between equal families**: both options, or both results with the same error type. -/
theorem C23_try_accepted_iff (o r : TryFam) :
    tryAccepted o r = true ↔ (o = .option ∧ r = .option) ∨ ∃ e, o = .result e ∧ r = .result e := by
  cases o with
  | option => cases r <;> simp [tryAccepted]
  | plain => cases r <;> simp [tryAccepted]
  | result e =>
    cases r with
    | option => simp [tryAccepted]
    | plain => simp [tryAccepted]
    | result e' =>
      simp only [tryAccepted, beq_iff_eq, reduceCtorEq, false_and, false_or, TryFam.result.injEq]
      constructor
      · rintro rfl; exact ⟨e, rfl, rfl⟩
      · rintro ⟨x, rfl, rfl⟩; rfl

theorem tryVal_plain {v : Sem.Val} (hv : InFam .plain v) (s : St) : tryVal v s = .stuck "try" := by
  obtain ⟨hnone, hsome, hok, herr⟩ := hv
  unfold tryVal
  split
  · exact absurd rfl (hsome _)
  · exact absurd rfl hnone
  · exact absurd rfl (hok _)
  · exact absurd rfl (herr _)
  · rfl

/-- **What `?` returns early belongs to the operand's family** (and the state is untouched): `none` for an option,
    `err(x)` with the operand's own payload for a result.  So the enclosing function has to return that family —
    the accepted combinations of `C23_try_accepted_iff` are exactly those where the early return is well typed. -/
theorem C23_try_residual_in_family (fam : TryFam) (v w : Sem.Val) (s s' : St)
    (hv : InFam fam v) (h : tryVal v s = .sig (.ret w) s') : InFam fam w ∧ s' = s ∧ fam ≠ .plain := by
  cases fam with
  | option =>
    rcases hv with rfl | ⟨x, rfl⟩ <;> cases h
    exact ⟨.inl rfl, rfl, nofun⟩
  | result e =>
    rcases hv with ⟨x, rfl⟩ | ⟨x, rfl⟩ <;> cases h
    exact ⟨.inr ⟨x, rfl⟩, rfl, nofun⟩
  | plain => rw [tryVal_plain hv] at h; cases h

/-- on a value that is neither an option nor a result `?` has no meaning at all (the reference evaluation is stuck):
    the checker has to reject such an operand, and it does (`tryAccepted .plain _ = false`) -/
theorem C23_try_plain_has_no_meaning (v : Sem.Val) (s : St) (hv : InFam .plain v) :
    (∃ why, tryVal v s = .stuck why) ∧ ∀ r, tryAccepted .plain r = false :=
  ⟨⟨_, tryVal_plain hv s⟩, fun r => by cases r <;> rfl⟩

/-! non-vacuity of `InFam` -/
example : InFam .option (.variant "none" []) ∧ InFam (.result "string") (.variant "err" [.str "e"]) ∧ InFam .plain (.int 3) :=
  ⟨.inl rfl, .inr ⟨_, rfl⟩, by simp [InFam]⟩
example : tryVal (.variant "err" [.str "e"]) St.init = .sig (.ret (.variant "err" [.str "e"])) St.init := rfl
example : tryAccepted .option (.result "string") = false ∧ tryAccepted (.result "int") (.result "string") = false ∧
    tryAccepted (.result "string") (.result "string") = true := by decide

end Abra.TryLower
