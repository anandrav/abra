import AbraProofs.Properties.C33
import AbraProofs.Lemmas.Pratt
import AbraProofs.Lemmas.PatMatrixTerm
/-! C04 — the compiler terminates with a result or diagnostics on any text (partial).

   The theorems: the three loops of the front end whose termination is not obvious from their shape —
   the lexer's main loop (`tokenize_file`), the Pratt expression parser (`parse_expr_bp`) and the
   exhaustiveness / usefulness recursion (`compute_exhaustiveness_and_usefulness`) — terminate on EVERY
   input of their models (`Abra.Lex`, `Abra.Pratt`, `Abra.PatMatrix`, built for C29–C33 / C31 / C12–C13 and
   tied to the code there), and the lexer never reads or slices outside the text.  Each is restated here
   about the imported model and proved from its lemmas.
   Not modelled (crash search only): item/statement parser, resolver, type checker. -/

namespace Abra.Lex

/-- **The lexer returns on every input, and every slice it takes is in bounds.**
    (1) The main loop ends because the input is used up, never because the model's fuel ran out: any fuel
        above the length gives the same result as `tokenize`.
    (2) Each step on a non-empty rest consumes at least one character (progress) and at most what is left
        (the `drop`/slice of the rest is in bounds) — whatever the characters are: unterminated strings,
        unterminated block comments, a lone `\` at the end, `"""`, non-ASCII.
    (3) The result is a list of tokens with non-empty spans inside the text, followed by the `eof` token.
    (4) The byte offsets handed out for every token are increasing and within the byte length of the text. -/
theorem C04_lexer_total (src : List Char) :
    (∀ g, src.length < g → tokenizeAux g (shebangLen src) (src.drop (shebangLen src)) = tokenize src) ∧
    (∀ (c : Char) (rest : List Char), 1 ≤ stepLen (c :: rest) ∧ stepLen (c :: rest) ≤ (c :: rest).length) ∧
    (∃ body e, (tokenize src).1 = body ++ [e] ∧ e.kind = .eof ∧
      ∀ t ∈ body, t.lo < t.hi ∧ t.hi ≤ src.length) ∧
    (∀ t ∈ (tokenize src).1, t.kind ≠ .eof →
      bytePos src t.lo < bytePos src t.hi ∧ bytePos src t.hi ≤ utf8Len src) := by
  refine ⟨?_, ?_, ?_, ?_⟩
  · intro g hg
    have hs := shebangLen_le src
    exact tokenizeAux_fuel g (src.length + 1) _ _ (by simp only [List.length_drop]; omega)
      (by simp only [List.length_drop]; omega)
  · intro c rest
    exact ⟨stepLen_pos _, stepLen_le c rest⟩
  · obtain ⟨_, body, hb, hall⟩ := C33_spans_cover src
    exact ⟨body, _, hb, rfl, hall⟩
  · intro t ht hk
    obtain ⟨a, b, _⟩ := C33_token_byte_span src t ht hk
    exact ⟨a, b⟩

/-- after a step the rest is strictly shorter: the measure of the loop -/
theorem C04_lexer_progress (c : Char) (rest : List Char) :
    ((c :: rest).drop (stepLen (c :: rest))).length < (c :: rest).length :=
  drop_stepLen_length_lt c rest

-- non-vacuity: an unterminated string, an unterminated block comment, a lone backslash — tokens and `eof` come back
example : ((tokenize "let s = \"abc".toList).1.getLast?.map (·.kind)) = some .eof := by decide +kernel
example : (tokenize "x /* never closed".toList).1.map (·.kind) = [.ident ['x'], .eof] := by decide +kernel
example : (tokenize "\\".toList).1.map (·.kind) = [.eof] := by decide +kernel

end Abra.Lex

namespace Abra.Pratt

/-- **The expression parser terminates on every token list**: with the fuel `fuelFor toks` (linear in the
    number of tokens) the model of `parse_expr_bp` never runs out of fuel — it returns an expression with the
    unconsumed rest or a parse error — for every fold mode, so in particular for the code's. -/
theorem C04_expr_parser_terminates (toks : List Tok) :
    (∀ mode, parseExprWith mode toks ≠ .fuel) ∧
    ((∃ e rest, parseExpr toks = .ok e rest) ∨ parseExpr toks = .err) :=
  ⟨fun mode => fuel_suffices mode toks, Res.ok_or_err (fuel_suffices codeFoldMode toks)⟩

/-- more fuel never changes the answer (so the bound is not an artefact of the model) -/
theorem C04_expr_parser_fuel_irrelevant {mode : FoldMode} {f g bp : Nat} {toks : List Tok} {res : Res Expr}
    (h : parseBp mode f bp toks = res) (hne : res ≠ .fuel) (hfg : f ≤ g) : parseBp mode g bp toks = res :=
  parseBp_lift h hne hfg

example : ∃ e rest, parseExpr [.lparen, .lparen, .rparen] = .ok e rest ∨ parseExpr [.lparen, .lparen, .rparen] = .err := by
  rcases (C04_expr_parser_terminates [.lparen, .lparen, .rparen]).2 with ⟨e, r, h⟩ | h
  · exact ⟨e, r, Or.inl h⟩
  · exact ⟨default, [], Or.inr h⟩

end Abra.Pratt

namespace Abra.PatMatrix

/-- **The exhaustiveness / usefulness recursion returns** on every well-typed pattern matrix (`rowsWT`) with any
    fuel above the measure `phi env Ts rows`: `compute` is not out of fuel.  (That `phi` strictly decreases along
    every recursive call, or-pattern expansion and wildcard specialisation included, is the content of
    `AbraProofs/Lemmas/PatMatrixTerm.lean`, from which this is restated.) -/
theorem C04_exhaustiveness_terminates {env : EnumEnv} (Ts : List Ty) (rows : List Row)
    (hwt : rowsWT env Ts rows) (fuel : Nat) (hf : phi env Ts rows < fuel) :
    (compute env fuel Ts rows).isSome = true :=
  compute_isSome fuel Ts rows hwt hf

/-- the entry point used for a `match`: with the driver's fuel the check of well-typed arms always returns -/
theorem C04_match_check_returns {env : EnumEnv} {ty : Ty} {pats : List DPat}
    (hwt : ∀ p ∈ pats, patWT env p ty = true) :
    (checkD env (fuelFor env ty pats) ty pats).isSome = true :=
  checkD_isSome hwt

/-! non-vacuity: a `match` on a bool with arms `true`, `_` — well typed, so both theorems apply -/
def exEnv04 : EnumEnv := fun _ => [[]]
def exPats04 : List DPat := [fromAst exEnv04 .bool (.bool true), fromAst exEnv04 .bool .wild]

theorem exPats04_wt : ∀ p ∈ exPats04, patWT exEnv04 p .bool = true := by decide +kernel

example : (checkD exEnv04 (fuelFor exEnv04 .bool exPats04) .bool exPats04).isSome = true :=
  C04_match_check_returns exPats04_wt

example : (compute exEnv04 (phi exEnv04 [.bool] (initRows 0 exPats04) + 1) [.bool] (initRows 0 exPats04)).isSome = true :=
  C04_exhaustiveness_terminates [.bool] (initRows 0 exPats04) (rowsWT_initRows exPats04_wt 0) _ (Nat.lt_succ_self _)

end Abra.PatMatrix
