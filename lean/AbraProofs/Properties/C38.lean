import AbraProofs.Lemmas.Arena
/-!
# C38 — arena allocation is memory-safe for values of any size

Model: `Abra.Arena` (`utils/src/arena.rs`, `Arena::with_capacity` / `Arena::alloc`, repaired D14).
A history is any list of requests `(size, align, fresh)`; `fresh` is the address the global allocator
would return for a new buffer at that moment, so every theorem below holds **for every address the
allocator may choose** (the buffers are `Box<[MaybeUninit<u8>]>`, alignment 1), for every initial
capacity and base address, and for histories of any length.  The only hypothesis on a request is
`0 < align` (Rust alignments are powers of two).
-/
namespace Abra.Arena

def Valid (rs : List Req) : Prop := ∀ r ∈ rs, 0 < r.align

instance (rs : List Req) : Decidable (Valid rs) := by unfold Valid; infer_instance

/-- absolute address range `[lo, hi)` of a placement, given the buffer it names -/
def Placement.lo (bs : List Buf) (p : Placement) : Nat := (bs[p.buf]?.getD default).base + p.start
def Placement.hi (bs : List Buf) (p : Placement) : Nat := p.lo bs + p.size

theorem inv_of_valid (base cap : Nat) (rs : List Req) (hv : Valid rs) :
    Inv (run (withCapacity base cap) rs).1 (run (withCapacity base cap) rs).2 :=
  inv_run rs _ [] (inv_init base cap) hv

/-- **No allocation writes outside the arena's buffers**: every placement of every history names a
    buffer the arena owns and `start + size ≤ len` of that buffer. -/
theorem C38_alloc_in_bounds (base cap : Nat) (rs : List Req) (hv : Valid rs) :
    ∀ p ∈ (run (withCapacity base cap) rs).2,
      ∃ b, (run (withCapacity base cap) rs).1.bufs[p.buf]? = some b ∧ p.start + p.size ≤ b.len :=
  fun p hp => ((inv_of_valid base cap rs hv).ok p hp).imp fun _ hb => ⟨hb.1, hb.2.1⟩

example : Valid [⟨8, 8, 1001⟩, ⟨16, 16, 2003⟩, ⟨0, 1, 5⟩] := by decide

/-- **Correctly aligned**: the *absolute* address (`base + start`) of every placement is a multiple
    of the requested alignment — whatever base addresses the allocator chose. -/
theorem C38_alloc_aligned (base cap : Nat) (rs : List Req) (hv : Valid rs) :
    ∀ p ∈ (run (withCapacity base cap) rs).2,
      ∃ b, (run (withCapacity base cap) rs).1.bufs[p.buf]? = some b ∧ (b.base + p.start) % p.align = 0 :=
  fun p hp => ((inv_of_valid base cap rs hv).ok p hp).imp fun _ hb => ⟨hb.1, hb.2.2⟩

/-- **Non-overlapping**: two placements of one history are in different buffers or occupy disjoint
    byte ranges of the same buffer. -/
theorem C38_alloc_disjoint (base cap : Nat) (rs : List Req) (hv : Valid rs) :
    (run (withCapacity base cap) rs).2.Pairwise
      (fun p q => p.buf ≠ q.buf ∨ p.start + p.size ≤ q.start ∨ q.start + q.size ≤ p.start) :=
  (inv_of_valid base cap rs hv).disj

/-- the allocator's contract: distinct live boxes do not share a byte -/
def BufsDisjoint (bs : List Buf) : Prop :=
  bs.Pairwise (fun a b => a.base + a.len ≤ b.base ∨ b.base + b.len ≤ a.base)

instance (bs : List Buf) : Decidable (BufsDisjoint bs) := by unfold BufsDisjoint; infer_instance

theorem BufsDisjoint.get {bs : List Buf} (hb : BufsDisjoint bs) {i j : Nat} {a b : Buf}
    (hi : bs[i]? = some a) (hj : bs[j]? = some b) (hne : i ≠ j) :
    a.base + a.len ≤ b.base ∨ b.base + b.len ≤ a.base := by
  obtain ⟨hi', rfl⟩ := List.getElem?_eq_some_iff.1 hi
  obtain ⟨hj', rfl⟩ := List.getElem?_eq_some_iff.1 hj
  rcases Nat.lt_or_gt_of_ne hne with hlt | hlt
  · exact List.pairwise_iff_getElem.1 hb i j hi' hj' hlt
  · exact (List.pairwise_iff_getElem.1 hb j i hj' hi' hlt).symm

/-- Placements of a state with the invariant occupy disjoint address ranges when its buffers do:
    within one buffer by `Inv.disj`, across buffers because each lies inside its own buffer. -/
theorem Inv.disjoint_abs {s : State} {log : List Placement} (h : Inv s log) (hb : BufsDisjoint s.bufs) :
    log.Pairwise (fun p q => p.hi s.bufs ≤ q.lo s.bufs ∨ q.hi s.bufs ≤ p.lo s.bufs) := by
  refine h.disj.imp_of_mem fun {p q} hp hq hpq => ?_
  obtain ⟨bp, hbp, hp1, _⟩ := h.ok p hp
  obtain ⟨bq, hbq, hq1, _⟩ := h.ok q hq
  simp only [Placement.hi, Placement.lo, hbp, hbq, Option.getD_some]
  -- a range `[st, st + sz)` below `t` inside a buffer, moved to the buffer's base `b`
  have shift : ∀ {b st sz t : Nat}, st + sz ≤ t → b + st + sz ≤ b + t :=
    fun h => Nat.add_assoc .. ▸ Nat.add_le_add_left h _
  by_cases e : p.buf = q.buf
  · cases hbp.symm.trans (e ▸ hbq)
    exact hpq.elim (absurd e) (Or.imp shift shift)
  · exact (hb.get hbp hbq e).imp
      (fun h1 => Nat.le_trans (shift hp1) (Nat.le_trans h1 (Nat.le_add_right _ _)))
      (fun h1 => Nat.le_trans (shift hq1) (Nat.le_trans h1 (Nat.le_add_right _ _)))

/-- **Non-overlapping, in absolute addresses**: if the buffers handed out by the global allocator are
    pairwise disjoint (its contract for simultaneously live boxes), the address ranges of all
    placements are pairwise disjoint. -/
theorem C38_alloc_disjoint_abs (base cap : Nat) (rs : List Req) (hv : Valid rs)
    (hb : BufsDisjoint (run (withCapacity base cap) rs).1.bufs) :
    (run (withCapacity base cap) rs).2.Pairwise
      (fun p q => p.hi (run (withCapacity base cap) rs).1.bufs ≤ q.lo (run (withCapacity base cap) rs).1.bufs
                ∨ q.hi (run (withCapacity base cap) rs).1.bufs ≤ p.lo (run (withCapacity base cap) rs).1.bufs) :=
  (inv_of_valid base cap rs hv).disjoint_abs hb

example : BufsDisjoint (run (withCapacity 1001 8) [⟨8, 8, 3001⟩, ⟨16, 16, 5003⟩]).1.bufs := by decide

/-- **References stay valid (stable)**: allocating more never moves, shrinks or drops a buffer, and
    never changes where an earlier value was placed — the buffer list after a longer history extends
    the one after a shorter history, and so does the placement log. -/
theorem C38_alloc_stable (s : State) (rs₁ rs₂ : List Req) :
    (run s rs₁).1.bufs <+: (run s (rs₁ ++ rs₂)).1.bufs ∧
    (run s rs₁).2 <+: (run s (rs₁ ++ rs₂)).2 := by
  rw [run_append]
  exact ⟨bufs_run_prefix rs₂ _, List.prefix_append _ _⟩

/-- in particular: a placement valid after `rs₁` names the same buffer (same base, same length)
    after any continuation `rs₂` -/
theorem C38_alloc_stable_buf (s : State) (rs₁ rs₂ : List Req) (i : Nat) (b : Buf)
    (h : (run s rs₁).1.bufs[i]? = some b) : (run s (rs₁ ++ rs₂)).1.bufs[i]? = some b :=
  getElem?_of_prefix (C38_alloc_stable s rs₁ rs₂).1 h

example : (run (withCapacity 1001 8) [⟨8, 8, 3001⟩]).1.bufs[0]? = some ⟨1001, 8⟩ := by decide

/-- The log answers the requests: the i-th placement has the i-th request's size and alignment
    (values "of any size": there is no bound on `size`). -/
theorem C38_log_matches_requests (rs : List Req) : ∀ s : State,
    (run s rs).2.map (fun p => (p.size, p.align)) = rs.map (fun r => (r.size, r.align)) := by
  induction rs with
  | nil => intro s; rfl
  | cons r rs ih =>
    intro s
    rw [run_cons]
    simp only [List.map_cons, ih]
    congr 1
    rw [alloc_eq]; split <;> rfl

/-- Arithmetic of `padding` only: for `0 < align`, `addr + padding addr align` is a multiple of
    `align`, and `padding addr align ≤ k` for every `k` with `(addr + k) % align = 0` (the padding is
    the least number of bytes that aligns the address). -/
theorem C38_padding_minimal (addr align k : Nat) (ha : 0 < align) (hk : (addr + k) % align = 0) :
    (addr + padding addr align) % align = 0 ∧ padding addr align ≤ k :=
  ⟨padding_aligned addr align ha, padding_least addr align k ha hk⟩

example : (13 + 3) % 8 = 0 := by decide

/-- The defect D14 of the unrepaired code, as arithmetic: padding computed from the offset alone
    (`(align - offset % align) % align`) does not align the address when the base is odd, and an
    offset kept across a buffer switch (`with_capacity(8)`, a `u64`, then a 16-byte value into the new
    16-byte buffer at the old offset 8) ends at 24 > 16. -/
theorem C38_d14_arithmetic_witness :
    (1001 + (0 + padding 0 8)) % 8 ≠ 0 ∧ (8 + padding 8 8) + 16 > max (2 * 8) 16 := by decide

end Abra.Arena
