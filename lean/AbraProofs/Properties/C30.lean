import AbraProofs.Lemmas.Lex
/-!
# C30 — literals denote exactly the values they spell

Model: `Abra.Lex` (`AbraModel/Lex.lean`: `lexNum` = `handle_num`, `intLiteral` = the parser's
`parse::<i64>()` with the sign folded in, `processEscapes`, `scanDelim`, `lexQuoted`, `lexTriple`),
specification side: `Abra.Lex.escape`/`spellQuoted` (`AbraModel/Literals.lean`, the generator's printer).

Float literals: the payload is the spelling without `_` (`C30_float_literal_token`); its value is
`parse::<f64>` of that text (trusted, checked by the correspondence only).
-/
namespace Abra.Lex

def I64_MIN_ABS : Nat := 9223372036854775808

/-- a spelling of the digit string `ds`: its digits in order, with `_` interspersed, starting with a digit -/
def NumSpelling (ds sp : List Char) : Prop :=
  sp.all isNumChar = true ∧ sp.filter isDigit = ds ∧ ∃ c cs, sp = c :: cs ∧ isDigit c = true

theorem lexOne_int {sp rest : List Char} {ds : List Char} (hs : NumSpelling ds sp) (hr : NumEnd rest) :
    lexOne (sp ++ rest) = punct (.intLit ds) sp.length := by
  obtain ⟨hall, rfl, c, cs, rfl, hc⟩ := hs
  rw [List.cons_append, lexOne_digit hc, ← List.cons_append, lexNum_int _ rest hall hr]

theorem intLiteral_toDigits (neg : Bool) (n : Nat) :
    intLiteral neg (Nat.toDigits 10 n) =
      if neg then (if n ≤ I64_MAX + 1 then some (-(n : Int)) else none)
      else (if n ≤ I64_MAX then some (n : Int) else none) := by
  have hne : (Nat.toDigits 10 n).isEmpty = false := by
    cases h : Nat.toDigits 10 n with
    | nil => exact absurd h Nat.toDigits_ne_nil
    | cons _ _ => rfl
  rw [intLiteral, hne, digitsVal_toDigits]
  rfl

/-- **Integers.** For every `v` in the `i64` range: any spelling of the decimal digits of `|v|` with
    `_` separators (anywhere after the first digit, also doubled or trailing) is one `IntLit` token
    with exactly those digits, consumed completely, and the parser (`-` folded in for negative `v`)
    yields `v` — including `v = i64::MIN`. -/
theorem C30_int_literal_roundtrip (v : Int) (hlo : -(I64_MIN_ABS : Int) ≤ v) (hhi : v ≤ (I64_MAX : Int))
    (sp rest : List Char) (hs : NumSpelling (Nat.toDigits 10 v.natAbs) sp) (hr : NumEnd rest) :
    lexOne (sp ++ rest) = punct (.intLit (Nat.toDigits 10 v.natAbs)) sp.length ∧
    intLiteral (decide (v < 0)) (Nat.toDigits 10 v.natAbs) = some v := by
  refine ⟨lexOne_int hs hr, ?_⟩
  rw [intLiteral_toDigits]
  unfold I64_MIN_ABS I64_MAX at *
  by_cases hneg : v < 0
  · rw [decide_eq_true hneg, if_pos rfl, if_pos (by omega)]; congr 1; omega
  · rw [decide_eq_false hneg, if_neg Bool.false_ne_true, if_pos (by omega)]; congr 1; omega

/-- Any digit string (leading zeros too) denotes its decimal value, with the sign, or is rejected —
    never a wrapped value. -/
theorem C30_int_literal_value (neg : Bool) (ds : List Char) (v : Int) (h : intLiteral neg ds = some v) :
    v = (if neg then -(digitsVal ds : Int) else (digitsVal ds : Int)) ∧
      -(I64_MIN_ABS : Int) ≤ v ∧ v ≤ (I64_MAX : Int) := by
  unfold intLiteral at h
  unfold I64_MIN_ABS I64_MAX at *
  split at h
  · cases h
  · cases neg
    · simp only [Bool.false_eq_true, if_false] at h
      split at h
      · cases h; simp; omega
      · cases h
    · simp only [if_true] at h
      split at h
      · cases h; simp; omega
      · cases h

/-- Out of range ⇒ the "Out of range?" diagnostic (for both signs), never a value. -/
theorem C30_int_literal_out_of_range (n : Nat) :
    (I64_MAX < n → intLiteral false (Nat.toDigits 10 n) = none) ∧
    (I64_MIN_ABS < n → intLiteral true (Nat.toDigits 10 n) = none) := by
  rw [intLiteral_toDigits, intLiteral_toDigits]
  exact ⟨fun h => by rw [if_neg Bool.false_ne_true, if_neg (Nat.not_le_of_lt h)],
    fun h => by rw [if_pos rfl, if_neg (Nat.not_le_of_lt (a := I64_MAX + 1) h)]⟩

/-- **Literals in pattern position.** An integer literal pattern denotes exactly what the same
    spelling denotes as an expression: its decimal value when it fits `i64`, the "Out of range?"
    diagnostic otherwise (never a wrapped value, so an out-of-range pattern cannot silently match). -/
theorem C30_int_pattern_literal (n : Nat) :
    intPattern (Nat.toDigits 10 n) = intLiteral false (Nat.toDigits 10 n) ∧
    (n ≤ I64_MAX → intPattern (Nat.toDigits 10 n) = some (n : Int)) ∧
    (I64_MAX < n → intPattern (Nat.toDigits 10 n) = none) := by
  refine ⟨rfl, fun h => ?_, (C30_int_literal_out_of_range n).1⟩
  rw [intPattern, intLiteral_toDigits, if_neg Bool.false_ne_true, if_pos h]

/-- Floats: the token's payload is the spelling with the `_` removed, consumed completely. -/
theorem C30_float_literal_token (ip fp rest : List Char) (hi : NumSpelling (ip.filter isDigit) ip)
    (hf : fp.all isNumChar = true) (hr : ∀ c r, rest = c :: r → isNumChar c = false) :
    lexOne (ip ++ '.' :: fp ++ rest) =
      punct (.floatLit (ip.filter isDigit ++ '.' :: fp.filter isDigit)) (ip.length + 1 + fp.length) := by
  obtain ⟨hall, _, c, cs, rfl, hc⟩ := hi
  have h1 : ((c :: cs) ++ ('.' :: (fp ++ rest))).takeWhile isNumChar = c :: cs :=
    takeWhile_num (c :: cs) _ hall (fun d r e => by cases e; decide)
  have h2 : (fp ++ rest).takeWhile isNumChar = fp := takeWhile_num fp rest hf hr
  rw [List.append_assoc, List.cons_append, List.cons_append, lexOne_digit hc, ← List.cons_append,
    lexNum_eq h1 (List.drop_left' rfl), List.head?_cons, if_pos rfl, List.tail_cons, h2]

/-- **Escapes.** Decoding what the printer wrote gives back the string, with no diagnostic — for
    every string (all of Unicode, control characters, quotes, backslashes) and each quote style. -/
theorem C30_escape_roundtrip (q : Quote) (s : List Char) : processEscapes (escape q s) = (s, []) :=
  pe_escape q s 0

/-- **Closing delimiter.** On a printed literal body followed by the closing quote, the scan finds
    exactly the quote the printer wrote: every quote character inside the body is escaped, and the
    backslash pairs are skipped in step with the printer's chunks. -/
theorem C30_scan_finds_close (q : Quote) (s rest : List Char) :
    scanDelim [quoteChar q] (escape q s ++ quoteChar q :: rest) = some (escape q s).length := by
  induction s with
  | nil =>
    simp only [escape, List.nil_append, List.length_nil]
    rw [scanDelim_cons, if_neg (by cases q <;> decide), if_pos rfl]
  | cons c cs ih =>
    simp only [escape, List.append_assoc, List.length_append]
    rw [scan_escapeChar, ih]
    simp only [Option.map_some]
    congr 1; omega

/-- **One-line literals.** Stated for `lexQuoted`, the scan that `lexOne` runs on the text *after* the
    opening quote of a `'…'` / `"…"` literal (not for `lexOne` itself, which first decides between `"`
    and `"""`): on the printer's body followed by the closing quote it yields the intended text, the
    length of the whole literal (both quotes included) and no diagnostic. -/
theorem C30_quoted_roundtrip (q : Quote) (s rest : List Char) :
    lexQuoted (quoteChar q) (escape q s ++ quoteChar q :: rest) = (s, (spellQuoted q s).length, []) := by
  unfold lexQuoted
  rw [C30_scan_finds_close]
  simp only [List.take_left', C30_escape_roundtrip]
  simp [spellQuoted]

def isBlank (l : List Char) : Bool := l.all isWhitespace

/-- how `collectLines` files a line that ended in a newline -/
def classify (l : List Char) : MLine := if isBlank l then .empty l else .endsNewline l

def joinLines : List (List Char) → List Char
  | [] => []
  | [l] => l
  | l :: ls => l ++ '\n' :: joinLines ls

def IsIndent (ind : List Char) : Prop := ∀ c ∈ ind, c = ' ' ∨ c = '\t'

def MLine.isEmptyKind : MLine → Bool
  | .empty _ => true
  | _ => false

theorem indentOf_space (cs : List Char) : indentOf (' ' :: cs) = 1 + indentOf cs := rfl
theorem indentOf_tab (cs : List Char) : indentOf ('\t' :: cs) = 4 + indentOf cs := rfl
theorem dropCols_zero (l : List Char) : dropCols 0 l = l := by cases l <;> rfl
theorem dropCols_space (n : Nat) (r : List Char) : dropCols (n + 1) (' ' :: r) = dropCols n r := rfl
theorem dropCols_tab (n : Nat) (r : List Char) : dropCols (n + 1) ('\t' :: r) = dropCols (n + 1 - 4) r := rfl

theorem indentOf_append (ind l : List Char) (h : IsIndent ind) : indentOf (ind ++ l) = indentOf ind + indentOf l := by
  induction ind with
  | nil => exact (Nat.zero_add _).symm
  | cons c cs ih =>
    have ih' := ih (fun d hd => h d (List.mem_cons_of_mem _ hd))
    rcases h c List.mem_cons_self with rfl | rfl
    · rw [List.cons_append, indentOf_space, indentOf_space, ih', Nat.add_assoc]
    · rw [List.cons_append, indentOf_tab, indentOf_tab, ih', Nat.add_assoc]

theorem dropCols_append (p : List Char) (hp : IsIndent p) (m : Nat) (hm : indentOf p ≤ m) (l : List Char) :
    dropCols m (p ++ l) = dropCols (m - indentOf p) l := by
  induction p generalizing m with
  | nil => rfl
  | cons c cs ih =>
    have ih' := ih (fun d hd => hp d (List.mem_cons_of_mem _ hd))
    rcases hp c List.mem_cons_self with rfl | rfl
    · rw [indentOf_space] at hm ⊢
      cases m with
      | zero => omega
      | succ k =>
        rw [List.cons_append, dropCols_space, ih' k (by omega), Nat.add_comm 1, Nat.add_sub_add_right]
    · rw [indentOf_tab] at hm ⊢
      cases m with
      | zero => omega
      | succ k => rw [List.cons_append, dropCols_tab, ih' (k + 1 - 4) (by omega), Nat.sub_sub]

theorem dropCols_other (n : Nat) {l : List Char} (h : ∀ c r, l = c :: r → c ≠ ' ' ∧ c ≠ '\t') :
    dropCols n l = l := by
  cases n with
  | zero => exact dropCols_zero l
  | succ k =>
    rw [dropCols]
    · intro r e; exact (h _ r e).1 rfl
    · intro r e; exact (h _ r e).2 rfl

theorem dropCols_indent (ind l : List Char) (h : IsIndent ind) : dropCols (indentOf ind) (ind ++ l) = l := by
  rw [dropCols_append ind h _ (Nat.le_refl _), Nat.sub_self, dropCols_zero]

/-- **The strip.** Removing `m` columns takes away leading blanks, counted exactly like the measure
    (a space 1, a tab 4, a tab that straddles the boundary goes whole), and nothing else:
    a blank prefix that measures exactly `m` is removed exactly; a line whose leading blanks measure
    at most `m` loses all of them and nothing of its text. -/
theorem C30_dropCols_spec (p q l : List Char) (hp : IsIndent p) :
    dropCols (indentOf p) (p ++ q) = q ∧
    (∀ m, indentOf p ≤ m → (∀ c r, l = c :: r → c ≠ ' ' ∧ c ≠ '\t') → dropCols m (p ++ l) = l) ∧
    (∀ m, indentOf p < m → m ≤ indentOf p + 4 → dropCols m (p ++ '\t' :: q) = q) := by
  refine ⟨dropCols_indent p q hp, fun m hm hl => ?_, fun m h1 h2 => ?_⟩
  · rw [dropCols_append p hp m hm]; exact dropCols_other _ hl
  · rw [dropCols_append p hp m (Nat.le_of_lt h1)]
    obtain ⟨k, hk⟩ : ∃ k, m - indentOf p = k + 1 := ⟨m - indentOf p - 1, by omega⟩
    rw [hk, dropCols_tab, show k + 1 - 4 = 0 by omega, dropCols_zero]

/-- the fold in `minIndent` is the minimum of the measures of the lines that are not `empty` -/
theorem minIndent_go_eq_min? (ls : List MLine) :
    minIndent.go ls false =
      ((ls.filter (fun l => !l.isEmptyKind)).map (fun l => indentOf l.content)).min? := by
  induction ls with
  | nil => rfl
  | cons l ls ih =>
    cases l with
    | empty s => rw [minIndent.go, ih]; rfl
    | endsNewline s | endsTriple s =>
      rw [minIndent.go, ih]
      · show _ = List.min? (_ :: _)
        rw [List.min?_cons]
        cases List.min? (α := Nat) _ <;> rfl
      · intro s' h; cases h

/-- **The measure.** The common indentation is the minimum, over the non-blank lines, of the flat
    measure of their leading blanks (1 per space, 4 per tab — the same count the stripping uses). -/
theorem C30_minIndent_is_min (ls : List MLine) (m : Nat) (h : minIndent.go ls false = some m) :
    (∀ l ∈ ls, l.isEmptyKind = false → m ≤ indentOf l.content) ∧
    (∃ l ∈ ls, l.isEmptyKind = false ∧ indentOf l.content = m) := by
  rw [minIndent_go_eq_min?, List.min?_eq_some_iff] at h
  obtain ⟨hm, hle⟩ := h
  simp only [List.mem_map, List.mem_filter, Bool.not_eq_true'] at hm hle
  obtain ⟨l, ⟨hl, hk⟩, rfl⟩ := hm
  exact ⟨fun x hx hk' => hle _ ⟨x, ⟨hx, hk'⟩, rfl⟩, l, hl, hk, rfl⟩

/-- **Every line minus the common measured prefix.** Whatever the lines and their individual
    indentations, the assembled text is the lines, each stripped of `m` columns, joined by `\n`. -/
theorem C30_assemble_each_line (ls : List MLine) (m : Nat) :
    assemble ls false (some m) = joinLines (ls.map (fun l => dropCols m l.content)) := by
  simp only [assemble, Option.getD_some]
  generalize true = first
  induction ls generalizing first with
  | nil => simp [assemble.go, joinLines]
  | cons l ls ih =>
    cases ls with
    | nil => simp [assemble.go, joinLines]
    | cons l2 ls2 =>
      have := ih false
      simp only [List.map_cons] at this ⊢
      rw [assemble.go]
      · simp only [Bool.and_false, Bool.false_eq_true, if_false, joinLines, this]
      · intro h; cases h

theorem classify_blank {x : List Char} (h : isBlank x = true) : classify x = .empty x := by
  simp [classify, h]
theorem classify_nonblank {x : List Char} (h : isBlank x = false) : classify x = .endsNewline x := by
  simp [classify, h]

theorem classify_content (x : List Char) : (classify x).content = x := by unfold classify; split <;> rfl

/-- **Indentation stripping (partial).**  For a triple-quoted literal in block form whose content
    lines are `ind ++ l₁, …, ind ++ lₙ` (a common indentation `ind` of spaces and/or tabs; blank lines
    included; at least one non-blank `lᵢ` starts with something that is neither space nor tab), the
    raw text handed to the escape decoder is exactly `l₁ \n … \n lₙ`: the common indentation —
    and nothing else — is removed, lines are joined by `\n`.
    This is the stage after the lines have been collected; `C30_strip_spec` below starts from the
    source text. -/
theorem C30_strip_spec_partial (ind : List Char) (hind : IsIndent ind) (ls : List (List Char))
    (ha : ∃ l ∈ ls, isBlank (ind ++ l) = false ∧ indentOf l = 0) :
    let lines := ls.map (fun l => classify (ind ++ l))
    minIndent lines false = some (indentOf ind) ∧
      assemble lines false (minIndent lines false) = joinLines ls := by
  intro lines
  obtain ⟨a, hmem, hnb, h0⟩ := ha
  -- the anchor line `a` is not blank and measures exactly `indentOf ind`; every line measures at least that
  have hain : classify (ind ++ a) ∈ lines := List.mem_map.mpr ⟨a, hmem, rfl⟩
  have hak : (classify (ind ++ a)).isEmptyKind = false := by rw [classify_nonblank hnb]; rfl
  have h1 : minIndent lines false = some (indentOf ind) := by
    show minIndent.go lines false = _
    rw [minIndent_go_eq_min?, List.min?_eq_some_iff]
    constructor
    · exact List.mem_map.mpr ⟨_, List.mem_filter.mpr ⟨hain, by rw [hak]; rfl⟩,
        by rw [classify_content, indentOf_append _ _ hind, h0]; rfl⟩
    · intro b hb
      obtain ⟨l', hl', rfl⟩ := List.mem_map.mp hb
      obtain ⟨x, -, rfl⟩ := List.mem_map.mp (List.mem_filter.mp hl').1
      rw [classify_content, indentOf_append _ _ hind]
      exact Nat.le_add_right _ _
  refine ⟨h1, ?_⟩
  simp only [h1, lines, C30_assemble_each_line, List.map_map, Function.comp_def, classify_content,
    dropCols_indent _ _ hind, List.map_id']

/-- no three consecutive `"` -/
def noTriple : List Char → Bool
  | [] => true
  | c :: t => !(c = '"' && t.head? = some '"' && t.tail.head? = some '"') && noTriple t

theorem startsTriple_false_of_noTriple (c : Char) (t X : List Char) (h : noTriple (c :: t) = true) :
    startsTriple (c :: (t ++ '\n' :: X)) = false := by
  simp only [noTriple, Bool.and_eq_true, Bool.not_eq_true'] at h
  obtain ⟨h1, _⟩ := h
  cases t with
  | nil => simp [startsTriple]
  | cons a t' =>
    cases t' with
    | nil => simp [startsTriple]
    | cons b t'' =>
      simp only [List.head?_cons, List.tail_cons] at h1
      simp only [List.cons_append]
      unfold startsTriple
      split
      · rename_i heq
        simp only [List.cons.injEq] at heq
        obtain ⟨rfl, rfl, rfl, _⟩ := heq
        simp at h1
      · rfl

theorem startsTriple_of_ne {c : Char} (h : c ≠ '"') (t : List Char) : startsTriple (c :: t) = false := by
  unfold startsTriple
  split
  · next heq => exact absurd (List.cons.inj heq).1 h
  · rfl

theorem splitLine_cons {c : Char} {t : List Char} (h1 : startsTriple (c :: t) = false) (h2 : c ≠ '\n') :
    splitLine (c :: t) = (c :: (splitLine t).1, (splitLine t).2) := by
  rw [splitLine, if_neg (ne_true_of_eq_false h1), if_neg h2]

theorem splitLine_line (u X : List Char) (hn : ∀ x ∈ u, x ≠ '\n') (ht : noTriple u = true) :
    splitLine (u ++ '\n' :: X) = (u, .nl, X) := by
  induction u with
  | nil => rfl
  | cons c t ih =>
    have ht' : noTriple t = true := by
      simp only [noTriple, Bool.and_eq_true] at ht; exact ht.2
    rw [List.cons_append, splitLine_cons (startsTriple_false_of_noTriple c t X ht) (hn c List.mem_cons_self),
      ih (fun x hx => hn x (List.mem_cons_of_mem _ hx)) ht']

theorem splitLine_close (w rest : List Char) (hw : ∀ x ∈ w, x = ' ' ∨ x = '\t') :
    splitLine (w ++ '"' :: '"' :: '"' :: rest) = (w, .triple, rest) := by
  induction w with
  | nil => rfl
  | cons c t ih =>
    have hc : c ≠ '"' ∧ c ≠ '\n' := by rcases hw c List.mem_cons_self with rfl | rfl <;> decide
    rw [List.cons_append, splitLine_cons (startsTriple_of_ne hc.1 _) hc.2,
      ih (fun x hx => hw x (List.mem_cons_of_mem _ hx))]

def bodyText (ind : List Char) (ls : List (List Char)) : List Char :=
  ls.flatMap (fun l => ind ++ l ++ ['\n'])

theorem bodyText_cons (ind l : List Char) (ls : List (List Char)) :
    bodyText ind (l :: ls) = (ind ++ l) ++ '\n' :: bodyText ind ls := by
  simp [bodyText]

/-- a line that ends in a line break is filed as `classify l`, except a blank one before any other -/
theorem collectLines_line {cs l r : List Char} (h : splitLine cs = (l, .nl, r)) {lines : List MLine}
    (hl : lines.isEmpty = false ∨ isBlank l = false) (f off : Nat) (starts : List Nat) (flag : Bool) :
    collectLines (f + 1) off lines starts flag cs =
      collectLines f (off + l.length + 1) (lines ++ [classify l]) (starts ++ [off]) flag r := by
  rw [collectLines, h]
  dsimp only
  cases hb : isBlank l with
  | false => rw [classify_nonblank hb, if_neg (ne_true_of_eq_false (show l.all isWhitespace = false from hb))]
  | true =>
    have : lines.isEmpty = false := hl.resolve_right (by rw [hb]; exact Bool.noConfusion)
    rw [classify_blank hb, if_pos (show l.all isWhitespace = true from hb), this, if_neg Bool.false_ne_true]

theorem collectLines_close {cs l r : List Char} (h : splitLine cs = (l, .triple, r)) (hb : l.all isWhitespace = true)
    (f off : Nat) (lines : List MLine) (starts : List Nat) (flag : Bool) :
    collectLines (f + 1) off lines starts flag cs = (lines, starts, flag, r) := by
  rw [collectLines, h]
  dsimp only
  rw [if_pos hb]

/-- the line break behind the opener is a blank first line: dropped, and the flag is cleared -/
theorem collectLines_opener_break (X : List Char) (f : Nat) :
    collectLines (f + 1) 0 [] [] true ('\n' :: X) = collectLines f 1 [] [] false X := by
  rw [collectLines, show splitLine ('\n' :: X) = ([], .nl, X) from rfl]
  rfl

theorem collectLines_bodyText (ind w rest : List Char) (hw : ∀ x ∈ w, x = ' ' ∨ x = '\t') :
    ∀ (ls : List (List Char)) (f off : Nat) (acc : List MLine) (starts : List Nat),
    (bodyText ind ls).length < f →
    (∀ l ∈ ls, (∀ x ∈ ind ++ l, x ≠ '\n') ∧ noTriple (ind ++ l) = true) →
    (acc.isEmpty = false ∨ ls = [] ∨ ∃ l0 ls', ls = l0 :: ls' ∧ isBlank (ind ++ l0) = false) →
    ∃ starts', collectLines f off acc starts false (bodyText ind ls ++ (w ++ '"' :: '"' :: '"' :: rest)) =
      (acc ++ ls.map (fun l => classify (ind ++ l)), starts', false, rest) := by
  intro ls
  induction ls with
  | nil =>
    intro f off acc starts hf _ _
    cases f with
    | zero => cases hf
    | succ f =>
      have hb : w.all isWhitespace = true :=
        List.all_eq_true.mpr fun x hx => by rcases hw x hx with rfl | rfl <;> decide
      exact ⟨starts, by
        rw [show bodyText ind [] = [] from rfl, List.nil_append,
          collectLines_close (splitLine_close w rest hw) hb, List.map_nil, List.append_nil]⟩
  | cons l ls ih =>
    intro f off acc starts hf hgood hacc
    rw [bodyText_cons, List.length_append, List.length_cons] at hf
    cases f with
    | zero => cases hf
    | succ f =>
      obtain ⟨hn, ht⟩ := hgood l List.mem_cons_self
      have hl : acc.isEmpty = false ∨ isBlank (ind ++ l) = false := by
        rcases hacc with h | h | ⟨l0, ls', heq, hnb⟩
        · exact .inl h
        · cases h
        · cases heq; exact .inr hnb
      obtain ⟨st, h⟩ := ih f (off + (ind ++ l).length + 1) (acc ++ [classify (ind ++ l)]) (starts ++ [off])
        (by omega) (fun l' hl' => hgood l' (List.mem_cons_of_mem _ hl')) (.inl (by simp))
      exact ⟨st, by
        rw [bodyText_cons, List.append_assoc, List.cons_append,
          collectLines_line (splitLine_line (ind ++ l) _ hn ht) hl, h, List.append_assoc]; rfl⟩

/-- **Indentation stripping, from the source text.**  Stated for `lexTriple`, which `lexOne` runs on
    the text *after* the opening `"""`.  That text in block form —
    a line break, the lines `ind ++ l₁ ⏎ … ind ++ lₙ ⏎` (common indentation `ind` of spaces
    and/or tabs; blank lines allowed after the first; no line contains a line break or three
    consecutive quotes; some non-blank `lᵢ` starts with neither space nor tab), then blanks and the
    closing `"""` — denotes the lines with exactly the common indentation removed, joined by `\n`,
    escape-decoded; and exactly the text up to and including the closer is consumed (the count is
    relative to the text after the opener). -/
theorem C30_strip_spec (ind : List Char) (hind : IsIndent ind) (ls : List (List Char)) (w rest : List Char)
    (hw : ∀ x ∈ w, x = ' ' ∨ x = '\t')
    (hgood : ∀ l ∈ ls, (∀ x ∈ ind ++ l, x ≠ '\n') ∧ noTriple (ind ++ l) = true)
    (hfirst : ∃ l0 ls', ls = l0 :: ls' ∧ isBlank (ind ++ l0) = false)
    (ha : ∃ l ∈ ls, isBlank (ind ++ l) = false ∧ indentOf l = 0) :
    let text := '\n' :: (bodyText ind ls ++ (w ++ '"' :: '"' :: '"' :: rest))
    (lexTriple text).1 = (processEscapes (joinLines ls)).1 ∧
      (lexTriple text).2.1 = text.length - rest.length := by
  intro text
  obtain ⟨starts, hc⟩ := collectLines_bodyText ind w rest hw ls text.length 1 [] [] (by
    simp only [text, List.length_cons, List.length_append]; omega) hgood (.inr (.inr hfirst))
  have hfirststep : collectLines (text.length + 1) 0 [] [] true text =
      collectLines text.length 1 [] [] false (bodyText ind ls ++ (w ++ '"' :: '"' :: '"' :: rest)) :=
    collectLines_opener_break _ _
  have hstrip := C30_strip_spec_partial ind hind ls ha
  simp only [List.nil_append] at hc hstrip
  unfold lexTriple
  simp only [hfirststep, hc, hstrip.2, and_self]

example : (lexTriple ('\n' :: (bodyText [' ', ' '] ["hello".toList, [], "  world".toList] ++ ([' '] ++ '"' :: '"' :: '"' :: [])))).1
    = "hello\n\n  world".toList := by decide +kernel
example : noTriple "say \\\"hi\\\" \"\" ok".toList = true := by decide +kernel

-- the hypotheses of the theorems above can be met; worked instances
example : NumSpelling (Nat.toDigits 10 (-9223372036854775808 : Int).natAbs) "9_223_372_036_854_775_808__".toList :=
  ⟨by decide +kernel, by decide +kernel, '9', "_223_372_036_854_775_808__".toList, by decide +kernel, by decide +kernel⟩
example : NumEnd " + 1".toList := by intro c r h; cases h; decide
example : NumEnd [] := by intro c r h; cases h
example : intLiteral true "9223372036854775808".toList = some (-9223372036854775808) := by decide +kernel
example : intLiteral false "9223372036854775808".toList = none := by decide +kernel
example : IsIndent [' ', '\t'] := by intro c h; simp at h; rcases h with rfl | rfl <;> simp
example : ∃ l ∈ ["hello".toList, [], "  world".toList],
    isBlank ([' ', '\t'] ++ l) = false ∧ indentOf l = 0 :=
  ⟨"hello".toList, by simp, by decide +kernel, by decide +kernel⟩
/- the tests `multiline_string_strips_indent`, `…_blank_line`, `…_opener_residue` of
   `e2e_bytecode.rs`, and the repaired D40 / D42 shapes, evaluated by the model from the source text -/
example : (lexTriple "\n    hello\n    world\n    \"\"\"".toList).1 = "hello\nworld".toList := by decide +kernel
example : (lexTriple "\n    hello\n\n    world\n    \"\"\"".toList).1 = "hello\n\nworld".toList := by decide +kernel
example : (lexTriple "hello\n    world\n    \"\"\"".toList).1 = "hello\nworld".toList := by decide +kernel
example : (lexTriple "abc\n\n\"\"\"".toList).1 = "abc\n".toList := by decide +kernel
example : (lexTriple "\n\thello\n\t  world\n\t\"\"\"".toList).1 = "hello\n  world".toList := by decide +kernel

end Abra.Lex
