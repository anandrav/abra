import AbraProofs.Lemmas.Names
/-!
# C21 — names resolve to the innermost visible declaration; imports are exact

Model: `Abra.Names` (`Namespace::add_declaration / add_other_pred`, `resolve_imports_file`,
`SymbolTable`, `resolve_names_stmt` of statics/resolve.rs).  All theorems hold for every world
(any number of files, names, imports) and every statement list (any nesting depth).

Specification side (in `Lemmas/Names.lean`, independent of the scope stack and of the insertion
loop): `specStmts` — the textbook environment semantics of lexical scoping; `visibleThrough` — the
four import forms as the property words them; `supply` — the list of everything handed to a file.
The for-loop variable is modelled as scoped to the loop (D39 repaired).
-/
namespace Abra.Names

variable {ν : Type} [DecidableEq ν]

/-- Symbol table: a lookup returns the binding of the innermost scope that has one
    (scopes innermost first, most recent insertion first inside a scope). -/
theorem C21_lookup_innermost_scope (st : SymTab ν) (x : ν) :
    lookup st x = Table.get st.flatten x :=
  lookup_eq_get_flatten st x

/-- Resolution of a whole statement list by the scope-stack algorithm coincides with lexical
    scoping: every use resolves to the most recent enclosing binder that is still in scope
    (`specStmts`: one environment, a block's bindings end with the block), else to the file-level
    declaration, else it is unresolved. -/
theorem C21_lookup_innermost (w : World ν) (kids : Table ν) (st : SymTab ν) (ss : List (Stmt ν)) :
    (resolveStmts w true kids st ss).2 = (specStmts w kids st.flatten ss).2 :=
  (resolveStmts_refines w kids st st.flatten (lookup_eq_get_flatten st) ss).1

/-- Sibling scopes: every arm of a `match` is resolved from the table of the whole statement — what
    an earlier arm's pattern binds is not visible in a later arm — and the statement leaves the table
    unchanged.  (The branches of an `if`/`else` start from that table by the definition of
    `resolveStmt`; `C21_lookup_innermost` covers both forms: the textbook semantics gives each arm
    and each branch the environment of the whole statement.) -/
theorem C21_arms_independent (w : World ν) (kids : Table ν) (st : SymTab ν)
    (arm : Option (ν × Nat) × List (Stmt ν)) (rest : List (Option (ν × Nat) × List (Stmt ν))) :
    resolveArms w true kids st (arm :: rest) =
      resolveArms w true kids st [arm] ++ resolveArms w true kids st rest ∧
    (resolveStmt w true kids st (.marms (arm :: rest))).1 = st := by
  -- `resolveArms … [arm]` is the arm's resolutions followed by `[]`
  have happ := fun l : List (Res ν) =>
    (congrArg (· ++ resolveArms w true kids st rest) (List.append_nil l)).symm
  match arm with
  | (none, _) => exact ⟨happ _, rfl⟩
  | (some (_, _), _) => exact ⟨happ _, rfl⟩

/-- A binder is visible only AFTER (let) / INSIDE (for, match arm) its construct: the defining
    expression — the `let` initialiser, the `for` iterable, the `match` scrutinee, modelled as a use
    that precedes the binder — is resolved in the table before the binding, so a name equal to the
    one being bound means the OUTER declaration there (or is unresolved when there is none). -/
theorem C21_defining_expression_outside (w : World ν) (kids : Table ν) (st : SymTab ν)
    (x : ν) (id : Nat) (body rest : List (Stmt ν)) :
    (resolveStmts w true kids st (.use x :: .letv x id :: rest)).2.head? = some (Res.ofOption (lookup st x)) ∧
    (resolveStmts w true kids st (.use x :: .forv x id body :: rest)).2.head? = some (Res.ofOption (lookup st x)) ∧
    (resolveStmts w true kids st (.use x :: .matchv x id body :: rest)).2.head? = some (Res.ofOption (lookup st x)) :=
  ⟨rfl, rfl, rfl⟩

/-- The names visible at file level are exactly: builtins, the prelude, the file's own
    declarations and what each `use` item lets through — all of the imported file's names, only
    the listed ones, all but the `except` list, or just the `as` prefix. -/
theorem C21_import_exact (w : World ν) (file : Nat) (x : ν) :
    x ∈ keys (effective w file).table ↔
      x ∈ w.builtins ∨ x ∈ w.prelude ∨ x ∈ declsOf w file ∨
        ∃ i ∈ importsOf w file, visibleThrough w i x := by
  rw [(effective_eq w file).1, mem_keys_gather, mem_keys_builtinTable, mem_keys_supply]

/-- …and the declaration found under a visible name is the one of its first supplier
    (builtins, prelude, own file, then the imports in source order); an imported name denotes the
    imported file's own declaration. -/
theorem C21_import_first_supplier (w : World ν) (file : Nat) (x : ν) :
    (effective w file).table.get x = Table.get (builtinTable w ++ supply w file) x := by
  rw [(effective_eq w file).1, gather_get]

theorem C21_import_decl (w : World ν) (file m : Nat) (x : ν) :
    Table.get (importSupply w file (Import.glob m)) x = Table.get (ownEntries w m) x :=
  ownTable_get w m x

/-- Qualified access: with `use m as p`, `p.x` reaches exactly the declaration that `use m`
    supplies under the name `x`. -/
theorem C21_qualified_same_decl (w : World ν) (st : SymTab ν) (file f m : Nat) (p x : ν)
    (hp : lookup st p = some (Decl.alias f p m)) :
    resolveQualified w st p x = Res.ofOption (Table.get (importSupply w file (Import.glob m)) x) := by
  show memberOf w x (lookup st p) = _
  rw [hp]; rfl

/-- Clash: `x` is reported for a file's effective namespace exactly when it is supplied at least
    twice (two visible declarations with one name); one report per extra supply. -/
theorem C21_clash_count (w : World ν) (file : Nat) (x : ν) :
    (effective w file).clashes.count x =
      (keys (builtinTable w) ++ keys (supply w file)).count x - 1 := by
  rw [(effective_eq w file).2.1, gather_clashes _ _ (keys (builtinTable w)) fun _ => Iff.rfl,
    count_dupNames, List.count_append, (nodup_keys_builtinTable w).count]
  split <;> simp

theorem C21_clash_iff (w : World ν) (file : Nat) (x : ν) :
    x ∈ (effective w file).clashes ↔
      2 ≤ (keys (builtinTable w) ++ keys (supply w file)).count x := by
  rw [← List.count_pos_iff, C21_clash_count]
  exact Nat.sub_pos_iff_lt

/-- the same inside one enum / interface: a variant or method name declared twice is reported,
    once per extra declaration -/
theorem C21_clash_iff_members (members : List ν) (x : ν) :
    x ∈ dupNames [] members ↔ 2 ≤ members.count x := by
  rw [← List.count_pos_iff, count_dupNames, if_neg List.not_mem_nil]
  exact Nat.sub_pos_iff_lt

/-- …and inside one file: a name declared twice is reported -/
theorem C21_clash_iff_own (w : World ν) (file : Nat) (x : ν) :
    x ∈ (ownTable w file).2 ↔ 2 ≤ (declsOf w file).count x := by
  rw [ownTable, gather_clashes _ [] [] fun _ => Iff.rfl]
  exact C21_clash_iff_members _ x

/-! ### child namespaces (enum variants, interface methods, `as` prefixes) -/

/-- The child namespaces visible at file level are exactly those of the file's own enums and
    interfaces and those each `use` item brings along; an item brings a child namespace along
    exactly when it makes the owning declaration visible (`C21_child_visible_iff`): all of them,
    only the listed ones, all but the `except` list, or just the `as` prefix. -/
theorem C21_children_exact (w : World ν) (file : Nat) (x : ν) :
    x ∈ keys (effective w file).kids ↔
      x ∈ typeNames w file ∨ ∃ i ∈ importsOf w file, kidVisibleThrough w i x := by
  simp only [(effective_eq w file).2.2, mem_keys_putAll, mem_keys_flatMap, mem_keys_ownKids,
    mem_keys_kidSupply]
  simp [keys]

theorem C21_child_visible_iff (w : World ν) (i : Import ν) (x : ν) :
    kidVisibleThrough w i x ↔ visibleThrough w i x ∧
      (match i with
       | .glob m | .incl m _ | .excl m _ => x ∈ typeNames w m
       | _ => True) := by
  have hsub := typeNames_sub_declsOf w
  cases i with
  | glob m => exact ⟨fun h => ⟨hsub m x h, h⟩, fun h => h.2⟩
  | incl m l => exact ⟨fun h => ⟨⟨hsub m x h.1, h.2⟩, h.1⟩, fun h => ⟨h.2, h.1.2⟩⟩
  | excl m l => exact ⟨fun h => ⟨⟨hsub m x h.1, h.2⟩, h.1⟩, fun h => ⟨h.2, h.1.2⟩⟩
  | as_ m p => exact ⟨fun h => ⟨h, trivial⟩, And.left⟩
  | missing => exact ⟨False.elim, And.left⟩

/-- A name that no source supplies as an enum / interface / prefix has no child namespace: a
    filtered-out enum of an imported file is not reachable through a qualified pattern. -/
theorem C21_filtered_child_invisible (w : World ν) (file : Nat) (x : ν) (v : ν)
    (hown : x ∉ typeNames w file) (himp : ∀ i ∈ importsOf w file, ¬ kidVisibleThrough w i x) :
    resolvePat w (effective w file).kids none x v = Res.unresolved := by
  have : x ∉ keys (effective w file).kids := by
    rw [C21_children_exact]
    rintro (h | ⟨i, hi, hx⟩)
    · exact hown h
    · exact himp i hi hx
  show variantOf w v (Table.get _ x) = _
  rw [(get_eq_none_iff _ _).2 this]; rfl

/-- In a program without name clashes the child namespace found under a name is the one of the
    declaration found under that name (and there is none when that declaration is a function, a
    builtin or a prelude item): namespaces and declarations never drift apart. -/
theorem C21_children_follow_decls (w : World ν) (file : Nat)
    (hown : ∀ m, (ownTable w m).2 = []) (hc : (effective w file).clashes = []) (x : ν) :
    (effective w file).kids.get x = nsOnly ((effective w file).table.get x) := by
  have hown' : ∀ m, (keys (ownEntries w m)).Nodup := fun m => nodup_of_no_clash _ [] List.nodup_nil (hown m)
  have hnd := nodup_of_no_clash _ _ (nodup_keys_builtinTable w) ((effective_eq w file).2.1 ▸ hc)
  rw [(effective_eq w file).1, (effective_eq w file).2.2, gather_get]
  rw [supply, ← List.append_assoc, ← List.append_assoc] at *
  exact follows_imports w file hown' _ _ _
    ((follows_nil _ (builtin_prelude_not_ns w)).putAll (ownKids_follows w file (hown' file))
      (nodup_keys_ownKids w file) (nodup_keys_left hnd)) hnd x

theorem variantOf_nsOnly (w : World ν) (v : ν) (o : Option (Decl ν)) :
    variantOf w v (nsOnly o) = variantOf w v o := by
  cases o with
  | none => rfl
  | some d => cases d <;> rfl

/-- Qualified variant pattern = variant expression: in a clash-free program the arm `Ty.V`
    resolves (through the namespaces) to the variant of the very enum that the expression `Ty.V`
    resolves to (through the declarations) at file level — the innermost visible `Ty`. -/
theorem C21_pattern_same_decl (w : World ν) (file : Nat)
    (hown : ∀ m, (ownTable w m).2 = []) (hc : (effective w file).clashes = []) (ty v : ν) :
    resolvePat w (effective w file).kids none ty v =
      resolveEnumExpr w (fileSymTab w file) none ty v := by
  show variantOf w v (Table.get _ ty) = variantOf w v (lookup [(effective w file).table] ty)
  rw [C21_children_follow_decls w file hown hc, variantOf_nsOnly, lookup]
  cases (effective w file).table.get ty <;> rfl

/-- a variant written through a prefix reaches the enum `use m` supplies under that name -/
theorem C21_qualified_variant_same_decl (w : World ν) (st : SymTab ν) (file f m : Nat) (p ty v : ν)
    (hp : lookup st p = some (Decl.alias f p m)) :
    resolveEnumExpr w st (some p) ty v =
      variantOf w v (Table.get (importSupply w file (Import.glob m)) ty) := by
  show variantOf w v (declOfPrefix w ty (lookup st p)) = _
  rw [hp]; rfl

/-! ### non-vacuity: two files, shadowing three deep, every import form -/

private def w2 : World Nat :=
  { builtins := [100], prelude := [101],
    files := [
      { decls := [1, 2], types := [⟨22, true, [30, 31]⟩], imports := [.incl 1 [3, 9], .as_ 1 7], probe := [],
        top := [.use 3, .letv 3 50, .use 3,
                .block [.letv 1 51, .use 1, .forv 3 52 [.use 3, .matchv 3 53 [.use 3]], .use 3],
                .use 1, .quse 7 4, .use 4] },
      { decls := [3, 4], types := [⟨20, true, [31, 32]⟩, ⟨21, false, [33]⟩], imports := [.glob 0, .excl 0 [2], .missing], probe := [], top := [] } ] }

example : resolveTop w2 true 0 =
    [.to (.fn 1 3), .to (.loc 50), .to (.loc 51), .to (.loc 52), .to (.loc 53), .to (.loc 50),
     .to (.fn 0 1), .to (.fn 1 4), .unresolved] := by decide +kernel
example : (effective w2 0).clashes = [] := by decide +kernel
example : (effective w2 1).clashes = [1, 22] := by decide +kernel    -- supplied by `use main` and again by `use main except (2)`
example : lookup (fileSymTab w2 0) 7 = some (Decl.alias 0 7 1) := by decide +kernel

/-- an earlier arm binds `1`, the later arm's `1` is the outer `let` (id 50), not the arm binder 60 -/
example : (resolveStmts w2 true [] [[]] [.letv 1 50, .marms [(some (1, 60), [.use 1]), (none, [.use 1]), (some (2, 61), [.use 1, .use 2])],
      .ifelse [.letv 1 62, .use 1] [.use 1]]).2 =
    [.to (.loc 60), .to (.loc 50), .to (.loc 50), .to (.loc 61), .to (.loc 62), .to (.loc 50)] := by decide +kernel

/-- the shape `use f except Name` with an own enum `Name`: the arm `Name.V` means the own enum;
    a variant that only the excluded enum has does not resolve -/
private def w3 : World Nat :=
  { builtins := [], prelude := [],
    files := [
      { decls := [], types := [⟨20, true, [30, 31]⟩], imports := [.excl 1 [20]], probe := [],
        top := [.pmatch none 20 30, .euse none 20 31, .pmatch none 20 33, .use 5] },
      { decls := [5], types := [⟨20, true, [31, 32, 33]⟩], imports := [], probe := [], top := [] } ] }

example : resolveTop w3 true 0 =
    [.to (.variant 0 0 20 30), .to (.variant 0 0 20 31), .unresolved, .to (.fn 1 5)] := by decide +kernel
example : (effective w3 0).clashes = [] := by decide +kernel
example : (effective w3 0).kids.get 20 = some (Decl.enum_ 0 0 20) := by decide +kernel
example : (∀ m, (ownTable w3 m).2 = []) := by
  intro m
  match m with
  | 0 => decide +kernel
  | 1 => decide +kernel
  | n + 2 => rfl

end Abra.Names
