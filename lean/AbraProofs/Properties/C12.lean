import AbraProofs.Lemmas.PatMatrixTerm
/-!
# C12 — an accepted match always has a matching arm; reported gaps are real

Model: `Abra.PatMatrix` (M9, `pat_exhaustiveness.rs` function by function).  The theorems quantify over
every enum environment in which all types are inhabited, every scrutinee type, every arm list of
well-formed patterns and every fuel value for which the run finishes; the meaning of patterns
(`dmatch`, `pmatch`) and of types (`hasTy`) never mentions matrices.

The core is `compute_good` (Lemmas/PatMatrix.lean): by induction on the recursion of
`compute_exhaustiveness_and_usefulness`, using the specialisation lemma (`row_specialize`,
`class_real`), the default-matrix lemma (`row_default`, `class_default`), the or-expansion lemma
(`specializeOrAux_first`) and the facts about `ConstructorSet::split` (`split_cover`,
`split_missing`, `split_present`) for the constructors `CtorOf` of the column type.
-/
namespace Abra.PatMatrix

/-- all types of the environment have a value (an enum with an uninhabited payload would make a
    "missing variant" report unreal) -/
def Inhabited' (env : EnumEnv) : Prop := ∀ T, ∃ v, hasTy env v T = true

theorem exists_of_findIdx?_ne_none {α : Type} {l : List α} {f : α → Bool} (h : l.findIdx? f ≠ none) :
    ∃ a ∈ l, f a = true :=
  List.any_eq_true.1 (List.findIdx?_isSome ▸ Option.isSome_iff_ne_none.2 h)

/-- **Accepted ⇒ exhaustive** (deconstructed patterns): no witness returned ⇒ every well-typed value
    is matched by some arm. -/
theorem C12_exhaustive_sound_dpat {env : EnumEnv} (hinh : Inhabited' env) {fuel : Nat} {ty : Ty}
    {pats : List DPat} (hwt : ∀ p ∈ pats, patWT env p ty = true) {flags : List Bool}
    (h : checkD env fuel ty pats = some (flags, [])) :
    ∀ v, hasTy env v ty = true → ∃ p ∈ pats, dmatch p v = true :=
  fun v hv => exists_of_findIdx?_ne_none ((checkD_good hinh hwt h).exh rfl v hv)

/-- **Reported gaps are real** (deconstructed patterns): every returned witness covers a well-typed
    value that no arm matches. -/
theorem C12_witness_sound_dpat {env : EnumEnv} (hinh : Inhabited' env) {fuel : Nat} {ty : Ty}
    {pats : List DPat} (hwt : ∀ p ∈ pats, patWT env p ty = true) {flags : List Bool} {wits : List DPat}
    (h : checkD env fuel ty pats = some (flags, wits)) :
    ∀ w ∈ wits, ∃ v, hasTy env v ty = true ∧ dmatch w v = true ∧ ∀ p ∈ pats, dmatch p v = false := by
  intro w hw
  obtain ⟨v, hv, hnone, hm⟩ := (checkD_good hinh hwt h).wit w hw
  exact ⟨v, hv, hm, List.findIdx?_eq_none_iff.1 hnone⟩

/-- hence a non-exhaustive report is real: some well-typed value matches no arm -/
theorem C12_nonexhaustive_real_dpat {env : EnumEnv} (hinh : Inhabited' env) {fuel : Nat} {ty : Ty}
    {pats : List DPat} (hwt : ∀ p ∈ pats, patWT env p ty = true) {flags : List Bool} {wits : List DPat}
    (h : checkD env fuel ty pats = some (flags, wits)) (hne : wits ≠ []) :
    ∃ v, hasTy env v ty = true ∧ ∀ p ∈ pats, dmatch p v = false := by
  cases wits with
  | nil => exact absurd rfl hne
  | cons w ws =>
    obtain ⟨v, hv, _, hn⟩ := C12_witness_sound_dpat hinh hwt h w (List.mem_cons_self ..)
    exact ⟨v, hv, hn⟩

/-! ### The property on source arms (`check` = `from_ast_pat` + the matrix algorithm) -/

/-- **C12, first half: an accepted match has a matching arm for every value.**  If the check of the
    arm list returns no witness (no `NonexhaustiveMatch` diagnostic), every well-typed value of the
    scrutinee type matches some arm — `pmatch` is the run-time meaning of source patterns. -/
theorem C12_exhaustive_sound {env : EnumEnv} (hinh : Inhabited' env) {fuel : Nat} {ty : Ty} {arms : List Pat}
    (htyped : ∀ p ∈ arms, patTyped env p ty = true) {flags : List Bool}
    (h : check env fuel ty arms = some (flags, [])) :
    ∀ v, hasTy env v ty = true → ∃ p ∈ arms, pmatch p v = true :=
  fun v hv => exists_of_findIdx?_ne_none ((check_good hinh htyped h).exh rfl v hv)

/-- **C12, second half: reported gaps are real.**  Every missing pattern listed in the diagnostic
    covers (`dmatch`) a well-typed value that matches no arm. -/
theorem C12_witness_sound {env : EnumEnv} (hinh : Inhabited' env) {fuel : Nat} {ty : Ty} {arms : List Pat}
    (htyped : ∀ p ∈ arms, patTyped env p ty = true) {flags : List Bool} {wits : List DPat}
    (h : check env fuel ty arms = some (flags, wits)) :
    ∀ w ∈ wits, ∃ v, hasTy env v ty = true ∧ dmatch w v = true ∧ ∀ p ∈ arms, pmatch p v = false := by
  intro w hw
  obtain ⟨v, hv, hnone, hm⟩ := (check_good hinh htyped h).wit w hw
  exact ⟨v, hv, hm, List.findIdx?_eq_none_iff.1 hnone⟩

/-- a non-exhaustive report is real: some well-typed value matches no arm -/
theorem C12_nonexhaustive_real {env : EnumEnv} (hinh : Inhabited' env) {fuel : Nat} {ty : Ty} {arms : List Pat}
    (htyped : ∀ p ∈ arms, patTyped env p ty = true) {flags : List Bool} {wits : List DPat}
    (h : check env fuel ty arms = some (flags, wits)) (hne : wits ≠ []) :
    ∃ v, hasTy env v ty = true ∧ ∀ p ∈ arms, pmatch p v = false := by
  cases wits with
  | nil => exact absurd rfl hne
  | cons w ws =>
    obtain ⟨v, hv, _, hn⟩ := C12_witness_sound hinh htyped h w (List.mem_cons_self ..)
    exact ⟨v, hv, hn⟩

/-- `from_ast_pat` (void-payload erasure, multi-field variants as one tuple field) preserves the
    meaning of every well-typed pattern on every well-typed value -/
theorem C12_fromAst_meaning (env : EnumEnv) (p : Pat) (ty : Ty) (ht : patTyped env p ty = true) (v : Val)
    (hv : hasTy env v ty = true) : dmatch (fromAst env ty p) v = pmatch p v :=
  (fromAst_ok env p ty ht).2 v hv

/-- **Termination**: the recursion of `compute_exhaustiveness_and_usefulness` ends — for every
    well-typed arm list the run with the fuel `fuelFor` (a measure that strictly decreases at every
    recursive call: or-expansion, every constructor specialisation, the default matrix) returns a
    result.  So the theorems above are not conditional on the fuel: take `fuel := fuelFor …`. -/
theorem C12_terminates {env : EnumEnv} {ty : Ty} {arms : List Pat}
    (htyped : ∀ p ∈ arms, patTyped env p ty = true) :
    ∃ flags wits, check env (fuelFor env ty (arms.map (fromAst env ty))) ty arms = some (flags, wits) := by
  have hwt : ∀ p ∈ arms.map (fromAst env ty), patWT env p ty = true := by
    intro p hp
    obtain ⟨a, ha, rfl⟩ := List.mem_map.1 hp
    exact (fromAst_ok env a ty (htyped a ha)).1
  have := checkD_isSome (env := env) (ty := ty) hwt
  unfold check
  cases hc : checkD env (fuelFor env ty (arms.map (fromAst env ty))) ty (arms.map (fromAst env ty)) with
  | none => simp [hc] at this
  | some r => exact ⟨r.1, r.2, rfl⟩

/-- the same at the level of the matrix: any fuel above the measure `phi` is enough -/
theorem C12_terminates_matrix {env : EnumEnv} (fuel : Nat) (Ts : List Ty) (rows : List Row)
    (hwt : rowsWT env Ts rows) (h : phi env Ts rows < fuel) : (compute env fuel Ts rows).isSome = true :=
  compute_isSome fuel Ts rows hwt h

/-! ### `let` / `var` / `for` destructuring: the pattern is the single arm of a match -/

/-- **An accepted destructuring pattern always matches**: if `checkLet` accepts `let p = e` (`for p in …`)
    then every well-typed value of the bound type matches `p` — so the binding code, which does not
    compare, never runs on a value of another shape (C14 `C14_let_accepted_binds`). -/
theorem C12_let_accepted_irrefutable {env : EnumEnv} (hinh : Inhabited' env) {fuel : Nat} {ty : Ty} {p : Pat}
    (htyped : patTyped env p ty = true) (h : checkLet env fuel ty p = some true) :
    ∀ v, hasTy env v ty = true → pmatch p v = true := by
  unfold checkLet at h
  cases hc : check env fuel ty [p] with
  | none => simp [hc] at h
  | some r =>
    obtain ⟨flags, wits⟩ := r
    simp only [hc, Option.map_some, Option.some.injEq, List.isEmpty_iff] at h
    subst h
    intro v hv
    obtain ⟨q, hq, hm⟩ := C12_exhaustive_sound hinh (arms := [p]) (by simpa using htyped) hc v hv
    simp at hq; subst hq; exact hm

/-- **A rejected destructuring pattern is refutable**: some well-typed value does not match it. -/
theorem C12_let_rejected_refutable {env : EnumEnv} (hinh : Inhabited' env) {fuel : Nat} {ty : Ty} {p : Pat}
    (htyped : patTyped env p ty = true) (h : checkLet env fuel ty p = some false) :
    ∃ v, hasTy env v ty = true ∧ pmatch p v = false := by
  unfold checkLet at h
  cases hc : check env fuel ty [p] with
  | none => simp [hc] at h
  | some r =>
    obtain ⟨flags, wits⟩ := r
    simp only [hc, Option.map_some, Option.some.injEq, List.isEmpty_eq_false_iff] at h
    obtain ⟨v, hv, hn⟩ := C12_nonexhaustive_real hinh (arms := [p]) (by simpa using htyped) hc h
    exact ⟨v, hv, hn p (by simp)⟩

/-- the let-check always finishes -/
theorem C12_let_terminates {env : EnumEnv} {ty : Ty} {p : Pat} (htyped : patTyped env p ty = true) :
    ∃ b, checkLet env (fuelFor env ty [fromAst env ty p]) ty p = some b := by
  obtain ⟨flags, wits, h⟩ := C12_terminates (env := env) (ty := ty) (arms := [p]) (by simpa using htyped)
  have h' : check env (fuelFor env ty [fromAst env ty p]) ty [p] = some (flags, wits) := by simpa using h
  exact ⟨wits.isEmpty, by simp [checkLet, h']⟩

mutual
  /-- every type is inhabited as soon as every enum has a variant without fields -/
  theorem inhabited_of_nullary {env : EnumEnv} (h : ∀ e, ∃ i, variantFields env e i = some []) :
      ∀ T : Ty, ∃ v, hasTy env v T = true
    | .bool => ⟨.bool true, rfl⟩
    | .void => ⟨.prod [], rfl⟩
    | .int => ⟨.int 0, rfl⟩
    | .float => ⟨.float 0, rfl⟩
    | .string => ⟨.str [], rfl⟩
    | .tuple ts => let ⟨vs, hvs⟩ := inhabiteds_of_nullary h ts; ⟨.prod vs, (hasTy_prod ..).trans hvs⟩
    | .struct _ ts => let ⟨vs, hvs⟩ := inhabiteds_of_nullary h ts; ⟨.prod vs, (hasTy_prod ..).trans hvs⟩
    | .enum e =>
      let ⟨i, hf⟩ := h e
      ⟨.variant i (.prod []), hasTy_variant.2 ⟨by rw [hf]; rfl, by rw [dataTy_some hf]; rfl⟩⟩
  theorem inhabiteds_of_nullary {env : EnumEnv} (h : ∀ e, ∃ i, variantFields env e i = some []) :
      ∀ Ts : List Ty, ∃ vs, hasTys env vs Ts = true
    | [] => ⟨[], rfl⟩
    | t :: ts =>
      let ⟨v, hv⟩ := inhabited_of_nullary h t
      let ⟨vs, hvs⟩ := inhabiteds_of_nullary h ts
      ⟨v :: vs, Bool.and_eq_true_iff.2 ⟨hv, hvs⟩⟩
end

/-! Non-vacuity: a concrete environment (one enum: `A(bool) | B`), a match on `(En0, bool)`. -/

def exEnv : EnumEnv := fun id => if id = 0 then [[.bool], []] else [[]]

theorem exEnv_inhabited : Inhabited' exEnv :=
  inhabited_of_nullary fun e =>
    if h : e = 0 then ⟨1, by simp [variantFields, exEnv, h]⟩ else ⟨0, by simp [variantFields, exEnv, h]⟩

def exTy : Ty := .tuple [.enum 0, .bool]
/-- the arms `(.V0(true), _)`, `(.V0(false), true)`, `(.V1, _)` over `(En0, bool)` -/
def exArms : List Pat :=
  [.tuple [.variantPos 0 0 (.bool true), .wild],
   .tuple [.variantPos 0 0 (.bool false), .bool true],
   .tuple [.variant0 0 1, .bind 0]]

/-- non-vacuity of `C12_witness_sound` / `C12_nonexhaustive_real`: the run finishes, every arm is
    useful and exactly one gap is reported, which covers `(V0(false), false)` -/
example : (check exEnv 20 exTy exArms).map (fun r => (r.1, r.2.map (fun w =>
    dmatch w (.prod [.variant 0 (.bool false), .bool false])))) = some ([true, true, true], [true]) := by
  decide +kernel

example : ∀ p ∈ exArms, patTyped exEnv p exTy = true := by decide +kernel

/-- non-vacuity of `C12_exhaustive_sound`: with a fourth arm the match is accepted -/
example : (check exEnv 20 exTy (exArms ++ [.tuple [.wild, .bool false]])).map (fun r => r.2.length) = some 0 := by
  decide +kernel

/-- non-vacuity of the let theorems: `(V1, x)` is rejected, `(_, x)` accepted over `(En0, bool)` -/
example : checkLet exEnv 20 exTy (.tuple [.variant0 0 1, .bind 0]) = some false ∧
    checkLet exEnv 20 exTy (.tuple [.wild, .bind 0]) = some true := by decide +kernel

end Abra.PatMatrix
