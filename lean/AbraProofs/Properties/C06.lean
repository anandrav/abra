import AbraProofs.Lemmas.GC
/-!
# C06 — garbage collection never frees an object the program can still reach

Model: `Abra.GC` (M5).  A collector transition is `gcStep`: by phase `gcStart`, `gcMarkStep` or
`gcSweepStep` (one loop iteration each, so every byte budget of the real pacing is a finite
repetition of them); the mutator is any step satisfying the contract `MutatorOK` (what one VM
instruction may do; validated on every real step by the correspondence check through
`mutatorOKb`).  The theorems quantify over **all** interleavings of collector increments and
mutator steps, of any length.
-/
namespace Abra.GC

/-- one step of the system: a collector increment (`maybe_gc` with the smallest budget) or one VM
    instruction obeying the mutator contract -/
inductive Step : St → St → Prop
  | gc (σ : St) : Step σ (gcStep σ)
  | mutator {σ σ' : St} {new pushed : List Nat} : MutatorOK σ σ' new pushed → Step σ σ'

inductive Run : St → St → Prop
  | refl (σ : St) : Run σ σ
  | tail {σ σ' σ'' : St} : Run σ σ' → Step σ' σ'' → Run σ σ''

/-- a fresh green thread: empty heap, empty stack, collector idle -/
def init : St :=
  { obj := fun _ => ⟨[], false⟩, done := [], todo := [], roots := [], gray := [], phase := .idle }

theorem init_inv : Inv init := inv_empty rfl rfl rfl rfl rfl

theorem run_inv {σ σ' : St} (h : Inv σ) (r : Run σ σ') : Inv σ' := by
  induction r with
  | refl => exact h
  | tail _ s ih =>
    cases s with
    | gc => exact gcStep_inv ih
    | mutator m => exact mutator_inv ih m

/-- **C06, safety.** In every state reachable from a fresh thread by any interleaving of collector
    increments and contract-abiding mutator steps, every object reachable from the roots (operand
    stack, locals, in-flight string operands; what a closure captured through the closure object)
    is still allocated.  (Since fix 97d7808 a queued channel message is a snapshot owned by the
    channel, not an object of any thread's heap: a channel object has no children.) -/
theorem C06_gc_safe {σ : St} (r : Run init σ) : Safe σ :=
  inv_safe (run_inv init_inv r)

/-- The same from any state satisfying the invariant (e.g. a state observed from the real VM). -/
theorem C06_gc_safe_from {σ σ' : St} (h : Inv σ) (r : Run σ σ') : Safe σ' :=
  inv_safe (run_inv h r)

/-- **C06, the collector itself never touches reclaimed memory**: whenever it is about to
    dereference something — a root at cycle start or at the rescan, a gray-stack entry, a child of
    an object being scanned, a heap-list entry — that address is allocated. -/
theorem C06_collector_derefs_valid {σ : St} (r : Run init σ) :
    (∀ x ∈ σ.roots, x ∈ σ.heap) ∧
    (σ.phase = .marking → (∀ g ∈ σ.gray, g ∈ σ.heap) ∧ ∀ a ∈ σ.heap, ∀ c ∈ σ.children a, c ∈ σ.heap) := by
  have hi := run_inv init_inv r
  refine ⟨fun x hx => inv_safe hi x (Reach.root hx), fun hp => ?_⟩
  have hM := (inv_marking hp).1 hi
  rw [heap_of_done_nil hM.done]
  exact ⟨fun g hg => (hM.gray g hg).1, hM.closed⟩

/-! ### transparency: collector increments do not change what the program can see -/

/-- **C06, transparency.** A collector increment leaves the roots, the children of every object and
    hence the reachable graph exactly as they were, and (by safety) every reachable object allocated.
    This is the model-level content of "the program behaves as with collection disabled": everything
    the mutator can read (roots, children of reachable objects) is unchanged by an increment; that the
    real program's OUTPUT is the same is checked by the harness (runs with collection disabled), not proved. -/
theorem C06_gc_transparent {σ : St} (h : Inv σ) :
    (gcStep σ).roots = σ.roots ∧ (∀ x, (gcStep σ).children x = σ.children x) ∧
    (∀ a, Reach (gcStep σ) a ↔ Reach σ a) ∧ (∀ a, Reach σ a → a ∈ (gcStep σ).heap) := by
  have back := reach_congr (σ := gcStep σ) (τ := σ) (gcStep_roots σ).symm fun x => (gcStep_children σ x).symm
  exact ⟨gcStep_roots σ, gcStep_children σ,
    fun a => ⟨reach_congr (gcStep_roots σ) (gcStep_children σ) a, back a⟩,
    fun a ha => inv_safe (gcStep_inv h) a (back a ha)⟩

/-- **Tie to the driver.** If the executable contract check accepts a before/after pair observed on
    the real VM and the before-state satisfies the invariant, so does the after-state. -/
theorem C06_checked_step_inv {σ σ' : St} {fuel : Nat} (h : Inv σ)
    (hb : mutatorOKb σ σ' fuel = true) : Inv σ' :=
  mutator_inv h (mutatorOKb_sound hb)

/-! ### the collector as it was before the repair is unsafe (defect D22) -/

namespace Witness
/-- array `1` (gray, being marked) holds the only reference to string `2` (white) -/
def σ0 : St :=
  { obj := fun a => if a = 1 then ⟨[2], true⟩ else ⟨[], false⟩,
    done := [], todo := [1, 2], roots := [1], gray := [1], phase := .marking }
/-- after `ArrayPop`: `2` is on the operand stack and no longer a child of `1` -/
def σ1 : St :=
  { obj := fun a => if a = 1 then ⟨[], true⟩ else ⟨[], false⟩,
    done := [], todo := [1, 2], roots := [1, 2], gray := [1], phase := .marking }
def final : St := gcSweepStep (gcSweepStep (gcMarkStepNoRescan σ1))
end Witness

open Witness in
/-- With roots scanned only at cycle start, a contract-abiding mutator step followed by collector
    increments reclaims a reachable object.  (`σ0` satisfies the marking invariant; the pop is
    accepted by the contract check.) -/
theorem C06_norescan_counterexample :
    InvM σ0 ∧ mutatorOKb σ0 σ1 10 = true ∧ Reach final 2 ∧ 2 ∉ final.heap := by
  refine ⟨⟨rfl, ?_, by decide +kernel, by decide +kernel, by decide +kernel⟩, by decide +kernel,
    Reach.root (by decide +kernel), by decide +kernel⟩
  show ∀ a, a ∈ σ0.todo → ∀ c ∈ σ0.children a, c ∈ σ0.todo
  decide +kernel

open Witness in
/-- the repaired collector, on the same trace, rescans the roots and keeps marking -/
example : (gcMarkStep σ1).phase = .marking ∧ (gcMarkStep σ1).gray = [2] := by decide +kernel

/-- non-vacuity of `C06_gc_safe`: a run exists (one collector increment of a fresh thread; a run with
    allocations and two full cycles is `Abra.GCP.Example.run` in C07) -/
example : Run init (gcStep init) := Run.tail (Run.refl _) (Step.gc _)

end Abra.GC
