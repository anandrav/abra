import AbraProofs.Lemmas.SchedStatus
import AbraProofs.Lemmas.SchedSolo
import AbraModel.MiniVM
/-!
# C11 — the runtime reports completion, errors, step counts and host calls truthfully

Model: `Abra.Sched` (M4) for ANY thread step function; the host-call protocol on the concrete
stack machine `Abra.MiniVM`.  `MainQueued r` = the main thread is in the run queue, unfinished, and
no finished thread and no failed task waits in a queue (true for `Runtime.new`, kept by every call that
does not report completion — part of `C11_done_iff_main_stopped`).
-/
namespace Abra.Sched
variable {T V E : Type}

/-- A step budget of `k` executes at most `k` instructions — for every state, no hypothesis. -/
theorem C11_steps_le_budget (step : T → Action T V E) (b : Nat) (r : Runtime T V E) :
    (runN step b r).steps ≤ b :=
  (runN_execs step (fun _ _ _ => True) (fun _ _ _ _ => trivial) b r trivial).2

/-- `steps_consumed` is exactly the number of instructions executed by the call (one `trace` event
    each, whichever thread ran it) — for every state, no hypothesis. -/
theorem C11_steps_eq_executed (step : T → Action T V E) (b : Nat) (r : Runtime T V E) :
    (runN step b r).rt.trace.length = r.trace.length + (runN step b r).steps :=
  (runN_execs step (fun n _ tr => tr.length = r.trace.length + n)
    (fun n r' th h => by obtain ⟨k, hk, _⟩ := exec_trace step r' th; rw [hk, List.length_append, h]; rfl) b r rfl).1

theorem mainQueued_new (m : T) : MainQueued (Runtime.new m : Runtime T V E) :=
  ⟨noDone_new m, rfl, ⟨{ id := 0, isMain := true, st := m }, by simp [Runtime.new], rfl⟩, by simp [Runtime.new]⟩

/-- **Completion.**  With the main thread queued, whatever the other threads are doing (running,
    blocked on reads, waiting for the host, failed):
    * the call reports `Done` exactly when `run_threads_round_robin` returned `main_thread_done`;
    * that happens exactly in the call in which the main thread executes `Stop`: the last instruction
      executed by the call is the main thread's `Stop`, the call returns at once, and the finished main
      thread (whose stack holds the program's result) is kept in `finished_main_thread`;
    * otherwise the main thread is still queued afterwards, so `Done` is never reported early. -/
theorem C11_done_iff_main_stopped (step : T → Action T V E) (b : Nat) (r : Runtime T V E) (hm : MainQueued r) :
    ((runN step b r).status = .done ↔ (runN step b r).doneNow = true) ∧
    ((runN step b r).doneNow = true →
        ∃ m, (runN step b r).rt.finishedMain = some m ∧ m.isMain = true ∧ m.done = true ∧
          (runN step b r).rt.trace.getLast? = some ⟨m.id, .stop⟩ ∧ 1 ≤ (runN step b r).steps) ∧
    ((runN step b r).doneNow = false → MainQueued (runN step b r).rt) := by
  have hI : MainQueued ({ r with runQueue := r.runQueue ++ r.newThreads, newThreads := [] } : Runtime T V E) :=
    ⟨(roundRobin_eq step b r hm.noDone).2, hm.fin,
     hm.main.imp fun _ h => ⟨List.mem_append_left _ h.1, h.2⟩, by simp⟩
  have h := runN_rule step MainQueued MainStopped (turn_main step) b r hm.noDone hI
  refine ⟨?_, fun hf => ?_, fun hf => (h.2.2 hf).1⟩
  · rw [runN_eq] at h ⊢
    cases hf : (roundRobin step b r).2.1
    · simpa [hf] using updateStatus_not_done _ (h.2.2 hf).1
    · simp
  · obtain ⟨⟨m, h1, h2, h3, h4⟩, h5⟩ := h.2.1 hf
    exact ⟨m, h1, h2, h3, h4, h5⟩

example : ∃ r : Runtime Nat Nat Nat, MainQueued r := ⟨Runtime.new 0, mainQueued_new 0⟩

/-- **Priority of the status** (`update_status_helper`): the main thread's pending host call or error
    first; only when the main thread is merely out of steps does another thread's pending call show. -/
theorem C11_status_priority (r : Runtime T V E) (m : Thread T E) (h : tryGetMain r = some m) (hd : m.gone = false) :
    updateStatus r =
      match m.pending, m.err with
      | some _, _ => .pendingHost
      | none, some e => .mainError e
      | none, none => if r.runQueue.any (fun t => t.pending.isSome) then .pendingHost else .outOfSteps := by
  unfold updateStatus
  rw [h]
  simp only [Thread.status, gone_done hd]
  cases m.pending <;> cases m.err <;> rfl

/-- **Errors.**  With the main thread queued, a call reports `MainThreadError e` exactly when it did
    not report completion and the main thread found by `try_get_main` has no pending host call and has
    `error = Some(e)`; in particular an error is never reported as `Done` (by
    `C11_done_iff_main_stopped`, `Done` needs the main thread to execute `Stop`, and a failed thread
    never runs again). -/
theorem C11_main_error_reported (step : T → Action T V E) (b : Nat) (r : Runtime T V E) (hm : MainQueued r) (e : E) :
    (runN step b r).status = .mainError e ↔
      ((runN step b r).doneNow = false ∧
        ∃ m, tryGetMain (runN step b r).rt = some m ∧ m.pending = none ∧ m.err = some e) := by
  obtain ⟨h1, _, h3⟩ := C11_done_iff_main_stopped step b r hm
  cases hdn : (runN step b r).doneNow
  · obtain ⟨m, hmq, _, hg⟩ := tryGetMain_queued _ (h3 hdn).main
    have hst : (runN step b r).status = updateStatus (runN step b r).rt := by
      rw [runN_eq] at hdn ⊢; simp [show (roundRobin step b r).2.1 = false from hdn]
    rw [hst, C11_status_priority _ m hg ((h3 hdn).noDone.1 m hmq), hg]
    simp only [Option.some.injEq, exists_eq_left']
    cases m.pending <;> cases m.err <;> simp
    split <;> simp
  · simp [h1.mpr hdn]

/-- the kind of the error is the one set by the failing instruction -/
theorem C11_error_kind_from_instruction (step : T → Action T V E) (r : Runtime T V E) (th : Thread T E)
    (e : E) (t : T) (h : step th.st = .error e t) :
    (exec step r th).2.err = some e ∧ (exec step r th).1.trace = r.trace ++ [⟨th.id, .error e⟩] := by
  unfold exec; rw [h]; exact ⟨rfl, rfl⟩

/-- the two instructions a host-function wrapper consists of -/
theorem exec_cont (step : T → Action T V E) (r : Runtime T V E) (th : Thread T E) (t : T)
    (h : step th.st = .cont t) :
    exec step r th = ({ r with trace := r.trace ++ [⟨th.id, .other⟩] }, { th with st := t }) := by
  unfold exec; rw [h]

theorem exec_host (step : T → Action T V E) (r : Runtime T V E) (th : Thread T E) (n : Nat) (t : T)
    (h : step th.st = .host n t) :
    exec step r th = ({ r with trace := r.trace ++ [⟨th.id, .host n⟩] }, { th with st := t, pending := some n }) := by
  unfold exec; rw [h]

end Abra.Sched

/-! ### the host-call protocol on the stack machine -/
namespace Abra.MiniVM
open Abra.Sched

theorem popN_append (k : Nat) (S args acc : List Int) (h : args.length = k) :
    popN k (S ++ args) acc = (args ++ acc, S) := by
  induction k generalizing args acc with
  | zero => simp [List.length_eq_zero_iff.mp h, popN]
  | succ k ih =>
    rcases List.eq_nil_or_concat args with rfl | ⟨as, a, rfl⟩
    · cases h
    · rw [List.concat_eq_append] at h ⊢
      rw [← List.append_assoc, popN, List.getLast?_concat, List.dropLast_concat]
      dsimp only
      rw [ih as (a :: acc) (by rw [List.length_append] at h; exact Nat.succ.inj h), List.append_assoc]
      rfl

/-- a lone main thread whose program goes on with `args.map pushInt ++ hostFunc n :: rest` -/
theorem run_pushes (prog : List Instr) (n : Nat) (rest : List Instr) (args : List Int) :
    ∀ (S : List Int) (pc b : Nat) (r : Runtime St Int String) (m : Thread St String),
      r.runQueue = [m] → r.newThreads = [] → m.canRun = true → m.isMain = true → m.st = ⟨pc, S⟩ →
      prog.drop pc = args.map .pushInt ++ .hostFunc n :: rest →
      args.length < b →
      (runN (stepI prog) b r).status = .pendingHost ∧ (runN (stepI prog) b r).steps = args.length + 1 ∧
      (runN (stepI prog) b r).rt.runQueue =
        [{ m with st := ⟨pc + (args.length + 1), S ++ args⟩, pending := some n }] ∧
      (runN (stepI prog) b r).rt.newThreads = [] := by
  induction args with
  | nil =>
    intro S pc b r m hq hn hc hmain hst hp hb
    obtain ⟨b', rfl⟩ := Nat.exists_eq_add_one_of_ne_zero (Nat.ne_of_gt (Nat.zero_lt_of_lt hb))
    have hstep : stepI prog m.st = .host n ⟨pc + 1, S⟩ := by
      have : prog[pc]? = some (.hostFunc n) := by rw [← Nat.add_zero pc, ← List.getElem?_drop, hp]; rfl
      simp [stepI, hst, this]
    rw [runN_succ_single (stepI prog) b' r m hn hq hc _ _ (exec_host _ _ m n _ hstep) (canRun_done (t := m) hc) hn,
      runN_stuck]
    · simp [updateStatus, tryGetMain, hmain, Thread.status, hn]
    · exact ⟨hn, fun t ht => by
        cases List.mem_singleton.mp ht; exact ⟨by simp [Thread.canRun], canRun_done (t := m) hc⟩⟩
  | cons a args ih =>
    intro S pc b r m hq hn hc hmain hst hp hb
    obtain ⟨b', rfl⟩ := Nat.exists_eq_add_one_of_ne_zero (Nat.ne_of_gt (Nat.zero_lt_of_lt hb))
    have hstep : stepI prog m.st = .cont ⟨pc + 1, S ++ [a]⟩ := by
      have : prog[pc]? = some (.pushInt a) := by rw [← Nat.add_zero pc, ← List.getElem?_drop, hp]; rfl
      simp [stepI, hst, this]
    rw [runN_succ_single (stepI prog) b' r m hn hq hc _ _ (exec_cont _ _ m _ hstep) (canRun_done (t := m) hc) hn]
    dsimp only
    obtain ⟨i1, i2, i3, i4⟩ := ih (S ++ [a]) (pc + 1) b'
      { r with runQueue := [{ m with st := ⟨pc + 1, S ++ [a]⟩ }], trace := r.trace ++ [⟨m.id, .other⟩] } _ rfl hn hc hmain rfl
      (by rw [← List.tail_drop, hp]; rfl) (Nat.lt_of_succ_lt_succ hb)
    refine ⟨i1, by rw [i2]; exact Nat.add_comm 1 _, ?_, i4⟩
    rw [i3, Nat.add_assoc pc, Nat.add_comm 1, List.append_assoc]; rfl

end Abra.MiniVM

namespace Abra.Sched
open Abra.MiniVM

/-- **Host calls.**  A program whose main thread evaluates the arguments `args` (in parameter order)
    and executes `HostFunc(n)`, run with any sufficient budget:
    * the call reports `PendingHostFunc` after exactly `|args| + 1` instructions;
    * the pending thread's operand stack holds exactly the arguments, in parameter order, last on top
      (above whatever was there: `S`), its pc is already past the `HostFunc` instruction;
    * the embedder's binding (pop `|args|` values, last parameter first; push the result; clear the
      flag) sees exactly `(n, args)` and leaves the thread runnable with the result on top of `S`, so
      execution resumes after the instruction with the host's value on top. -/
theorem C11_host_call_args (args : List Int) (n : Nat) (rest : List Instr) (f : Nat → List Int → Int)
    (arity : Nat → Nat) (ha : arity n = args.length) (b : Nat) (hb : args.length + 1 ≤ b) :
    let prog := args.map Instr.pushInt ++ [Instr.hostFunc n] ++ rest
    let r0 : Runtime St Int String := Runtime.new ⟨0, []⟩
    let x := runN (stepI prog) b r0
    x.status = .pendingHost ∧ x.steps = args.length + 1 ∧
    x.rt.runQueue = [{ id := 0, isMain := true, st := ⟨args.length + 1, args⟩, pending := some n }] ∧
    (serviceAll (echoHost arity f) [] x.rt).1 = [(n, args)] ∧
    (serviceAll (echoHost arity f) [] x.rt).2.runQueue =
      [{ id := 0, isMain := true, st := ⟨args.length + 1, [f n args]⟩, pending := none }] := by
  intro prog r0 x
  obtain ⟨h1, h2, h3, h4⟩ := run_pushes prog n rest args [] 0 b r0 { id := 0, isMain := true, st := ⟨0, []⟩ }
    rfl rfl rfl rfl rfl (by simp [prog]) hb
  have hpop : popN args.length args [] = (args, []) := by simpa using popN_append args.length [] args [] rfl
  refine ⟨h1, h2, by rw [h3, Nat.zero_add]; rfl, ?_, ?_⟩ <;>
    simp [serviceAll, x, h3, serviceList, echoHost, ha, hpop]

example : ∃ (arity : Nat → Nat) (args : List Int) (n b : Nat), arity n = args.length ∧ args.length + 1 ≤ b :=
  ⟨fun _ => 3, [7, 8, 9], 5, 10, rfl, by decide⟩

end Abra.Sched
