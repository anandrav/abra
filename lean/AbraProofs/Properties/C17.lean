import AbraProofs.Lemmas.StrOps
/-!
# C17 — string concatenation and comparison are byte-exact, at every step budget

Model: `Abra.StrOps` — the six resumable string instructions of `vm.rs`, one byte per VM step, the
progress kept in the thread registers `string_op_index1/2`, `string_operand1/2`,
`concat_string_builder`.  All theorems quantify over ALL byte strings `a b` (the register
operands), over every register file `r` a thread can be in when it reaches the instruction (only
`string_op_index1 = 0` — and `string_op_index2 = 0` for concatenation — is required, which every
finished string instruction re-establishes: that is part of each conclusion), and over every way
the embedder slices execution into budgets.

The specification side uses library notions only: `decide (a = b)`, core's lexicographic order
`<`/`≤` on `List UInt8` (`List.lt`), and `a ++ b`.
-/
namespace Abra.StrOps

/-- registers as the instruction leaves them: operands latched, indices back at 0 -/
def Regs.after (r : Regs) (a b : Bytes) : Regs := { r with op1 := a, op2 := b, idx1 := 0 }

/-- `==`: started with index 0, `EqualString` finishes within `min |a| |b| + 1` steps (hence with
    any larger allowance) and stores exactly `a = b`; no fault; registers are reset. -/
theorem C17_eq_spec (a b : Bytes) (r : Regs) (h0 : r.idx1 = 0) (fuel : Nat)
    (hf : min a.length b.length + 1 ≤ fuel) :
    run (eqStep a b) fuel r = .finished (decide (a = b)) (r.after a b) :=
  eq_start a b h0 hf

example : run (eqStep [104, 105] [104, 105]) 3 {} = .finished true (Regs.after {} [104, 105] [104, 105]) :=
  C17_eq_spec _ _ _ rfl _ (by decide)

/-- `!=` (EqualString then Not) is the negation -/
theorem C17_ne_spec (a b : Bytes) (r : Regs) (h0 : r.idx1 = 0) (fuel : Nat)
    (hf : min a.length b.length + 1 ≤ fuel) :
    ∃ v, run (eqStep a b) fuel r = .finished v (r.after a b) ∧ neOfEq v = decide (a ≠ b) :=
  ⟨_, C17_eq_spec a b r h0 fuel hf, by simp [neOfEq]⟩

example : ∃ v, run (eqStep [1] [2]) 2 {} = .finished v (Regs.after {} [1] [2]) ∧ neOfEq v = true :=
  C17_ne_spec _ _ _ rfl _ (by decide)

/-- the answer each ordering instruction must give, in core's order on `List UInt8` -/
def Cmp.libSpec : Cmp → Bytes → Bytes → Bool
  | .lt, a, b => decide (a < b)
  | .le, a, b => decide (a ≤ b)
  | .gt, a, b => decide (a > b)
  | .ge, a, b => decide (a ≥ b)

theorem Cmp.spec_eq_libSpec (c : Cmp) (a b : Bytes) : c.spec a b = c.libSpec a b := by
  -- core's `a ≤ b` on lists is by definition `¬ b < a`
  cases c <;> simp only [Cmp.spec, Cmp.libSpec, lexLt_eq_decide, ← decide_not] <;> rfl

/-- `<`, `<=`, `>`, `>=`: started with index 0, the instruction finishes within `min |a| |b| + 1`
    steps and stores the lexicographic comparison of the byte lists (shorter prefix first). -/
theorem C17_cmp_spec (c : Cmp) (a b : Bytes) (r : Regs) (h0 : r.idx1 = 0) (fuel : Nat)
    (hf : min a.length b.length + 1 ≤ fuel) :
    run (cmpStep c a b) fuel r = .finished (c.libSpec a b) (r.after a b) := by
  rw [← Cmp.spec_eq_libSpec]
  exact cmp_start c a b h0 hf

example : run (cmpStep .lt [97] [97, 98]) 2 {} = .finished true (Regs.after {} [97] [97, 98]) :=
  C17_cmp_spec .lt _ _ _ rfl _ (by decide)

theorem C17_lt_spec (a b : Bytes) (r : Regs) (h0 : r.idx1 = 0) (fuel : Nat)
    (hf : min a.length b.length + 1 ≤ fuel) :
    run (cmpStep .lt a b) fuel r = .finished (decide (a < b)) (r.after a b) :=
  C17_cmp_spec .lt a b r h0 fuel hf

theorem C17_le_spec (a b : Bytes) (r : Regs) (h0 : r.idx1 = 0) (fuel : Nat)
    (hf : min a.length b.length + 1 ≤ fuel) :
    run (cmpStep .le a b) fuel r = .finished (decide (a ≤ b)) (r.after a b) :=
  C17_cmp_spec .le a b r h0 fuel hf

theorem C17_gt_spec (a b : Bytes) (r : Regs) (h0 : r.idx1 = 0) (fuel : Nat)
    (hf : min a.length b.length + 1 ≤ fuel) :
    run (cmpStep .gt a b) fuel r = .finished (decide (b < a)) (r.after a b) :=
  C17_cmp_spec .gt a b r h0 fuel hf

theorem C17_ge_spec (a b : Bytes) (r : Regs) (h0 : r.idx1 = 0) (fuel : Nat)
    (hf : min a.length b.length + 1 ≤ fuel) :
    run (cmpStep .ge a b) fuel r = .finished (decide (b ≤ a)) (r.after a b) :=
  C17_cmp_spec .ge a b r h0 fuel hf

example : run (cmpStep .ge [200] [199, 255]) 2 {} = .finished true (Regs.after {} [200] [199, 255]) :=
  C17_ge_spec _ _ _ rfl _ (by decide)

/-- `..`: started with both indices 0, `ConcatStrings` finishes within `|a| + |b| + 1` steps with
    exactly `a ++ b`, for valid UTF-8 operands (what every Abra string is); the
    `from_utf8(..).unwrap()` cannot fail; the builder is left empty and the indices at 0. -/
theorem C17_concat_spec (a b : Bytes) (r : Regs) (h1 : r.idx1 = 0) (h2 : r.idx2 = 0)
    (va : utf8Valid a = true) (vb : utf8Valid b = true) (fuel : Nat)
    (hf : a.length + b.length + 1 ≤ fuel) :
    run (catStep a b) fuel r =
      .finished (a ++ b) { r with op1 := a, op2 := b, builder := [], idx1 := 0, idx2 := 0 } := by
  rw [(cat_start a b h1 h2 fuel).2 hf, if_pos (utf8Valid_append a b va vb)]

example : run (catStep [97] [0xC3, 0xA9]) 4 {} =
    .finished [97, 0xC3, 0xA9] { op1 := [97], op2 := [0xC3, 0xA9] } :=
  C17_concat_spec _ _ _ rfl rfl (by decide) (by decide) _ (by decide)

/-- the well-formedness half stated on its own: the concatenation of valid UTF-8 is valid UTF-8 -/
theorem C17_concat_utf8 (a b : Bytes) (va : utf8Valid a = true) (vb : utf8Valid b = true) :
    utf8Valid (a ++ b) = true := utf8Valid_append a b va vb

example : utf8Valid ([0xE2, 0x82, 0xAC] ++ [0xF0, 0x9F, 0x98, 0x80]) = true :=
  C17_concat_utf8 _ _ (by decide) (by decide)

/-- slicing: however the embedder cuts execution into budgets `k₁, k₂, …` (the registers persist in
    the thread between slices), an instruction ends with the same result as in one uninterrupted
    run, as soon as the budgets add up to the step bound. -/
theorem C17_budget_independent {ρ : Type} (step : Regs → Step ρ) (ks : List Nat) (n : Nat)
    (r r' : Regs) (v : ρ) (h : run step n r = .finished v r') (hk : n ≤ ks.sum) :
    runBudgets step ks r = .finished v r' := by
  rw [runBudgets_eq_run]
  exact run_mono step n ks.sum r r' v h hk

example : runBudgets (catStep [97] [98]) [1, 1, 1] {} = .finished [97, 98] { op1 := [97], op2 := [98] } :=
  C17_budget_independent _ _ 3 _ _ _ rfl (by decide)

/-- the results of all six instructions in one statement: from registers with both indices 0, for valid
    UTF-8 operands, at every slicing `ks` whose budgets add up to at least `|a| + |b| + 1` steps -/
theorem C17_all_budgets (a b : Bytes) (r : Regs) (h1 : r.idx1 = 0) (h2 : r.idx2 = 0)
    (va : utf8Valid a = true) (vb : utf8Valid b = true) (ks : List Nat)
    (hk : a.length + b.length + 1 ≤ ks.sum) :
    runBudgets (eqStep a b) ks r = .finished (decide (a = b)) (r.after a b) ∧
    (∀ c, runBudgets (cmpStep c a b) ks r = .finished (c.libSpec a b) (r.after a b)) ∧
    runBudgets (catStep a b) ks r =
      .finished (a ++ b) { r with op1 := a, op2 := b, builder := [], idx1 := 0, idx2 := 0 } := by
  have hm : min a.length b.length + 1 ≤ ks.sum :=
    Nat.le_trans (Nat.succ_le_succ (Nat.le_trans (Nat.min_le_left ..) (Nat.le_add_right ..))) hk
  simp only [runBudgets_eq_run]
  exact ⟨C17_eq_spec a b r h1 _ hm, fun c => C17_cmp_spec c a b r h1 _ hm,
    C17_concat_spec a b r h1 h2 va vb _ hk⟩

example : runBudgets (cmpStep .lt [1, 2] [1, 3]) [1, 1, 1, 1, 1] {} =
    .finished true (Regs.after {} [1, 2] [1, 3]) :=
  ((C17_all_budgets [1, 2] [1, 3] {} rfl rfl (by decide) (by decide) [1, 1, 1, 1, 1] (by decide)).2.1 .lt)

/-- frame condition of `..`: the result is a NEW object holding `a ++ b`; every object that existed
    before — the two operands included, also when they are the same object (`s .. s`) — still holds
    exactly its bytes afterwards, at every slicing.  Strings are immutable values. -/
theorem C17_concat_frame (h : Heap) (p q : Nat) (a b : Bytes) (ks : List Nat) (r : Regs)
    (hp : h[p]? = some a) (hq : h[q]? = some b) (h1 : r.idx1 = 0) (h2 : r.idx2 = 0)
    (va : utf8Valid a = true) (vb : utf8Valid b = true) (hk : a.length + b.length + 1 ≤ ks.sum) :
    ∃ r', concatHeap h p q ks r = some (h ++ [a ++ b], h.length, r') ∧ r'.idx1 = 0 ∧ r'.idx2 = 0 ∧
      (h ++ [a ++ b])[h.length]? = some (a ++ b) ∧
      ∀ i, i < h.length → (h ++ [a ++ b])[i]? = h[i]? := by
  have hrun := (C17_all_budgets a b r h1 h2 va vb ks hk).2.2
  exact ⟨{ r with op1 := a, op2 := b, builder := [], idx1 := 0, idx2 := 0 },
    by simp only [concatHeap, hp, hq, hrun], rfl, rfl, List.getElem?_concat_length,
    fun i hi => List.getElem?_append_left hi⟩

example : ∃ r', concatHeap [[105, 100], [55]] 0 0 [2, 2, 2] {} =
    some ([[105, 100], [55]] ++ [[105, 100] ++ [105, 100]], 2, r') :=
  (C17_concat_frame [[105, 100], [55]] 0 0 [105, 100] [105, 100] [2, 2, 2] {} rfl rfl rfl rfl
    (by decide) (by decide) (by decide)).imp fun _ h => h.1

/-- the byte intrinsics: `string_nth_byte(s, n)` is the `n`-th byte for `0 ≤ n < string_count_bytes(s)`
    and the out-of-bounds error for every other `n` (negative ones included); reading all indices
    below the count gives back exactly the bytes of the string -/
theorem C17_byte_intrinsics (s : Bytes) :
    (∀ n : Int, 0 ≤ n → n < countBytes s → ∃ b, s[n.toNat]? = some b ∧ nthByte s n = .val b.toNat) ∧
    (∀ n : Int, (n < 0 ∨ countBytes s ≤ n) → nthByte s n = .outOfBounds) ∧
    (List.range s.length).map (fun (i : Nat) => nthByte s (i : Int)) = s.map (fun b => ByteRes.val b.toNat) := by
  refine ⟨fun n h0 h1 => ?_, fun n h => if_pos (by unfold countBytes at h; omega), ?_⟩
  · obtain ⟨i, rfl⟩ := Int.eq_ofNat_of_zero_le h0
    have hlt : i < s.length := Int.ofNat_lt.1 h1
    exact ⟨s[i], List.getElem?_eq_getElem hlt, nthByte_nat s i hlt⟩
  · apply List.ext_getElem
    · rw [List.length_map, List.length_map, List.length_range]
    · intro i h1 h2
      rw [List.getElem_map, List.getElem_map, List.getElem_range, nthByte_nat]

example : nthByte [97, 98, 99] 2 = .val 99 ∧ nthByte [97, 98, 99] 3 = .outOfBounds ∧
    nthByte [97, 98, 99] (-1) = .outOfBounds := by decide

/-- concatenation takes exactly `|a| + |b| + 1` steps: with one step less it is still in flight
    (so the bound above is tight and a budget boundary really can fall inside the instruction) -/
theorem C17_concat_steps_exact (a b : Bytes) (r : Regs) (h1 : r.idx1 = 0) (h2 : r.idx2 = 0) :
    ∃ r', run (catStep a b) (a.length + b.length) r = .running r' :=
  (cat_start a b h1 h2 _).1 (Nat.le_refl _)

example : ∃ r', run (catStep [97] [98]) 2 {} = .running r' :=
  C17_concat_steps_exact [97] [98] {} rfl rfl

end Abra.StrOps
