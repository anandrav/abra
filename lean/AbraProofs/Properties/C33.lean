import AbraProofs.Lemmas.LexSteps
/-!
# C33 — diagnostics point at the offending source text

Parser and checker diagnostics carry the spans of tokens (`Location { lo, hi }` copied from
`Token.span`), lexer diagnostics the positions the lexer hands out; so the property rests on the
token spans.  Model: `Abra.Lex.tokenize` (character positions, as the lexer scans) and `bytePos`
(`Lexer::byte_pos`: the byte offset handed out for a character position; `tokenizeBytes` maps every
span through it).
-/
namespace Abra.Lex

/-- spans start at or after `p`, and each starts at or after the end of the previous one (so they
    are increasing and pairwise disjoint) -/
def Chain : Nat → List Token → Prop
  | _, [] => True
  | p, t :: r => p ≤ t.lo ∧ t.lo ≤ t.hi ∧ Chain t.hi r

theorem Chain.mono {p q : Nat} {ts : List Token} (h : Chain p ts) (hq : q ≤ p) : Chain q ts := by
  cases ts with
  | nil => trivial
  | cons t r => exact ⟨Nat.le_trans hq h.1, h.2⟩

/-- the invariant of the main loop, stated against the whole text `src` (`cs = src.drop pos`) so that
    what it says of a token speaks of `src.drop t.lo` -/
theorem tokens_tokenizeAux (src : List Char) : ∀ (f pos : Nat) (cs : List Char), cs.length < f →
    cs = src.drop pos → pos + cs.length = src.length →
    Chain pos (tokenizeAux f pos cs).1 ∧
    ∃ body, (tokenizeAux f pos cs).1 = body ++ [⟨.eof, src.length, src.length⟩] ∧
      ∀ t ∈ body, t.hi ≤ src.length ∧ (lexOne (src.drop t.lo)).tok = some t.kind ∧
        t.hi = t.lo + stepLen (src.drop t.lo) := by
  intro f
  induction f with
  | zero => intro pos cs h; omega
  | succ f ih =>
    intro pos cs hf hcs hlen
    cases cs with
    | nil =>
      rw [tokenizeAux_nil, ← hlen]
      exact ⟨⟨Nat.le_refl _, Nat.le_refl _, trivial⟩, [], rfl, fun t ht => by cases ht⟩
    | cons c rest =>
      rw [tokenizeAux_cons]
      have hle := stepLen_le c rest
      have hpos := stepLen_pos (c :: rest)
      obtain ⟨hch, body, hb, hall⟩ := ih (pos + stepLen (c :: rest)) ((c :: rest).drop (stepLen (c :: rest)))
        (by simp only [List.length_drop, List.length_cons] at hf ⊢; omega) (by rw [hcs, List.drop_drop])
        (by simp only [List.length_drop]; omega)
      cases h : (lexOne (c :: rest)).tok with
      | none => exact ⟨hch.mono (Nat.le_add_right _ _), body, hb, hall⟩
      | some k =>
        refine ⟨⟨Nat.le_refl _, Nat.le_add_right _ _, hch⟩, ⟨k, pos, pos + stepLen (c :: rest)⟩ :: body,
          congrArg (_ :: ·) hb, fun t ht => ?_⟩
        rcases List.mem_cons.mp ht with rfl | ht
        · exact ⟨by simp only; omega, hcs ▸ h, hcs ▸ rfl⟩
        · exact hall t ht

theorem shebangLen_le (src : List Char) : shebangLen src ≤ src.length := by
  unfold shebangLen
  split
  · rename_i rest
    have := lineCommentLen_le ('!' :: rest)
    simp only [List.length_cons] at this ⊢; omega
  · omega

theorem tokens_tokenize (src : List Char) :
    Chain (shebangLen src) (tokenize src).1 ∧
    ∃ body, (tokenize src).1 = body ++ [⟨.eof, src.length, src.length⟩] ∧
      ∀ t ∈ body, t.hi ≤ src.length ∧ (lexOne (src.drop t.lo)).tok = some t.kind ∧
        t.hi = t.lo + stepLen (src.drop t.lo) := by
  have hs := shebangLen_le src
  exact tokens_tokenizeAux src (src.length + 1) (shebangLen src) (src.drop (shebangLen src))
    (by simp only [List.length_drop]; omega) rfl (by simp only [List.length_drop]; omega)

/-- **Token spans (characters).** For every source text the spans are non-empty, increasing and
    disjoint (from the position after a `#!` line on), every token except the final `eof` lies
    within the text and `eof` is the empty span at the end of the text. -/
theorem C33_spans_cover (src : List Char) :
    Chain (shebangLen src) (tokenize src).1 ∧
    ∃ body, (tokenize src).1 = body ++ [⟨.eof, src.length, src.length⟩] ∧
      ∀ t ∈ body, t.lo < t.hi ∧ t.hi ≤ src.length := by
  obtain ⟨hch, body, hb, hall⟩ := tokens_tokenize src
  refine ⟨hch, body, hb, fun t ht => ?_⟩
  obtain ⟨h1, _, h3⟩ := hall t ht
  have := stepLen_pos (src.drop t.lo)
  exact ⟨by omega, h1⟩

/-- **The span is the token.** Each token's span is exactly what the lexer consumes to produce it:
    started at `lo`, one lexer step yields this token kind and ends at `hi`. -/
theorem C33_span_is_token (src : List Char) (t : Token) (ht : t ∈ (tokenize src).1) (hk : t.kind ≠ .eof) :
    (lexOne (src.drop t.lo)).tok = some t.kind ∧ t.hi = t.lo + stepLen (src.drop t.lo) := by
  obtain ⟨-, body, hb, hall⟩ := tokens_tokenize src
  rw [hb] at ht
  rcases List.mem_append.mp ht with h | h
  · exact (hall t h).2
  · simp only [List.mem_singleton] at h; subst h; exact absurd rfl hk

theorem utf8Len_append (a b : List Char) : utf8Len (a ++ b) = utf8Len a + utf8Len b := by
  induction a with
  | nil => simp [utf8Len]
  | cons c r ih => simp only [List.cons_append, utf8Len, ih]; omega

theorem utf8Len_pos_of_ne_nil {a : List Char} (h : a ≠ []) : 0 < utf8Len a := by
  cases a with
  | nil => exact absurd rfl h
  | cons c r => have := Char.utf8Size_pos c; simp only [utf8Len]; omega

theorem utf8Len_take_add_drop (src : List Char) (i : Nat) :
    utf8Len (src.take i) + utf8Len (src.drop i) = utf8Len src := by
  rw [← utf8Len_append, List.take_append_drop]

/-- **Byte ranges.** For a span `[lo, hi)` of characters inside the text, the byte offsets handed out
    satisfy `lo' < hi' ≤ |source|` (bytes), each is the byte length of a whole-character prefix of the
    source — so it falls on a character boundary — and the range covers exactly the UTF-8 bytes of
    the span's characters. -/
theorem C33_byte_span (src : List Char) (lo hi : Nat) (h1 : lo < hi) (h2 : hi ≤ src.length) :
    bytePos src lo = utf8Len (src.take lo) ∧ bytePos src hi = utf8Len (src.take hi) ∧
    bytePos src lo < bytePos src hi ∧ bytePos src hi ≤ utf8Len src ∧
    bytePos src hi - bytePos src lo = utf8Len ((src.drop lo).take (hi - lo)) := by
  have hsplit : bytePos src hi = bytePos src lo + utf8Len ((src.drop lo).take (hi - lo)) := by
    show utf8Len _ = utf8Len _ + _
    rw [← utf8Len_append, ← List.take_add, Nat.add_sub_cancel' (Nat.le_of_lt h1)]
  have hpos : 0 < utf8Len ((src.drop lo).take (hi - lo)) := utf8Len_pos_of_ne_nil fun h => by
    have := congrArg List.length h
    simp only [List.length_take, List.length_drop, List.length_nil] at this
    omega
  have hwhole : bytePos src hi + _ = _ := utf8Len_take_add_drop src hi
  refine ⟨rfl, rfl, ?_⟩
  omega

/-- Every token of every source text (except `eof`) gets such a byte range. -/
theorem C33_token_byte_span (src : List Char) (t : Token) (ht : t ∈ (tokenize src).1) (hk : t.kind ≠ .eof) :
    bytePos src t.lo < bytePos src t.hi ∧ bytePos src t.hi ≤ utf8Len src ∧
    bytePos src t.hi - bytePos src t.lo = utf8Len ((src.drop t.lo).take (t.hi - t.lo)) := by
  obtain ⟨_, body, hb, hall⟩ := C33_spans_cover src
  rw [hb] at ht
  rcases List.mem_append.mp ht with h | h
  · obtain ⟨a, b⟩ := hall t h
    obtain ⟨_, _, c, d, e⟩ := C33_byte_span src t.lo t.hi a b
    exact ⟨c, d, e⟩
  · simp only [List.mem_singleton] at h; subst h; exact absurd rfl hk

/-- the stand-in position `parse_file` gives `Parser::eof()` (used when the parser has stepped past
    the lexer's `Eof` token): the byte offset of the last character of the source (0 for the empty
    source) — `source.char_indices().next_back().map_or(0, |(i, _)| i)` -/
def parserEofPos (src : List Char) : Nat := bytePos src (src.length - 1)

/-- **End-of-input position.** The position used for diagnostics raised past the end of the token
    list is the byte length of a whole-character prefix of the source (a character boundary) and lies
    within the source — strictly before its end when the source is not empty, whatever the width of
    the last character.  (That `parse_file` computes exactly this number is checked by the
    correspondence: files ending in 1- to 4-byte characters where more input is required.) -/
theorem C33_eof_position (src : List Char) :
    parserEofPos src = utf8Len (src.take (src.length - 1)) ∧ parserEofPos src ≤ utf8Len src ∧
      (src ≠ [] → parserEofPos src < utf8Len src) := by
  have hwhole : parserEofPos src + _ = _ := utf8Len_take_add_drop src (src.length - 1)
  refine ⟨rfl, by omega, fun hne => ?_⟩
  have : 0 < utf8Len (src.drop (src.length - 1)) := utf8Len_pos_of_ne_nil fun h => by
    have := congrArg List.length h
    have := List.length_pos_iff.mpr hne
    simp only [List.length_drop, List.length_nil] at *
    omega
  omega

example : parserEofPos "fn // café".toList = 9 ∧ utf8Len "fn // café".toList = 11 := by decide +kernel

-- worked instance: `é` (2 bytes) and `漢` (3 bytes) in a string literal move the byte spans of what follows it
example : (tokenizeBytes "let s = \"é漢\" + x".toList).1.map (fun t => (t.lo, t.hi)) =
    [(0, 3), (4, 5), (6, 7), (8, 15), (16, 17), (18, 19), (19, 19)] := by decide +kernel
example : (3 : Nat) < 5 ∧ 5 ≤ "aé漢bc".toList.length := by decide +kernel
example : ∃ t ∈ (tokenize "x + 1".toList).1, t.kind ≠ .eof := ⟨⟨.plus, 2, 3⟩, by decide +kernel, by decide⟩

end Abra.Lex
