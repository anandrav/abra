import AbraProofs.Lemmas.LexLocal
import AbraProofs.Properties.C31
import AbraModel.TopLevel
/-!
# C29 — comments and optional separators never change a program

Lexer side (`Abra.Lex`, the model of `tokenize_file`): a comment or blank produces no token and leaves
the token kinds of what follows unchanged; written behind a space at which the lexer splits the file
(`LexesNT`), a comment changes no kind of the whole file, by the locality of `lexOne`.
Parser side (`Abra.Pratt.parseList`, the model of `parse_delimited_list`): `,` and a newline separate
the items alike (a trailing separator before the closer is not covered).
Top level (`Abra.TopLevel`, the item loop of `parse_file`): the optional `;` directly behind an item
never changes the verdict; a `;` anywhere else is a diagnostic.
-/
namespace Abra.Lex

/-- the comment text does not contain the closing delimiter -/
def noClose : List Char → Bool
  | [] => true
  | c :: r => !(c = '*' && r.head? = some '/') && noClose r

theorem blockCommentEnd_found (c X : List Char) (h : noClose c = true) :
    blockCommentEnd (c ++ '*' :: '/' :: X) = c.length + 2 := by
  induction c with
  | nil => simp [blockCommentEnd]
  | cons a r ih =>
    simp only [noClose, Bool.and_eq_true, Bool.not_eq_true', Bool.and_eq_false_iff, decide_eq_false_iff_not] at h
    obtain ⟨h1, h2⟩ := h
    have ih' := ih h2
    simp only [List.cons_append, List.length_cons, blockCommentEnd]
    have hcond : (decide (a = '*') && decide ((r ++ '*' :: '/' :: X).head? = some '/')) = false := by
      rcases h1 with h1 | h1
      · simp [h1]
      · cases r with
        | nil => simp
        | cons b r' =>
          simp only [List.head?_cons, Option.some.injEq] at h1
          simp [h1]
    rw [hcond]
    simp only [Bool.false_eq_true, if_false]
    rw [ih']; omega

theorem lexOne_block_comment (c X : List Char) (h : noClose c = true) :
    lexOne ('/' :: '*' :: (c ++ '*' :: '/' :: X)) = skip (c.length + 4) := by
  rw [lexOne_slash, List.head?_cons, if_neg (by intro h; cases h), if_pos rfl]
  show skip (min (2 + blockCommentEnd (c ++ '*' :: '/' :: X)) _) = _
  rw [blockCommentEnd_found c X h]
  congr 1
  simp only [List.length_cons, List.length_append]; omega

theorem lineCommentLen_append (c X : List Char) (hc : ∀ x ∈ c, x ≠ '\n')
    (hX : X = [] ∨ ∃ r, X = '\n' :: r) : lineCommentLen (c ++ X) = c.length := by
  induction c with
  | nil => rcases hX with rfl | ⟨r, rfl⟩ <;> rfl
  | cons a r ih =>
    rw [List.cons_append, lineCommentLen, if_neg (hc a (List.mem_cons_self ..)),
      ih fun x hx => hc x (List.mem_cons_of_mem _ hx), Nat.add_comm]; rfl

theorem lexOne_line_comment (c X : List Char) (hc : ∀ x ∈ c, x ≠ '\n')
    (hX : X = [] ∨ ∃ r, X = '\n' :: r) :
    lexOne ('/' :: '/' :: (c ++ X)) = skip (c.length + 2) := by
  rw [lexOne_slash, List.head?_cons, if_pos rfl, lineCommentLen, if_neg (by decide), lineCommentLen_append c X hc hX]
  congr 1; omega

theorem drop_two_append (a b : Char) (c X : List Char) : (a :: b :: (c ++ X)).drop (c.length + 2) = X :=
  List.drop_left (l₁ := c) (l₂ := X)

/-- **Block comments.** Whatever the comment text (without `*/`), the token kinds are those of the
    rest of the input. -/
theorem C29_block_comment_skipped (c X : List Char) (h : noClose c = true) :
    kindsFrom ('/' :: '*' :: (c ++ '*' :: '/' :: X)) = kindsFrom X := by
  rw [kindsFrom_skip _ (c.length + 4) (List.cons_ne_nil _ _) (lexOne_block_comment c X h) (Nat.le_add_left ..)]
  rw [show c.length + 4 = c.length + 2 + 2 from rfl, ← List.drop_drop, drop_two_append]
  rfl

/-- **Line comments.** A `//` comment (text without newline) running up to a newline or the end of
    the input leaves the token kinds of what follows — the newline token included. -/
theorem C29_line_comment_skipped (c X : List Char) (hc : ∀ x ∈ c, x ≠ '\n')
    (hX : X = [] ∨ ∃ r, X = '\n' :: r) :
    kindsFrom ('/' :: '/' :: (c ++ X)) = kindsFrom X := by
  rw [kindsFrom_skip _ (c.length + 2) (List.cons_ne_nil _ _) (lexOne_line_comment c X hc hX) (Nat.le_add_left ..)]
  rw [drop_two_append]

/-- **Blanks.** A space, a tab and a backslash-newline (line continuation) produce no token. -/
theorem C29_blank_skipped (X : List Char) :
    kindsFrom (' ' :: X) = kindsFrom X ∧ kindsFrom ('\t' :: X) = kindsFrom X ∧
      kindsFrom ('\\' :: '\n' :: X) = kindsFrom X := by
  refine ⟨?_, ?_, ?_⟩
  · rw [kindsFrom_skip _ 1 (List.cons_ne_nil _ _) (by rfl) (Nat.le_refl _)]; rfl
  · rw [kindsFrom_skip _ 1 (List.cons_ne_nil _ _) (by rfl) (Nat.le_refl _)]; rfl
  · rw [kindsFrom_skip _ 2 (List.cons_ne_nil _ _) (by rfl) (by decide)]; rfl

/-- **Shebang.** A first line beginning with `#!` (any text, up to the line break or the end of the
    file) contributes no token: the file has the token kinds of what follows that line. -/
theorem C29_shebang_line_skipped (c X : List Char) (hc : ∀ x ∈ c, x ≠ '\n')
    (hX : X = [] ∨ ∃ r, X = '\n' :: r) :
    kinds ('#' :: '!' :: (c ++ X)) = kindsFrom X := by
  have hn : shebangLen ('#' :: '!' :: (c ++ X)) = c.length + 2 := by
    have := lineCommentLen_append c X hc hX
    simp only [shebangLen, lineCommentLen, show ('!' : Char) ≠ '\n' by decide, if_false, this]; omega
  unfold kinds tokenize
  simp only [hn, drop_two_append]
  have hlen : X.length < ('#' :: '!' :: (c ++ X)).length + 1 := by
    simp only [List.length_cons, List.length_append]; omega
  rw [tokenizeAux_fuel _ (X.length + 1) (c.length + 2) X hlen (Nat.lt_succ_self _)]
  exact kinds_pos_irrelevant _ _ 0 X

/-- In front of any remaining input, a block comment is the same as one space. -/
theorem C29_block_comment_transparent (c X : List Char) (h : noClose c = true) :
    kindsFrom ('/' :: '*' :: (c ++ '*' :: '/' :: X)) = kindsFrom (' ' :: X) := by
  rw [C29_block_comment_skipped c X h, (C29_blank_skipped X).1]

/-- In front of a line end, a line comment is the same as one space. -/
theorem C29_line_comment_transparent (c X : List Char) (hc : ∀ x ∈ c, x ≠ '\n')
    (hX : X = [] ∨ ∃ r, X = '\n' :: r) :
    kindsFrom ('/' :: '/' :: (c ++ X)) = kindsFrom (' ' :: X) := by
  rw [C29_line_comment_skipped c X hc hX, (C29_blank_skipped X).1]

/-- `Lexes s Y ks`: started on `s ++ Y`, the lexer consumes exactly `s` in whole steps (every token,
    comment or blank that begins in `s` also ends in `s`), emitting the kinds `ks` -/
inductive Lexes : List Char → List Char → List TokenKind → Prop
  | done (Y : List Char) : Lexes [] Y []
  | step (c : Char) (s Y : List Char) (ks : List TokenKind)
      (hlen : stepLen (c :: s ++ Y) ≤ (c :: s).length)
      (h : Lexes ((c :: s).drop (stepLen (c :: s ++ Y))) Y ks) :
      Lexes (c :: s) Y ((match (lexOne (c :: s ++ Y)).tok with | some k => [k] | none => []) ++ ks)

theorem kindsFrom_of_Lexes {s Y : List Char} {ks : List TokenKind} (h : Lexes s Y ks) :
    kindsFrom (s ++ Y) = ks ++ kindsFrom Y := by
  induction h with
  | done Y => rfl
  | step c s Y ks hlen _ ih =>
    rw [List.append_assoc, ← ih, ← List.drop_append_of_le_length hlen]
    exact kindsFrom_cons c (s ++ Y)

/-- **Comment insertion at a token boundary (partial).** If the lexer splits the file after the
    prefix `s₁` — in front of the comment as well as in front of a space — and emits the same kinds
    for `s₁` both times, then inserting the block comment changes no token kind of the file.
    `C29_block_comment_insertion` / `C29_line_comment_insertion` below discharge the hypothesis (by
    the locality of `lexOne`, `Abra.Lex.lexOne_local`) when the comment is written behind a space and
    no triple-quoted literal precedes it.
    -- OPEN: (1) prefixes containing a triple-quoted literal (locality of `collectLines` not proved),
    --   (2) a comment written directly behind a token without a space (`/` differs from ` ` as
    --   look-ahead only after a `/` token).  Both are exercised by the correspondence. -/
theorem C29_comment_insertion_partial (s₁ s₂ c : List Char) (ks : List TokenKind)
    (h : noClose c = true)
    (h1 : Lexes s₁ ('/' :: '*' :: (c ++ '*' :: '/' :: s₂)) ks) (h2 : Lexes s₁ (' ' :: s₂) ks) :
    kindsFrom (s₁ ++ '/' :: '*' :: (c ++ '*' :: '/' :: s₂)) = kindsFrom (s₁ ++ ' ' :: s₂) := by
  rw [kindsFrom_of_Lexes h1, kindsFrom_of_Lexes h2, C29_block_comment_transparent c s₂ h]

/-- `LexesNT s Y ks`: as `Lexes`, and no step is a triple-quoted literal -/
inductive LexesNT : List Char → List Char → List TokenKind → Prop
  | done (Y : List Char) : LexesNT [] Y []
  | step (c : Char) (s Y : List Char) (ks : List TokenKind)
      (hnt : startsTriple (c :: s ++ Y) = false)
      (hlen : stepLen (c :: s ++ Y) ≤ (c :: s).length)
      (h : LexesNT ((c :: s).drop (stepLen (c :: s ++ Y))) Y ks) :
      LexesNT (c :: s) Y ((match (lexOne (c :: s ++ Y)).tok with | some k => [k] | none => []) ++ ks)

theorem LexesNT.toLexes {s Y : List Char} {ks : List TokenKind} (h : LexesNT s Y ks) : Lexes s Y ks := by
  induction h with
  | done Y => exact .done Y
  | step c s Y ks _ hlen _ ih => exact .step c s Y ks hlen ih

theorem startsTriple_three (c a b : Char) (X : List Char) :
    startsTriple (c :: a :: b :: X) = (decide (c = '"') && decide (a = '"') && decide (b = '"')) := by
  unfold startsTriple
  split
  · rename_i heq
    simp only [List.cons.injEq] at heq
    obtain ⟨rfl, rfl, rfl, _⟩ := heq
    rfl
  · rename_i hne
    by_cases h1 : c = '"'
    · by_cases h2 : a = '"'
      · by_cases h3 : b = '"'
        · subst h1 h2 h3; exact absurd rfl (hne X)
        · simp [h3]
      · simp [h2]
    · simp [h1]

theorem startsTriple_space (c : Char) (s W W' : List Char) :
    startsTriple (c :: (s ++ ' ' :: W)) = startsTriple (c :: (s ++ ' ' :: W')) := by
  cases s with
  | nil => simp [startsTriple]
  | cons a s' =>
    cases s' with
    | nil => simp [startsTriple]
    | cons b s'' => simp only [List.cons_append, startsTriple_three]

/-- the steps inside the prefix do not depend on what follows the space behind it -/
theorem LexesNT.transfer {s : List Char} {ks : List TokenKind} (Z Z' : List Char) :
    LexesNT s (' ' :: Z) ks → LexesNT s (' ' :: Z') ks := by
  intro h
  generalize hY : (' ' :: Z) = Y at h
  induction h with
  | done Y => exact .done _
  | step c s Y ks hnt hlen _ ih =>
    subst hY
    have hnt' : startsTriple (c :: (s ++ ' ' :: Z')) = false := by
      rw [← startsTriple_space c s Z Z']; simpa using hnt
    have hlen' : (lexOne (c :: ((s ++ [' ']) ++ Z))).len ≤ (s ++ [' ']).length := by
      have : stepLen (c :: (s ++ ' ' :: Z)) ≤ (c :: s).length := by simpa using hlen
      simp only [stepLen, List.length_cons] at this
      simp only [List.append_assoc, List.cons_append, List.nil_append, List.length_append, List.length_cons, List.length_nil]
      omega
    have hloc := lexOne_local c (s ++ [' ']) Z Z' (by simpa using hnt) (by simpa using hnt') hlen'
    simp only [List.append_assoc, List.cons_append, List.nil_append] at hloc
    have hstep : stepLen (c :: s ++ ' ' :: Z') = stepLen (c :: s ++ ' ' :: Z) := by
      simp only [stepLen, List.cons_append, hloc]
    have := LexesNT.step c s (' ' :: Z') ks (by simpa using hnt') (by rw [hstep]; exact hlen)
      (by rw [hstep]; exact ih rfl)
    simp only [List.cons_append] at this ⊢
    rw [hloc] at this
    exact this

/-- Behind the space that follows a prefix the lexer splits off, the rest of the file can be replaced
    by any text with the same token kinds. -/
theorem kindsFrom_behind_space {s₁ s₂ Z : List Char} {ks : List TokenKind}
    (hsplit : LexesNT s₁ (' ' :: s₂) ks) (hZ : kindsFrom Z = kindsFrom s₂) :
    kindsFrom (s₁ ++ ' ' :: Z) = kindsFrom (s₁ ++ ' ' :: s₂) := by
  rw [kindsFrom_of_Lexes (hsplit.transfer s₂ Z).toLexes, kindsFrom_of_Lexes hsplit.toLexes,
    (C29_blank_skipped _).1, (C29_blank_skipped _).1, hZ]

/-- **Block comment at a token boundary.** Take any file `s₁ ++ " " ++ s₂` that the lexer splits
    after `s₁` (every token, comment and blank beginning in `s₁` ends in `s₁`; none of them is a
    triple-quoted literal).  Writing a block comment — any text without `*/` — behind that space
    changes no token kind of the file. -/
theorem C29_block_comment_insertion (s₁ s₂ c : List Char) (ks : List TokenKind) (h : noClose c = true)
    (hsplit : LexesNT s₁ (' ' :: s₂) ks) :
    kindsFrom (s₁ ++ ' ' :: '/' :: '*' :: (c ++ '*' :: '/' :: s₂)) = kindsFrom (s₁ ++ ' ' :: s₂) :=
  kindsFrom_behind_space hsplit (C29_block_comment_skipped c s₂ h)

/-- **Line comment at a token boundary.** The same for a `//` comment (text without newline) written
    behind the space when the rest of the file begins with a line break or is empty. -/
theorem C29_line_comment_insertion (s₁ s₂ c : List Char) (ks : List TokenKind) (hc : ∀ x ∈ c, x ≠ '\n')
    (hs₂ : s₂ = [] ∨ ∃ r, s₂ = '\n' :: r) (hsplit : LexesNT s₁ (' ' :: s₂) ks) :
    kindsFrom (s₁ ++ ' ' :: '/' :: '/' :: (c ++ s₂)) = kindsFrom (s₁ ++ ' ' :: s₂) :=
  kindsFrom_behind_space hsplit (C29_line_comment_skipped c s₂ hc hs₂)

-- non-vacuity
theorem lexesNT_x_plus : LexesNT "x +".toList (' ' :: "y".toList) [.ident ['x'], .plus] := by
  refine .step 'x' _ _ _ (by decide +kernel) (by decide +kernel) (.step ' ' _ _ _ (by decide +kernel) (by decide +kernel)
    (.step '+' _ _ _ (by decide +kernel) (by decide +kernel) (.done _)))
example : LexesNT "x +".toList (' ' :: "y".toList) [.ident ['x'], .plus] := lexesNT_x_plus
example : noClose "a * b / c \" ' é \n **".toList = true := by decide +kernel
example : Lexes "x +".toList " y".toList [.ident ['x'], .plus] := lexesNT_x_plus.toLexes
example : kindsFrom "a /* x * y */ b".toList = kindsFrom "a   b".toList := by decide +kernel

end Abra.Lex

namespace Abra.Pratt

/-- what stands between two items: the separator or a newline, then `nls` further newlines -/
structure Gap where
  comma : Bool
  nls : Nat

def Gap.toks (g : Gap) : List Tok := (if g.comma then Tok.comma else Tok.nl) :: List.replicate g.nls .nl

/-- the items printed with a chosen gap between consecutive items (`,` when the list of gaps runs out) -/
def printArgsWith : Args → List Gap → List Tok
  | .nil, _ => []
  | .cons e .nil, _ => e.print
  | .cons e es, [] => e.print ++ .comma :: printArgsWith es []
  | .cons e es, g :: gs => e.print ++ g.toks ++ printArgsWith es gs

theorem PL.trailing {mode : FoldMode} {close : Tok} (hc : close = .rparen ∨ close = .rbrack)
    (trail : Option Gap) (rest : List Tok) :
    PL mode close ((match trail with | some g => List.replicate g.nls .nl | none => []) ++ close :: rest)
      (.ok .nil rest) := by
  have base : PL mode close (close :: rest) (.ok .nil rest) :=
    PL.nil (by rcases hc with rfl | rfl <;> rfl)
  cases trail with
  | none => exact base
  | some g => exact PL.skip_front base

theorem printArgsWith_nil : (as : Args) → printArgsWith as [] = as.print
  | .nil => rfl
  | .cons e .nil => by rw [printArgsWith, Args.print]
  | .cons e (.cons e2 es) => by
    rw [printArgsWith, printArgsWith_nil (.cons e2 es), Args.print_cons_cons]
    intro h; cases h

theorem args_sep (mode : FoldMode) (hm : mode ≠ .always) : (as : Args) → as.WF → ∀ (gs : List Gap)
    (close : Tok) (rest : List Tok), (close = .rparen ∨ close = .rbrack) →
    PL mode close (printArgsWith as gs ++ close :: rest) (.ok as rest)
  | as, hwf, [], close, rest, hc => printArgsWith_nil as ▸ main_args mode hm as hwf close rest hc
  | .nil, hwf, _ :: _, close, rest, hc => main_args mode hm .nil hwf close rest hc
  | .cons e .nil, hwf, _ :: _, close, rest, hc => main_args mode hm (.cons e .nil) hwf close rest hc
  | .cons e (.cons e2 es), hwf, g :: gs, close, rest, hc => by
    have hpr : printArgsWith (.cons e (.cons e2 es)) (g :: gs) =
        e.print ++ g.toks ++ printArgsWith (.cons e2 es) gs := by
      rw [printArgsWith]; intro h; cases h
    rw [hpr, Gap.toks, List.append_assoc, List.append_assoc, List.cons_append]
    exact PL.item_cons (main_expr mode hm e hwf.1) hc (by cases g.comma; exact .inr rfl; exact .inl rfl)
      (PL.skip_front (args_sep mode hm (.cons e2 es) hwf.2 gs close rest hc))

/-- **Separator choice.** For every list of items and every choice, between consecutive items, of the
    separator `,` or a newline followed by any number of blank lines (and any number of newlines
    before the first item), `parse_delimited_list` yields exactly the same items as for the plain
    `,`-separated spelling (`main_args`), for both closing delimiters. -/
theorem C29_separator_choice (as : Args) (h : as.WF) (lead : Nat) (gs : List Gap) (close : Tok)
    (hc : close = .rparen ∨ close = .rbrack) (rest : List Tok) :
    PL codeFoldMode close (List.replicate lead .nl ++ (printArgsWith as gs ++ close :: rest)) (.ok as rest) ∧
    PL codeFoldMode close (as.print ++ close :: rest) (.ok as rest) :=
  ⟨PL.skip_front (args_sep codeFoldMode (by decide) as h gs close rest hc),
    main_args codeFoldMode (by decide) as h close rest hc⟩

/-- the list `[1, 2 ⏎ 3, ⏎ ⏎ 4]` of the probe: same items as `[1, 2, 3, 4]` -/
example : parseExpr [.lbrack, .atom (.int 1), .comma, .atom (.int 2), .nl, .atom (.int 3), .comma, .nl, .nl,
      .atom (.int 4), .rbrack] =
    parseExpr [.lbrack, .atom (.int 1), .comma, .atom (.int 2), .comma, .atom (.int 3), .comma, .atom (.int 4), .rbrack] := by
  rfl

end Abra.Pratt

namespace Abra.TopLevel

/-- how one top-level item is written: blank lines in front, the item, optionally `;` directly behind
    it, then any number of line breaks -/
structure ItemLayout where
  lead : Nat
  semi : Bool
  trail : Nat

def ItemLayout.toks (l : ItemLayout) : List TTok :=
  List.replicate l.lead .nl ++ .item :: ((if l.semi then [.semi] else []) ++ List.replicate l.trail .nl)

theorem accepted_nls (k : Nat) (r : List TTok) : accepted (List.replicate k .nl ++ r) = accepted r := by
  induction k with
  | zero => rfl
  | succ k ih => simp [List.replicate_succ, accepted, ih]

/-- **Terminators at top level.** Every file made of items, each optionally terminated by `;` and
    followed by any number of line breaks (also after the LAST item, before the end of input, and
    also with no line break at all behind the final `;`), is accepted: the optional `;` never
    decides whether a file parses. -/
theorem C29_toplevel_terminator (ls : List ItemLayout) : accepted (ls.flatMap ItemLayout.toks) = true := by
  induction ls with
  | nil => rfl
  | cons l ls ih =>
    simp only [List.flatMap_cons, ItemLayout.toks, List.append_assoc, accepted_nls]
    cases l.semi
    · simp only [Bool.false_eq_true, if_false, List.nil_append, List.cons_append]
      cases ht : l.trail with
      | zero =>
        simp only [List.replicate_zero, List.nil_append]
        cases hr : ls.flatMap ItemLayout.toks with
        | nil => simp [accepted]
        | cons t r =>
          rw [hr] at ih
          cases t with
          -- what follows cannot begin with `;`: it is accepted (`ih`)
          | semi => simp [accepted] at ih
          | item => simpa [accepted] using ih
          | nl => simpa [accepted] using ih
      | succ k =>
        rw [List.replicate_succ]
        simp only [List.cons_append, accepted]
        rw [accepted_nls]; exact ih
    · simp only [if_true, List.cons_append, List.nil_append, accepted]
      rw [accepted_nls]; exact ih

/-- …while a `;` that does not directly follow an item is a diagnostic: at the start of the file,
    on a line of its own, or doubled. -/
theorem C29_stray_semicolon_rejected (r : List TTok) (k : Nat) :
    accepted (.semi :: r) = false ∧ accepted (.item :: .semi :: .semi :: r) = false ∧
      accepted (.item :: .nl :: (List.replicate k .nl ++ .semi :: r)) = false := by
  refine ⟨rfl, rfl, ?_⟩
  simp only [accepted]
  rw [accepted_nls]; rfl

end Abra.TopLevel
