import AbraProofs.Lemmas.Completion
import AbraProofs.Lemmas.SpanTree
/-! C34 — editor analysis never crashes on incomplete code (partial).

   Theorems: the two places of `completions_at` that can panic cannot (index in bounds; the `str` slice ends
   on char boundaries — stated with core's `String.Pos.Raw.IsValid`, "the bytes before the position are valid
   UTF-8", for every Lean `String`, i.e. every valid UTF-8 text); the AST searches behind `definition_at` /
   `type_at` are total at every offset.  Everything else (the analysis of partial ASTs) is covered by the
   crash search only. -/
namespace Abra.Completion

/-- the scan is total on arbitrary bytes: started at a `.` inside the buffer it never indexes out of bounds -/
theorem C34_completion_scan_inbounds (bs : ByteArray) (offset : Nat) : completionScan bs offset ≠ .panic := by
  unfold completionScan
  split
  · rename_i hc
    obtain ⟨hi, _⟩ := byteAt_some hc.2
    obtain ⟨a, ha, _, _⟩ := scanBack_spec bs (offset - 1) (Nat.le_of_lt hi)
    rw [ha]
    dsimp only; split <;> simp
  · simp

/-- For every valid UTF-8 text and every cursor offset (also past the end, also inside a multi-byte
    character): the backward scan never indexes out of bounds, and when a slice `&source[a..b]` is taken,
    `a < b < len` and both ends are char boundaries — so neither the index expression nor the slice panics. -/
theorem C34_completion_slice_safe (s : String) (offset : Nat) :
    completionScan s.toByteArray offset ≠ .panic ∧
    ∀ a b, completionScan s.toByteArray offset = .slice a b →
      a < b ∧ b < s.utf8ByteSize ∧ (⟨a⟩ : String.Pos.Raw).IsValid s ∧ (⟨b⟩ : String.Pos.Raw).IsValid s := by
  refine ⟨C34_completion_scan_inbounds s.toByteArray offset, fun a b h => ?_⟩
  obtain ⟨_, hab, hb, hdot, hall⟩ := completionScan_slice h
  obtain ⟨ha, hid⟩ := hall a (Nat.le_refl a) hab
  -- the slice starts at an identifier byte (ASCII) and ends at the `.`
  have hvalid : ∀ p (hp : p < s.toByteArray.size), s.toByteArray[p].IsUTF8FirstByte →
      (⟨p⟩ : String.Pos.Raw).IsValid s := fun p hp hf =>
    String.Pos.Raw.isValid_iff_isUTF8FirstByte.2 (Or.inr ⟨hp, by rw [String.getUTF8Byte_eq_getElem]; exact hf⟩)
  exact ⟨hab, hb, hvalid a ha (identByte_first _ hid), hvalid b hb (hdot ▸ dot_first)⟩

/-! non-vacuity: `"é.x"`-like texts — a slice is taken, and a cursor inside a multi-byte character is harmless -/
example : completionScan "ab.".toByteArray 3 = .slice 0 2 := by decide +kernel
example : completionScan "é.".toByteArray 3 = .noIdent := by decide +kernel
example : completionScan "éa.".toByteArray 4 = .slice 2 3 := by decide +kernel
example : completionScan "é.".toByteArray 1 = .fileScope := by decide +kernel
example : completionScan "a.".toByteArray 9 = .fileScope := by decide +kernel

end Abra.Completion

namespace Abra.SpanTree

/-- Whenever the model has a plan for the rendered file (`identPlan` / `innerPlan` succeed, i.e. every node has a
    shape the model knows), the corresponding search returns an answer (a node or nothing) at every offset:
    there is no offset, inside or past the file, at which it is undefined.  (What the answer is past the end
    is `C34_findNode_none_past_end`.) -/
theorem C34_findNode_total (file : Ast) (off : Nat) :
    ((identPlan file).isSome → ∃ r, findIdentifier file off = some r) ∧
    ((innerPlan file).isSome → ∃ r, findInnermost file off = some r) := by
  constructor
  · intro h
    obtain ⟨t, ht⟩ := Option.isSome_iff_exists.1 h
    exact ⟨search off t, by simp [findIdentifier, ht]⟩
  · intro h
    obtain ⟨t, ht⟩ := Option.isSome_iff_exists.1 h
    exact ⟨searchI off t, by simp [findInnermost, ht]⟩

theorem C34_findNode_none_past_end (t : STree) (n : Nat) (hb : ∀ off id, Hit off id t → off < n)
    (off : Nat) (h : n ≤ off) : search off t = none :=
  search_past_end t n hb off h

example : ∀ off id, Hit off id (.node (some (0, 4)) false [.ident 1 3 7]) → off < 4 := by
  rintro off id (⟨_, _, h⟩ | ⟨⟨⟩⟩)
  omega

end Abra.SpanTree
