import AbraProofs.Lemmas.SpanTreeWF
/-! C35 — go-to-definition and hover agree with the compiler (partial).

   Theorems: the two AST searches behind `definition_at` / `type_at`
   (`lsp_helper.rs: find_identifier_at_offset, find_innermost_node_at_offset`), modelled in
   `AbraModel/SpanTree.lean`, return what their purpose says, at every offset.
   Not a theorem (checked by the correspondence only): that `resolution_map` holds the innermost visible
   declaration (C21 has the model of that), that `declaration_location` returns the declaration's own
   span, and the types the checker solved. -/
namespace Abra.SpanTree

/-- On a search tree whose identifier spans are pairwise disjoint (`Unique`) and lie inside the ranges of
    the nodes above them (`Nested`; `CutOK`: a match arm does not overlap the arms after it) the identifier
    search returns the identifier whose span contains the offset, if there is one, and nothing otherwise. -/
theorem C35_search_spec (t : STree) (hn : Nested t) (hc : CutOK t) (hu : Unique t) (off : Nat) :
    (∀ id, search off t = some id ↔ Hit off id t) ∧ (search off t = none ↔ ∀ id, ¬ Hit off id t) :=
  search_spec t hn hc hu off

/-- The same for a parsed file: `find_identifier_at_offset` on the rendering `file` of the AST. -/
theorem C35_findIdentifier_spec (file : Ast) (t : STree) (hp : identPlan file = some t)
    (hn : Nested t) (hc : CutOK t) (hu : Unique t) (off : Nat) :
    (∀ id, findIdentifier file off = some (some id) ↔ Hit off id t) ∧
    (findIdentifier file off = some none ↔ ∀ id, ¬ Hit off id t) := by
  have h := search_spec t hn hc hu off
  simp only [findIdentifier, hp, Option.map_some, Option.some.injEq]
  exact h

/-- Without any hypothesis on the tree: what the identifier search returns is an identifier of the tree
    whose span contains the offset (so go-to-definition never answers for a place the cursor is not on). -/
theorem C35_search_sound (t : STree) (off id : Nat) (h : search off t = some id) : Hit off id t :=
  search_sound off id t h

/-- The node returned by the innermost-node search contains the offset and no node below it does. -/
theorem C35_searchI_spec (t : ITree) (hn : NestedI t) (off id : Nat) (h : searchI off t = some id) :
    Innermost off id t ∧ Cand off id t :=
  ⟨searchI_sound off id t hn h, Innermost.cand off id t (searchI_sound off id t hn h)⟩

/-- Without any hypothesis on the tree (the spans the parser handed out were not always nested: D60 and D106,
    both repaired since): the node returned is *reachable* at the offset — its own span and the spans of all nodes
    above it contain the offset — and no node below it is; and the search answers exactly when some node is
    reachable.  On a properly nested tree "reachable" is "its span contains the offset" (`reach_iff_cand`). -/
theorem C35_searchI_spec_unconditional (t : ITree) (off : Nat) :
    (∀ id, searchI off t = some id → InnermostR off id t ∧ Reach off id t) ∧
    ((∃ id, searchI off t = some id) ↔ ∃ id, Reach off id t) := by
  refine ⟨fun id h => ⟨(searchI_reach off t).1 id h, InnermostR.reach off id t ((searchI_reach off t).1 id h)⟩, ?_, ?_⟩
  · rintro ⟨id, h⟩
    exact ⟨id, InnermostR.reach off id t ((searchI_reach off t).1 id h)⟩
  · rintro ⟨id, h⟩
    cases hs : searchI off t with
    | some r => exact ⟨r, rfl⟩
    | none => exact absurd h ((searchI_reach off t).2 hs id)

/-- The same for a parsed file: `find_innermost_node_at_offset`. -/
theorem C35_findInnermost_spec (file : Ast) (t : ITree) (hp : innerPlan file = some t) (hn : NestedI t)
    (off id : Nat) (h : findInnermost file off = some (some id)) : Innermost off id t ∧ Cand off id t := by
  simp only [findInnermost, hp, Option.map_some, Option.some.injEq] at h
  exact C35_searchI_spec t hn off id h

/-- The innermost-node search answers exactly when some node contains the offset. -/
theorem C35_searchI_answers_iff (t : ITree) (hn : NestedI t) (off : Nat) :
    (∃ id, searchI off t = some id) ↔ ∃ id, Cand off id t := by
  constructor
  · rintro ⟨id, h⟩
    exact ⟨id, (C35_searchI_spec t hn off id h).2⟩
  · rintro ⟨id, h⟩
    exact searchI_complete off id t hn h

/-- If every identifier span of the tree ends at or before `n` (hypothesis `hb`), the identifier search answers
    `none` at every offset `off ≥ n` — in particular past the end of the file.  (That the searches are defined
    at every offset is immediate: they are total functions.) -/
theorem C35_search_past_end (t : STree) (n : Nat) (hb : ∀ off id, Hit off id t → off < n)
    (off : Nat) (h : n ≤ off) : search off t = none :=
  search_past_end t n hb off h

theorem C35_searchI_past_end (t : ITree) (hn : NestedI t) (n : Nat) (hb : ∀ off id, Cand off id t → off < n)
    (off : Nat) (h : n ≤ off) : searchI off t = none := by
  cases hs : searchI off t with
  | none => rfl
  | some id => exact absurd (hb off id (C35_searchI_spec t hn off id hs).2) (Nat.not_lt.2 h)

/-- The hypotheses are decidable per tree: when the executable check `wfB` (reported by the driver for
    every tree of the correspondence) accepts a search tree, the identifier search on it is exactly
    "the identifier whose span contains the offset, else nothing". -/
theorem C35_search_spec_checked (t : STree) (h : wfB t = true) (off : Nat) :
    (∀ id, search off t = some id ↔ Hit off id t) ∧ (search off t = none ↔ ∀ id, ¬ Hit off id t) := by
  obtain ⟨hn, hc, hu⟩ := wfB_sound t h
  exact search_spec t hn hc hu off

/-- likewise for the innermost-node search and the executable check `nestedIB` -/
theorem C35_searchI_spec_checked (t : ITree) (h : nestedIB t = true) (off id : Nat)
    (hs : searchI off t = some id) : Innermost off id t ∧ Cand off id t :=
  C35_searchI_spec t (nestedIB_sound t h) off id hs

/-! ### non-vacuity -/

/-- `f(a, b)` inside an item `[0, 10)`: identifiers `f`=[0,1) id 1, `a`=[2,3) id 2, `b`=[5,6) id 3 -/
def exS : STree := .node (some (0, 10)) false [.ident 0 1 1, .node none false [.ident 2 3 2, .ident 5 6 3]]

theorem exS_hit (off id : Nat) :
    Hit off id exS ↔ (id = 1 ∧ off < 1) ∨ (id = 2 ∧ 2 ≤ off ∧ off < 3) ∨ (id = 3 ∧ 5 ≤ off ∧ off < 6) := by
  rw [hit_iff]
  show (∃ e ∈ [(0, 1, 1), (2, 3, 2), (5, 6, 3)], _) ↔ _
  simp only [List.mem_cons, List.not_mem_nil, or_false, exists_eq_or_imp, exists_eq_left, Nat.zero_le, true_and,
    eq_comm (b := id)]

example : Nested exS ∧ CutOK exS ∧ Unique exS := wfB_sound exS (by decide +kernel)

example : wfB exS = true := by decide +kernel

example : search 5 exS = some 3 ∧ search 4 exS = none ∧ search 12 exS = none := by decide +kernel

/-- a match arm `[0, 4)` (cut) holding an identifier [1,2), followed by a sibling [6,7) -/
example : CutOK (.node none false [.node (some (0, 4)) true [.ident 1 2 1], .ident 6 7 2]) :=
  cutB_sound _ (by decide +kernel)

/-- `x + 1` as a statement `[0, 5)`: BinOp id 9 over Variable [0,1) id 7 and Int [4,5) id 8 -/
def exI : ITree := .node (some (0, 5)) none [.node (some (0, 5)) (some 9) [.leaf 0 1 7, .leaf 4 5 8]]

example : NestedI exI := nestedIB_sound exI (by decide +kernel)

example : nestedIB exI = true := by decide +kernel

example : searchI 0 exI = some 7 ∧ searchI 2 exI = some 9 ∧ searchI 5 exI = none := by decide +kernel

example : ∃ id, Cand 2 id exI := ⟨9, .inr (.inl (.inl ⟨rfl, rfl⟩))⟩

end Abra.SpanTree
