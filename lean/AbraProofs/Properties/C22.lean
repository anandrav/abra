import AbraProofs.Lemmas.Mono
/-!
# C22 — generic and interface calls dispatch to the concrete type's code (selection logic; partial)

Model: `Abra.Mono` (`MonomorphEnv::update`, `Type::subst`, `extract_impl_ty…`, `SolvedType::key`,
`TypeKey::fits_impl_ty`, `get_iface_impl_for_type`, `get_func_label`).  The theorems hold for all
types of the model's type language, all substitutions, all lists of implementations and all
sequences of label requests.  "Behaves as if written by hand" is covered by the correspondence
only: the claim is the selection logic.
-/
namespace Abra.Mono

/-- Monomorphisation recovers the instance: if `inst` is a substitution instance of `sig`
    (`inst = σ(sig)`), the environment built by `update ∅ sig inst` instantiates every type that
    only mentions the signature's variables (the body of the generic function) by `σ`… -/
theorem C22_subst_update_body (σ : Nat → Ty) (sig body : Ty)
    (hsub : ∀ p ∈ polys body, p ∈ polys sig) :
    subst (update [] sig (applySubst σ sig)) body = applySubst σ body :=
  have h := update_ok σ [] (fun _ _ hp => nomatch hp) sig
  subst_eq_applySubst σ _ body fun p hp => h.bound p (hsub p hp)

/-- …in particular it maps `sig` back to `inst`. -/
theorem C22_subst_update (σ : Nat → Ty) (sig : Ty) :
    subst (update [] sig (applySubst σ sig)) sig = applySubst σ sig :=
  C22_subst_update_body σ sig sig fun _ hp => hp

theorem isSelf_iff (t : Ty) : isSelf t = true ↔ t = .poly 0 := by
  unfold isSelf
  split
  · exact ⟨fun _ => rfl, fun _ => rfl⟩
  · rename_i hne; exact ⟨fun h => (nomatch h), fun h => absurd h hne⟩

theorem firstSelf_applySubst (σ : Nat → Ty) (args : List Ty) :
    firstSelf args (applySubstList σ args) = if args.any isSelf then some (σ 0) else none := by
  induction args with
  | nil => rfl
  | cons a as ih =>
    show (if isSelf a then some (applySubst σ a) else firstSelf as (applySubstList σ as)) = _
    rw [ih, List.any_cons]
    cases ha : isSelf a
    · rfl
    · rw [(isSelf_iff a).1 ha]; rfl

theorem extractImplTy_applySubst (σ : Nat → Ty) (args : List Ty) (out : Ty) :
    extractImplTy (.func args out) (applySubst σ (.func args out)) =
      if args.any isSelf || isSelf out then some (σ 0) else none := by
  show (match firstSelf args (applySubstList σ args) with
    | some t => some t
    | none => if isSelf out then some (applySubst σ out) else none) = _
  rw [firstSelf_applySubst]
  cases args.any isSelf
  · cases ho : isSelf out
    · rfl
    · rw [(isSelf_iff out).1 ho]; rfl
  · rfl

/-- `extract_impl_ty` returns the component of the instance at the position of `Self` in the
    method signature, i.e. the type `Self` stands for at this call. -/
theorem C22_impl_ty_extract (σ : Nat → Ty) (args : List Ty) (out : Ty)
    (h : args.any isSelf = true ∨ isSelf out = true) :
    extractImplTy (.func args out) (applySubst σ (.func args out)) = some (σ 0) := by
  rw [extractImplTy_applySubst, if_pos (by simpa using h)]

theorem fits_key (k : Key) (ty : Ty) (h : fits k ty = true) : ty.key = k := by
  unfold fits at h
  -- the scalar rows, the rows that compare a count or an id, the fall-through row
  split at h <;> first | rfl | exact congrArg _ (of_decide_eq_true h).symm | cases h

theorem fits_of_key (ty : Ty) (hnp : ∀ p, ty ≠ .poly p) : fits ty.key ty = true := by
  cases ty with
  | poly p => exact absurd rfl (hnp p)
  | nominal | func | tuple => exact decide_eq_true rfl
  | _ => rfl

theorem selectImpl_eq_findIdx? (impls : List Ty) (k : Key) : selectImpl impls k = impls.findIdx? (fits k) := by
  induction impls with
  | nil => rfl
  | cons t ts ih => rw [List.findIdx?_cons, ← ih]; rfl

theorem selectImpl_spec (impls : List Ty) (k : Key) (i : Nat) (h : selectImpl impls k = some i) :
    ∃ hi : i < impls.length, fits k impls[i] = true ∧
      ∀ j (hj : j < i), fits k (impls[j]'(Nat.lt_trans hj hi)) = false := by
  rw [selectImpl_eq_findIdx?, List.findIdx?_eq_some_iff_getElem] at h
  obtain ⟨hi, h1, h2⟩ := h
  exact ⟨hi, h1, fun j hj => Bool.eq_false_iff.2 (h2 j hj)⟩

/-- `get_iface_impl_for_type` returns an implementation whose type has the key of the concrete
    type (the first such in declaration order)… -/
theorem C22_impl_selected (impls : List Ty) (t : Ty) (i : Nat)
    (h : selectImpl impls t.key = some i) :
    ∃ hi : i < impls.length, (impls[i]).key = t.key ∧
      ∀ j (hj : j < i), fits t.key (impls[j]'(by omega)) = false := by
  obtain ⟨hi, h1, h2⟩ := selectImpl_spec impls t.key i h
  exact ⟨hi, fits_key _ _ h1, h2⟩

/-- …and when the implementations have pairwise different keys (no overlapping implementations)
    the implementation declared for the concrete type's key is the one selected. -/
theorem C22_impl_selected_unique (impls : List Ty) (t : Ty) (i : Nat) (hi : i < impls.length)
    (hnd : (impls.map Ty.key).Nodup) (hkey : (impls[i]).key = t.key) (hnp : ∀ p, impls[i] ≠ .poly p) :
    selectImpl impls t.key = some i := by
  rw [selectImpl_eq_findIdx?, List.findIdx?_eq_some_iff_getElem]
  refine ⟨hi, hkey ▸ fits_of_key _ hnp, fun j hj hf => ?_⟩
  -- an earlier implementation that fits has the same key as `impls[i]`
  have hk : (impls.map Ty.key)[j]'(by rw [List.length_map]; exact Nat.lt_trans hj hi) =
      (impls.map Ty.key)[i]'(by rw [List.length_map]; exact hi) := by
    rw [List.getElem_map, List.getElem_map, fits_key _ _ hf, hkey]
  exact absurd ((List.getElem_inj hnd).1 hk) (Nat.ne_of_lt hj)

/-- The whole chain inside the code generated for the instance `σ(sig)`: the implementation is
    selected by the key of the type `Self` stands for after instantiation. -/
theorem C22_dispatch (σ : Nat → Ty) (sig msig callTy : Ty) (impls : List Ty)
    (hsub : ∀ p ∈ polys callTy, p ∈ polys sig) :
    dispatch sig (applySubst σ sig) msig callTy impls =
      selectFor impls (extractImplTy msig (applySubst σ callTy)) := by
  simp only [dispatch, C22_subst_update_body σ sig callTy hsub]

/-- the method of the implementation is the one with the interface method's name -/
theorem C22_method_by_name {ν : Type} [DecidableEq ν] (iface impl : List ν) (idx j : Nat)
    (h : methodByName iface impl idx = some j) :
    ∃ (hj : j < impl.length) (hi : idx < iface.length), impl[j] = iface[idx] := by
  unfold methodByName at h
  cases hi : iface[idx]? with
  | none => simp [hi] at h
  | some name =>
    simp only [hi] at h
    obtain ⟨hlt, hname⟩ := List.getElem?_eq_some_iff.1 hi
    obtain ⟨hj, hp, _⟩ := List.findIdx?_eq_some_iff_getElem.1 h
    exact ⟨hj, hlt, by simpa [hname] using hp⟩

/-- D48 (repaired in /repo): selecting by position, as the code did before, differs as soon as the
    implementation lists its methods in another order than the interface -/
theorem C22_method_by_position_counterexample :
    methodByPosition ["sides", "area"] 0 = some 0 ∧ methodByName ["area", "sides"] ["sides", "area"] 0 = some 1 := by
  decide

/-- In the model an interface method used as a function value is dispatched exactly like a call of
    that method: `dispatchValue` / `methodOfValue` are defined by the same expressions as `dispatch` /
    `methodByName`, so this equation holds by `rfl` — it records the modelling decision, it is not
    evidence about the code.  That /repo's value path (`translate_declaration`, InterfaceMethod arm)
    really behaves like its call path is checked only by the `monov` correspondence (method values
    at implementations with permuted method order). -/
theorem C22_method_value_eq_call {ν : Type} [DecidableEq ν] (sig inst msig ty : Ty) (impls : List Ty)
    (ifaceMethods implMethods : List ν) (idx : Nat) :
    dispatchValue sig inst msig ty impls = dispatch sig inst msig ty impls ∧
      methodOfValue ifaceMethods implMethods idx = methodByName ifaceMethods implMethods idx :=
  ⟨rfl, rfl⟩

/-- so `C22_method_by_name` also holds for method values -/
theorem C22_method_value_by_name {ν : Type} [DecidableEq ν] (iface impl : List ν) (idx j : Nat)
    (h : methodOfValue iface impl idx = some j) :
    ∃ (hj : j < impl.length) (hi : idx < iface.length), impl[j] = iface[idx] :=
  C22_method_by_name iface impl idx j h

/-- Every operator on a non-builtin operand type is lowered to a method that exists in its prelude
    interface, and a compound assignment uses the very method of the plain operator. -/
theorem C22_operator_method (o : Oper) :
    o.method.2 ∈ ifaceMethods o.method.1 ∧
      (o.compound = true → compoundMethod o = some o.method) :=
  ⟨by cases o <;> simp only [Oper.method, ifaceMethods, List.mem_cons, true_or, or_true],
    fun h => if_pos h⟩

/-- the arithmetic operator a method name of `Num` stands for -/
def numOper : String → Oper
  | "add" => .add | "subtract" => .sub | "multiply" => .mul | "divide" => .div | _ => .pow

theorem numOper_method (o : Oper) (h : o.method.1 = "Num") : numOper o.method.2 = o := by
  cases o <;> simp [Oper.method, numOper] at h ⊢

/-- the arithmetic operators reach five different methods of `Num` (no two operators share one) -/
theorem C22_num_operators_distinct (a b : Oper) (ha : a.method.1 = "Num") (hb : b.method.1 = "Num")
    (h : a.method = b.method) : a = b := by
  rw [← numOper_method a ha, h, numOper_method b hb]

/-- states reachable from the empty map by label requests -/
inductive Reachable : LabelState → Prop where
  | init : Reachable { map := [], counter := 1 }
  | step {st : LabelState} (d : Desc) : Reachable st → Reachable (getLabel st d).2

/-- the hint of a recorded label is a function of its descriptor; a plain one carries no counter value,
    any other a value below the state's counter -/
structure LabelInv (st : LabelState) : Prop where
  shape : ∀ e ∈ st.map,
      e.2.hint = (e.1.func, (if e.1.plain then none else e.1.mono), (if e.1.plain then [] else e.1.captures.map (·.1))) ∧
      (e.1.plain = true → e.2.id = none) ∧ (e.1.plain = false → ∃ i, e.2.id = some i ∧ i < st.counter)

theorem labelInv_reachable (st : LabelState) (h : Reachable st) : LabelInv st := by
  induction h with
  | init => exact ⟨fun e he => by cases he⟩
  | @step st d _ ih =>
    unfold getLabel
    cases hf : st.find d with
    | some l => simpa using ih
    | none =>
      cases hp : d.plain with
      | true =>
        simp only [if_true]
        constructor
        intro e he
        rcases List.mem_cons.1 he with rfl | he
        · simp [hp]
        · exact ih.shape e he
      | false =>
        simp only [Bool.false_eq_true, if_false]
        constructor
        intro e he
        rcases List.mem_cons.1 he with rfl | he
        · simp [hp]
        · obtain ⟨h1, h2, h3⟩ := ih.shape e he
          refine ⟨h1, h2, fun hne => ?_⟩
          obtain ⟨i, hi1, hi2⟩ := h3 hne
          exact ⟨i, hi1, Nat.lt_succ_of_lt hi2⟩

/-- Two instantiations recorded in the function map carry the same label only if the function
    coincides and — unless both keep the plain name — also the monotype and the concrete types of
    ALL captures; a plain and a non-plain descriptor never share a label. -/
theorem C22_label_injective (st : LabelState) (h : Reachable st) (e1 e2 : Desc × Label)
    (h1 : e1 ∈ st.map) (h2 : e2 ∈ st.map) (hl : e1.2 = e2.2) :
    e1.1.func = e2.1.func ∧ e1.1.plain = e2.1.plain ∧
      (e1.1.plain = false → e1.1.mono = e2.1.mono ∧ e1.1.captures.map (·.1) = e2.1.captures.map (·.1)) := by
  have inv := labelInv_reachable st h
  obtain ⟨a1, b1, c1⟩ := inv.shape e1 h1
  obtain ⟨a2, b2, c2⟩ := inv.shape e2 h2
  have hplain : e1.1.plain = e2.1.plain := by
    cases p1 : e1.1.plain <;> cases p2 : e2.1.plain <;> try rfl
    · obtain ⟨i, hi, _⟩ := c1 p1
      rw [hl, b2 p2] at hi
      cases hi
    · obtain ⟨i, hi, _⟩ := c2 p2
      rw [← hl, b1 p1] at hi
      cases hi
  rw [hl, a2] at a1
  simp only [Prod.mk.injEq] at a1
  obtain ⟨hf, hm, hc⟩ := a1
  refine ⟨hf.symm, hplain, fun hne => ?_⟩
  have hne2 : e2.1.plain = false := by rw [← hplain]; exact hne
  simp only [hne, hne2, Bool.false_eq_true, if_false] at hm hc
  exact ⟨hm.symm, hc.symm⟩

/-- In particular: a lambda or task that captures at least one variable of generic type gets a
    different label for every instantiation in which the concrete type of ANY capture (or its own
    monotype) differs — also when its other captures are of concrete type and its own type
    mentions no type parameter. -/
theorem C22_label_per_instantiation (st : LabelState) (h : Reachable st) (e1 e2 : Desc × Label)
    (h1 : e1 ∈ st.map) (h2 : e2 ∈ st.map)
    (hov : e1.1.capturesOverloaded = true)
    (hdiff : e1.1.captures.map (·.1) ≠ e2.1.captures.map (·.1)) : e1.2 ≠ e2.2 := by
  intro hl
  obtain ⟨_, _, hc⟩ := C22_label_injective st h e1 e2 h1 h2 hl
  have hp : e1.1.plain = false := by simp [Desc.plain, hov]
  exact hdiff (hc hp).2

/-- The type component of a descriptor (`Ty.code`) identifies nominal types by their DECLARATION and
    is injective (`code_injective`); therefore, in the model, two instantiations of one generic
    function requested one after the other at two different types get two labels (different
    descriptors → a new `func_map` entry with a fresh counter) — in particular at two types that
    merely have the same unqualified name in two modules.  (In /repo the printed label text names
    such types alike; distinctness comes from the descriptor key and the counter, see `Mono.lean`.
    The tie to the code is the `monolabel` correspondence on programs with same-named types.) -/
theorem C22_label_qualified (f : Nat) (t1 t2 : Ty)
    (h : (twoLabels f t1 t2).1 = (twoLabels f t1 t2).2) : t1 = t2 := by
  unfold twoLabels getLabel at h
  simp only [LabelState.find, List.find?_nil, Option.map_none, descOf, Desc.plain, Option.isNone_some,
    Bool.false_and, Bool.false_eq_true, if_false, List.find?_cons] at h
  by_cases hd : ({ func := f, mono := some t1.code, captures := [] } : Desc) = { func := f, mono := some t2.code, captures := [] }
  · exact code_injective t1 t2 (by simpa using congrArg Desc.mono hd)
  · simp [hd] at h

/-- …whereas naming nominal types by an unqualified name (`short`) is not injective as soon as
    two different declarations share that name: the two renderings coincide -/
theorem C22_unqualified_label_clash (short : Nat → Nat) (a b : Nat) (hab : a ≠ b) (hs : short a = short b) :
    Ty.nominal a [] ≠ Ty.nominal b [] ∧
      Ty.codeBy short (Ty.nominal a []) = Ty.codeBy short (Ty.nominal b []) := by
  constructor
  · intro h; cases h; exact hab rfl
  · rw [codeBy_nominal, codeBy_nominal, hs]

theorem C22_label_stable (st : LabelState) (d : Desc) :
    (getLabel (getLabel st d).2 d).1 = (getLabel st d).1 := by
  unfold getLabel
  cases hf : st.find d with
  | some l => simp [hf]
  | none =>
    cases hp : d.plain with
    | true => simp [LabelState.find]
    | false => simp [LabelState.find]

/-! ### non-vacuity -/
private def sigShow : Ty := .func [.poly 1, .nominal 7 [.poly 2]] .string     -- fn g(x: T, ys: array<U>) -> string
private def σ1 : Nat → Ty := fun p => if p = 1 then .tuple [.int, .float] else if p = 2 then .nominal 9 [] else .void

example : subst (update [] sigShow (applySubst σ1 sigShow)) sigShow =
    .func [.tuple [.int, .float], .nominal 7 [.nominal 9 []]] .string := by
  rw [C22_subst_update]; rfl
example : ([Ty.poly 0, .int].any isSelf = true ∨ isSelf Ty.bool = true) := Or.inl rfl
example : selectImpl [.int, .tuple [.poly 1, .poly 2], .nominal 9 []] (Ty.tuple [.int, .float]).key = some 1 := by decide
example : Reachable (getLabel { map := [], counter := 1 } ⟨3, some [0], []⟩).2 := Reachable.step _ Reachable.init
/-- `fn labelled(v: T, prefix: string) { let render = () -> prefix .. str(v) … }` at Celsius and at
    Meters: the lambda (own type `() -> string`, captures `v: T` and `prefix: string`) gets two labels -/
private def dC : Desc := ⟨7, none, [((Ty.nominal 20 []).code, true), (Ty.string.code, false)]⟩
private def dM : Desc := ⟨7, none, [((Ty.nominal 21 []).code, true), (Ty.string.code, false)]⟩
example : (getLabel (getLabel { map := [], counter := 1 } dC).2 dM).1 ≠ (getLabel { map := [], counter := 1 } dC).1 := by decide
example : dC.capturesOverloaded = true := rfl

end Abra.Mono
