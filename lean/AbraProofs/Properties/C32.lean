import AbraProofs.Lemmas.SrcMap
/-!
# C32 — runtime errors report the failing file, line and call stack

Model: `Abra.SrcMap` (`create_source_location_tables`, `pc_to_error_location`, `make_stack_trace`, the
location order of `Display for VmError`).  All theorems quantify over *every* annotated line list
(any mix of labels and instructions, any annotations, any run lengths) and every reachable
control state; nothing is sampled.

What is *not* a theorem here (covered by the correspondence only): which (file, line, function) the code
generator attaches to an instruction, and that the peephole optimizer keeps the first instruction's
annotation for a fused window.
-/
namespace Abra.SrcMap

/-- **Tables + lookup.** For the tables built from ANY line list, looking up `pc + 1` (the VM's pc is
    already incremented when an instruction fails, and a frame stores the pc after its call) returns
    exactly the (file, line, function) annotation of instruction `pc`, for every `pc` in range — through
    both the `Ok` and the `Err` outcome of the binary search. -/
theorem C32_lookup_compress (ls : List SLine) (pc : Nat) (h : pc < (instrs ls).length) :
    lookup (build ls) (pc + 1) = some ((instrs ls)[pc]).1 := by
  simp only [lookup, build_files, build_lines, build_funcs, lookupCol_colOf _ ls pc h]

/-- both outcomes of the search occur: at a run boundary the search hits (`Ok`), inside a run it misses -/
example : search (build [.instr ⟨0, 1, 0⟩ .other, .instr ⟨0, 2, 0⟩ .other, .instr ⟨0, 2, 0⟩ .other]).lines 1
    = .ok 1 := rfl
example : search (build [.instr ⟨0, 1, 0⟩ .other, .instr ⟨0, 2, 0⟩ .other, .instr ⟨0, 2, 0⟩ .other]).lines 2
    = .err 2 := rfl
example : lookup (build [.instr ⟨0, 1, 0⟩ .other, .label, .instr ⟨0, 2, 5⟩ .call, .instr ⟨1, 2, 5⟩ .other]) 2
    = some ⟨0, 2, 5⟩ := rfl

/-- The invariant behind the trace: every saved pc of a reachable state is the successor of a call
    instruction's index, so it looks up to that call's annotation. -/
theorem lookup_frame (ls : List SLine) (s : CState) (h : Reachable (instrs ls) s) :
    ∀ r ∈ s.frames, ∃ a, (instrs ls)[r - 1]? = some (a, Kind.call) ∧ lookup (build ls) r = some a := by
  induction h with
  | start entry => exact nofun
  | step s s' _ hstep ih =>
    cases hstep with
    | call a target hfetch =>
      intro r hr
      rcases List.mem_append.1 hr with hr | hr
      · exact ih r hr
      · cases List.mem_singleton.1 hr
        obtain ⟨hlt, hget⟩ := List.getElem?_eq_some_iff.1 hfetch
        exact ⟨a, hfetch, by rw [C32_lookup_compress ls s.pc hlt, hget]⟩
    | ret a fs r hfetch hfs => exact fun r' hr' => ih r' (hfs ▸ List.mem_append_left _ hr')
    | other a next hfetch => exact ih

/-- **Frames.** In every state a thread can reach (any program, any interleaving of calls, returns,
    jumps), the `k`-th entry of `make_stack_trace` is the annotation of the `Call`/`CallFuncObj`
    instruction that created frame `k` — the call site, not the instruction after it. -/
theorem C32_trace_frames (ls : List SLine) (s : CState) (h : Reachable (instrs ls) s)
    (k : Nat) (hk : k < s.frames.length) :
    ∃ a, (instrs ls)[s.frames[k] - 1]? = some (a, Kind.call) ∧
         (stackTrace (build ls) s)[k]? = some (some a) := by
  obtain ⟨a, hfetch, hl⟩ := lookup_frame ls s h s.frames[k] (List.getElem_mem hk)
  exact ⟨a, hfetch, by rw [stackTrace, List.getElem?_map, List.getElem?_eq_getElem hk, ← hl]; rfl⟩

/-- call-site annotation of a saved pc -/
def callSite (prog : List (Ann × Kind)) (r : Nat) : Option Ann := (prog[r - 1]?).map (·.1)

/-- **Order.** When the instruction at `s.pc` of a reachable state fails, the printed location list is:
    first the annotation of the failing instruction itself, then the call sites of the active frames
    from the most recent call back to the oldest (`frames` is in call order — `Step.call` appends —
    so its reverse is innermost first). -/
theorem C32_trace_order (ls : List SLine) (s : CState) (h : Reachable (instrs ls) s)
    (hpc : s.pc < (instrs ls).length) :
    errorLocations (build ls) s =
      some ((instrs ls)[s.pc]).1 :: (s.frames.reverse.map (callSite (instrs ls))) := by
  rw [errorLocations, C32_lookup_compress ls s.pc hpc, stackTrace, ← List.map_reverse]
  congr 1
  apply List.map_congr_left
  intro r hr
  obtain ⟨a, hfetch, hl⟩ := lookup_frame ls s h r (List.mem_reverse.1 hr)
  rw [hl, callSite, hfetch]; rfl

/-- one `ret` step from the state right after a call (`frames ++ [pc + 1]`, any `target` holding a
    `ret` instruction) leads to `pc + 1` with the frames the caller had before the call.  (Only this single
    step is stated; that a whole callee body leaves the frames below its own untouched is not.) -/
theorem C32_call_ret_balanced (prog : List (Ann × Kind)) (s : CState) (b : Ann) (target : Nat)
    (hr : prog[target]? = some (b, .ret)) :
    Step prog { pc := target, frames := s.frames ++ [s.pc + 1] } { pc := s.pc + 1, frames := s.frames } :=
  Step.ret { pc := target, frames := s.frames ++ [s.pc + 1] } b s.frames (s.pc + 1) hr rfl

example : Step (instrs [.instr ⟨0, 1, 0⟩ .call, .instr ⟨0, 2, 0⟩ .ret]) { pc := 1, frames := [1] }
    { pc := 1, frames := [] } :=
  C32_call_ret_balanced _ { pc := 0, frames := [] } ⟨0, 2, 0⟩ 1 rfl

/-! Non-vacuity: a two-deep call chain across a label; the failing instruction (index 4, in the callee)
    is reported first, then the call site (index 1). -/
def exLines : List SLine :=
  [.instr ⟨0, 1, 0⟩ .other, .instr ⟨0, 2, 0⟩ .call, .instr ⟨0, 3, 0⟩ .other, .label,
   .instr ⟨1, 10, 1⟩ .other, .instr ⟨1, 11, 1⟩ .other, .instr ⟨1, 12, 1⟩ .ret]

theorem exReach : Reachable (instrs exLines) { pc := 4, frames := [2] } := by
  have h0 : Reachable (instrs exLines) { pc := 0, frames := [] } := .start 0
  have h1 : Reachable (instrs exLines) { pc := 1, frames := [] } :=
    .step _ _ h0 (Step.other { pc := 0, frames := [] } ⟨0, 1, 0⟩ 1 rfl)
  have h2 : Reachable (instrs exLines) { pc := 3, frames := [2] } :=
    .step _ _ h1 (Step.call { pc := 1, frames := [] } ⟨0, 2, 0⟩ 3 rfl)
  exact .step _ _ h2 (Step.other { pc := 3, frames := [2] } ⟨1, 10, 1⟩ 4 rfl)

example : errorLocations (build exLines) { pc := 4, frames := [2] }
    = [some ⟨1, 11, 1⟩, some ⟨0, 2, 0⟩] := rfl
example : ∃ a, (instrs exLines)[1]? = some (a, Kind.call) ∧
    (stackTrace (build exLines) { pc := 4, frames := [2] })[0]? = some (some a) :=
  C32_trace_frames exLines _ exReach 0 (by decide)

end Abra.SrcMap
