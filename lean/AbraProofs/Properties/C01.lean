import AbraProofs.Properties.C02
/-!
# C01 — accepted programs never hit an internal VM fault (instruction contracts; F0 corollary)

Model: `Abra.VM` (VMCore): every place where vm.rs would panic or read through a mistyped value is an explicit
`fault` outcome of `step`.

* `C01_step_safe` — instruction contracts: under `Pre i s` (what the instruction needs to find: enough operands
  with the tags it reads, a valid slot, a frame to return to, a heap object of the expected kind) `step` never
  faults: it yields a next state, a documented runtime error, or `done`.  One contract per modelled instruction
  (binary/unary operators in the operand form the unoptimised compiler emits: top, top, top).
* `C01_step_post_*` — what the step leaves (stack-height effect), stated for `Return` and `PushInt` only.
* `C01_compile_safe_F0` — generated code meets the contracts: for an F0 program (no condition on the operand depth at a
  `break`/`continue`: the compile model pops the pending operands before the jump, fix 0c43abd) whose reference
  evaluation finishes (value or documented error), no bounded run of the compiled code ends in a fault — a
  corollary of the C02 simulation and determinism of `step`.

-- OPEN: type soundness for the whole language (generics, closures, interfaces, heap data) is not proved; the
-- search over generated programs of all tiers and the repository corpus (harness c01) covers it.
-- OPEN: `C01_compile_safe_F0` for runs that do not terminate (needs a forward/coinductive simulation).
-/
namespace Abra.VM

/-- what instruction `i` needs in state `s` -/
def Pre (i : Instr Nat) (s : State) : Prop :=
  match i with
  | .pushNil _ | .pushInt _ | .pushBool _ | .pushStr _ | .pushAddr _ | .jump _ | .stop | .call _ _ => True
  | .pop | .dup | .constructVariant _ => s.stack ≠ []
  | .load o => ∃ k, slotIdx s.base o = some k ∧ k < s.stack.length
  | .store o => ∃ rest v k, s.stack = rest ++ [v] ∧ slotIdx s.base o = some k ∧ k < rest.length
  | .intOp _ d a b => d = .top ∧ a = .top ∧ b = .top ∧ ∃ rest x y, s.stack = rest ++ [.int x, .int y]
  | .intCmp _ d a b => d = .top ∧ a = .top ∧ b = .top ∧ ∃ rest x y, s.stack = rest ++ [.int x, .int y]
  | .eqBool d a b => d = .top ∧ a = .top ∧ b = .top ∧ ∃ rest x y, s.stack = rest ++ [.bool x, .bool y]
  | .not d a => d = .top ∧ a = .top ∧ ∃ rest x, s.stack = rest ++ [.bool x]
  | .jumpIf _ | .jumpIfFalse _ => ∃ rest b, s.stack = rest ++ [.bool b]
  | .callFuncObj _ => ∃ rest a t caps, s.stack = rest ++ [.struct_ a] ∧ s.heap[a]? = some (.struct_ (.addr t :: caps))
  | .ret n => s.stack ≠ [] ∧ n ≤ s.base ∧ s.base - n < s.stack.length ∧ ∃ fr frs, s.frames = fr :: frs ∧ fr.nargs ≤ s.base + 1
  | .retVoid => ∃ fr frs, s.frames = fr :: frs ∧ fr.nargs ≤ s.base
  | .panic => ∃ rest a msg, s.stack = rest ++ [.str a] ∧ s.heap[a]? = some (.str msg)
  | .constructStruct n => n ≤ s.stack.length
  | .makeClosure n => n + 1 ≤ s.stack.length
  | .deconstructStruct => ∃ rest a fs, s.stack = rest ++ [.struct_ a] ∧ s.heap[a]? = some (.struct_ fs)
  | .deconstructVariant => ∃ rest a tag v, s.stack = rest ++ [.variant a] ∧ s.heap[a]? = some (.variant tag v)
  | .getField k r => r = .top ∧ ∃ rest a fs, s.stack = rest ++ [.struct_ a] ∧ s.heap[a]? = some (.struct_ fs) ∧ k < fs.length
  | .print t => ∃ rest v txt, s.stack = rest ++ [v] ∧ renderVal t v = .ok txt

theorem pop?_ne_nil {l : List Val} (h : l ≠ []) : ∃ v r, pop? l = some (v, r) := by
  rcases List.eq_nil_or_concat l with rfl | ⟨r, v, rfl⟩
  · exact absurd rfl h
  · exact ⟨v, r, List.concat_eq_append ▸ pop?_snoc r v⟩

theorem pop?_append_pair (rest : List Val) (x y : Val) : pop? (rest ++ [x, y]) = some (y, rest ++ [x]) := by
  have : rest ++ [x, y] = (rest ++ [x]) ++ [y] := by simp
  rw [this]; exact pop?_snoc _ _

/-- **Instruction contracts**: under its precondition an instruction never faults. -/
theorem C01_step_safe (P : Program) (s : State) (i : Instr Nat) (hpc : P[s.pc]? = some i) (hpre : Pre i s) :
    ∀ f, VM.step P s ≠ .fault f := by
  intro f
  cases i with
  | pushNil _ | pushInt _ | pushBool _ | pushStr _ | pushAddr _ | jump _ | stop | call _ _ => simp [VM.step, hpc]
  | pop | dup | constructVariant _ =>
    obtain ⟨v, r, h⟩ := pop?_ne_nil hpre
    simp [VM.step, hpc, h]
  | load o =>
    obtain ⟨k, hk, hlt⟩ := hpre
    simp [VM.step, hpc, hk, List.getElem?_eq_getElem hlt]
  | store o =>
    obtain ⟨rest, v, k, hs, hk, hlt⟩ := hpre
    simp [VM.step, hpc, hs, hk, hlt]
  | intOp op d a b =>
    obtain ⟨rfl, rfl, rfl, rest, x, y, hs⟩ := hpre
    simp only [VM.step, hpc, hs, loadReg, pop?_append_pair, pop?_snoc, getInt, storeReg]
    cases I64.apply op.toI64 x y <;> simp
  | intCmp op d a b =>
    obtain ⟨rfl, rfl, rfl, rest, x, y, hs⟩ := hpre
    simp [VM.step, hpc, hs, loadReg, pop?_append_pair, getInt, storeReg]
  | eqBool d a b =>
    obtain ⟨rfl, rfl, rfl, rest, x, y, hs⟩ := hpre
    simp [VM.step, hpc, hs, loadReg, pop?_append_pair, getBool, storeReg]
  | not d a =>
    obtain ⟨rfl, rfl, rest, x, hs⟩ := hpre
    simp [VM.step, hpc, hs, loadReg, getBool, storeReg]
  | jumpIf t | jumpIfFalse t =>
    obtain ⟨rest, b, hs⟩ := hpre
    simp [VM.step, hpc, hs, getBool]
  | callFuncObj n =>
    obtain ⟨rest, a, t, caps, hs, ho⟩ := hpre
    simp [VM.step, hpc, hs, ho]
  | ret n =>
    obtain ⟨hne, h1, h2, fr, frs, hf, h3⟩ := hpre
    obtain ⟨v, r, h⟩ := pop?_ne_nil hne
    simp [VM.step, hpc, h, h1, h2, hf, h3]
  | retVoid =>
    obtain ⟨fr, frs, hf, h3⟩ := hpre
    simp [VM.step, hpc, hf, h3]
  | panic =>
    obtain ⟨rest, a, msg, hs, ho⟩ := hpre
    simp [VM.step, hpc, hs, ho]
  | constructStruct n | makeClosure n => simp [VM.step, hpc, splitLast, show _ ≤ s.stack.length from hpre]
  | deconstructStruct =>
    obtain ⟨rest, a, fs, hs, ho⟩ := hpre
    simp [VM.step, hpc, hs, ho]
  | deconstructVariant =>
    obtain ⟨rest, a, tag, v, hs, ho⟩ := hpre
    simp [VM.step, hpc, hs, ho]
  | getField k r =>
    obtain ⟨rfl, rest, a, fs, hs, ho, hk⟩ := hpre
    simp [VM.step, hpc, hs, loadReg, ho, List.getElem?_eq_getElem hk]
  | print t =>
    obtain ⟨rest, v, txt, hs, hr⟩ := hpre
    simp [VM.step, hpc, hs, hr]

/-- `Return` (contract + C23_return_restores): the step exists and the caller's frame is current again -/
theorem C01_step_post_ret (P : Program) (s : State) (n : Nat) (hpc : P[s.pc]? = some (.ret n)) (hpre : Pre (.ret n) s) :
    ∃ s' fr frs, VM.step P s = .ok s' ∧ s.frames = fr :: frs ∧ s'.frames = frs ∧ s'.base = fr.base ∧ s'.pc = fr.pc
      ∧ s'.stack.length ≤ s.base - fr.nargs + 1 := by
  obtain ⟨hne, h1, h2, fr, frs, hf, h3⟩ := hpre
  obtain ⟨v, r, h⟩ := pop?_ne_nil hne
  refine ⟨_, fr, frs, by simp [VM.step, hpc, h, h1, h2, hf, h3]; rfl, hf, rfl, rfl, rfl, ?_⟩
  simp
  omega

/-- stack-height effect of one instruction, `PushInt k`: it adds exactly `k` on top and advances the pc (the other
    instructions' effects are not stated as theorems) -/
theorem C01_step_post_push (P : Program) (s : State) (k : Int) (hpc : P[s.pc]? = some (.pushInt k)) :
    ∃ s', VM.step P s = .ok s' ∧ s'.stack = s.stack ++ [.int k] ∧ s'.pc = s.pc + 1 := by
  exact ⟨_, by simp [VM.step, hpc]; rfl, rfl, rfl⟩

end Abra.VM

namespace Abra.Compile
open Abra.Sem Abra.VM

/-- **Generated F0 code meets the contracts**: if the reference evaluation of an F0 program finishes (with a value or a
    documented runtime error), then no run of the compiled code, with any step bound, ends in an internal fault. -/
theorem C01_compile_safe_F0 (ss : Stmts) (code : Program) (fuel : Nat)
    (hc : compileMain ss = some code)
    (hfin : (∃ v h out, Sem.run fuel ⟨[], [], ss⟩ = .done v h out) ∨ (∃ k out, Sem.run fuel ⟨[], [], ss⟩ = .error k out)) :
    ∀ (m : Nat) (f : Fault), VM.run code m State.init ≠ .fault f := by
  intro m f hfault
  have hsim := C02_compile_correct_F0_program ss code fuel hc
  -- a terminal result of one bounded run is the result of every bound that does not run out of fuel, and the
  -- simulation gives a bounded run whose result is terminal and not a fault
  have key : ∀ n r, VM.run code n State.init = r → (∀ t, r ≠ .outOfFuel t) → r ≠ .fault f → False := by
    intro n r hrun hterm hnf
    rcases run_terminal_stable n m State.init r hrun hterm with h | ⟨t, h⟩
    · exact hnf (h.symm.trans hfault)
    · rw [h] at hfault; cases hfault
  rcases hfin with ⟨v, h, out, hr⟩ | ⟨k, out, hr⟩ <;> rw [hr] at hsim
  · obtain ⟨n, s, hrun, _⟩ := hsim; exact key n _ hrun nofun nofun
  · obtain ⟨n, s, hrun, _⟩ := hsim; exact key n _ hrun nofun nofun

/-- HISTORICAL (the translation scheme before 0c43abd; `compileMain` does not produce such code). D21 as a fault:
    the operand left behind by `break` has the wrong tag for the instruction that finally consumes it.
    `let r = 100 + { while true { let t = (true, …break…) }; 5 }` in the F0 instruction set:
    a bool is pushed, the loop is left, `AddInt` finds `[100, true, 5]`. -/
def d21FaultProg : Program :=
  [.pushNil 0, .pushInt 100, .pushBool true, .jump 4, .pushInt 5, .intOp .add .top .top .top, .stop]

theorem C01_depth_unsafe_fault : VM.run d21FaultProg 10 State.init = .fault .wrongType := by decide +kernel

/-! ### non-vacuity -/

example : Pre (.intOp .add .top .top .top) { State.init with stack := [.int 1, .int 2] } :=
  ⟨rfl, rfl, rfl, [], 1, 2, rfl⟩

example : Pre (.ret 1) { State.init with stack := [.int 7, .int 5, .int 9], base := 2, frames := [{ pc := 3, base := 0, nargs := 1 }] } :=
  ⟨by simp, by decide, by decide, _, _, rfl, by decide⟩

example : (compileMain loopExample).isSome = true ∧
    semOut (Sem.run 100 ⟨[], [], loopExample⟩) = some ["8\n"] := by
  refine ⟨by decide, by decide +kernel⟩

/-- the former D21 witness satisfies the hypotheses: accepted by the compile model, finishes in the reference -/
example : (compileMain d21Witness).isSome = true ∧ depthSafeSs 0 d21Witness = false ∧
    semOut (Sem.run 100 ⟨[], [], d21Witness⟩) = some ["105\n"] := by
  refine ⟨by decide, by decide, by decide +kernel⟩

end Abra.Compile
