import AbraProofs.Lemmas.Analysis
import AbraProofs.Lemmas.VMCore
import AbraModel.Sem
/-!
# C19 — lambdas capture values at creation, including for nested lambdas

* `C19_captures_complete` — on the model of the (repaired) capture analysis: `capturesOf params body` is exactly
  the set of variables that occur free in `body` — read anywhere in it, also only inside lambdas/tasks nested to
  any depth, and not bound by a parameter or local on the way (`FreeE`, an inductive reading that does not
  mention the analysis) — minus the function's own parameters and locals.  So a variable used only by an inner
  lambda is a capture of every enclosing lambda up to its binder (`C19_nested_capture`).
* `C19_closure_create`, `C19_closure_call`, `C19_closure_snapshot` — on the VM core: after
  `PushAddr f; LoadOffset o₁ … oₙ; MakeClosure n`, every later `CallFuncObj` on that closure starts the callee with
  locals `0 … n-1` equal to the values the slots held at creation, whatever was stored to the slots (or anywhere
  else) since: the closure object lives in the heap, which only grows.
* `C19_fresh_locals` — each invocation's other locals are the zeros pushed by its own `PushNil`;
  `C19_invocations_start_equal` — two calls of one closure object start from equal frames.
* `C19_fnref_captures_nothing`, `C19_mkref_captures_nothing`, `C19_fnref_call`, `C19_fnref_snapshot` — on the
  reference interpreter: a top-level function or a struct constructor used as a VALUE (`let f = twice`,
  `[twice, twice][1](4)`, `let mk = Pt`) is a function object with an empty environment, whatever is in scope where
  it is written; calling it is the direct call; a lambda that captured a variable holding it keeps that function
  when the variable is reassigned afterwards.
-/
namespace Abra.Analysis

/-- **The capture analysis is exact.** -/
theorem C19_captures_complete (ps : List Nat) (body : RExpr) (id : Nat) :
    id ∈ capturesOf ps body ↔ (FreeE id body ∧ ¬ id ∈ ps ∧ ¬ id ∈ localsE body) := by
  rw [capturesOf, mem_filter_not, usesE_iff]
  exact and_congr_right fun _ => and_comm

/-- A variable captured by an inner lambda, and bound by neither the enclosing lambda's parameters nor its
    locals, is captured by the enclosing lambda as well — stated for three places of the inner lambda in the enclosing
    body: the body itself, the initialiser of the first `let` of a block, the single operand of an operator.  (Any other
    place follows the same way from `C19_captures_complete` and the matching `FreeE` constructor; it is not stated here.) -/
theorem C19_nested_capture (ps1 ps2 : List Nat) (inner : RExpr) (id : Nat) (pre post : RStmts) (b : Nat)
    (h : id ∈ capturesOf ps2 inner) :
    let lamInner := RExpr.lam ps2 inner
    (¬ id ∈ ps1 → id ∈ capturesOf ps1 lamInner) ∧
    (¬ id ∈ ps1 → ¬ id ∈ localsE (.block (.cons (.let_ [b] lamInner) post)) →
        id ∈ capturesOf ps1 (.block (.cons (.let_ [b] lamInner) post))) ∧
    (¬ id ∈ ps1 → ¬ id ∈ localsE (.op (.cons lamInner .nil)) → id ∈ capturesOf ps1 (.op (.cons lamInner .nil))) := by
  have hfree : FreeE id (.lam ps2 inner) := by
    rw [C19_captures_complete] at h
    exact .lam h.1 h.2.1 h.2.2
  refine ⟨fun hp => ?_, fun hp hl => ?_, fun hp hl => ?_⟩
  · rw [C19_captures_complete]; exact ⟨hfree, hp, List.not_mem_nil⟩
  · rw [C19_captures_complete]; exact ⟨.block (.head (.let_ hfree)), hp, hl⟩
  · rw [C19_captures_complete]; exact ⟨.op (.head hfree), hp, hl⟩

end Abra.Analysis

namespace Abra.VM

/-- `PushAddr f; LoadOffset o₁ … oₙ; MakeClosure n` -/
def closureCode (f : Nat) (offs : List Int) : List (Instr Nat) :=
  [.pushAddr f] ++ offs.map .load ++ [.makeClosure offs.length]

def slotVal (s : State) (o : Int) : Option Val :=
  match slotIdx s.base o with
  | some k => s.stack[k]?
  | none => none

def CodeAt (P : Program) (pos : Nat) (c : List (Instr Nat)) : Prop :=
  ∀ i (h : i < c.length), P[pos + i]? = some c[i]

theorem CodeAt.append {P : Program} {pos : Nat} {a b : List (Instr Nat)} (h : CodeAt P pos (a ++ b)) :
    CodeAt P pos a ∧ CodeAt P (pos + a.length) b := by
  refine ⟨fun i hi => ?_, fun i hi => ?_⟩
  · rw [h i (List.length_append ▸ Nat.lt_add_right _ hi), List.getElem_append_left hi]
  · rw [Nat.add_assoc, h (a.length + i) (List.length_append ▸ Nat.add_lt_add_left hi _),
      List.getElem_append_right (Nat.le_add_right _ _)]
    simp only [Nat.add_sub_cancel_left]

theorem CodeAt.head {P : Program} {pos : Nat} {i : Instr Nat} {c : List (Instr Nat)} (h : CodeAt P pos (i :: c)) :
    P[pos]? = some i :=
  h 0 (Nat.succ_pos _)

theorem CodeAt.tail {P : Program} {pos : Nat} {i : Instr Nat} {c : List (Instr Nat)} (h : CodeAt P pos (i :: c)) :
    CodeAt P (pos + 1) c :=
  (CodeAt.append (a := [i]) h).2

theorem slotVal_push {s : State} {o : Int} {v : Val} (h : slotVal s o = some v) (pc : Nat) (t : List Val) :
    slotVal { s with pc := pc, stack := s.stack ++ t } o = some v := by
  unfold slotVal at h ⊢
  split at h
  · next k hk =>
    simp only [hk]
    rw [List.getElem?_append_left (List.getElem?_eq_some_iff.1 h).1, h]
  · cases h

theorem step_load {P : Program} {s : State} {o : Int} {v : Val} (hi : P[s.pc]? = some (.load o))
    (hv : slotVal s o = some v) : VM.step P s = .ok { s with pc := s.pc + 1, stack := s.stack ++ [v] } := by
  unfold slotVal at hv
  split at hv
  · next k hk => simp only [VM.step, hi, hk, hv]
  · cases hv

theorem loads_steps {P : Program} (offs : List Int) : ∀ (vals : List Val) (s : State),
    CodeAt P s.pc (offs.map .load) → offs.length = vals.length → (∀ p ∈ offs.zip vals, slotVal s p.1 = some p.2) →
    Steps P s { s with pc := s.pc + offs.length, stack := s.stack ++ vals } := by
  induction offs with
  | nil =>
    intro vals s _ hl _
    rw [List.length_eq_zero_iff.1 hl.symm, List.append_nil]
    exact .refl s
  | cons o offs ih =>
    intro vals s hc hl hv
    cases vals with
    | nil => cases hl
    | cons v vals =>
      have ih := ih vals { s with pc := s.pc + 1, stack := s.stack ++ [v] } hc.tail (Nat.succ.inj hl)
        fun p hp => slotVal_push (hv p (List.mem_cons_of_mem _ hp)) _ _
      rw [List.append_assoc, Nat.add_assoc, Nat.add_comm 1] at ih
      exact .cons (step_load hc.head (hv (o, v) List.mem_cons_self)) ih

theorem splitLast_append (l t : List Val) : splitLast (l ++ t) t.length = some (l, t) := by
  unfold splitLast
  rw [if_pos (by rw [List.length_append]; omega), List.length_append, Nat.add_sub_cancel,
    List.take_left' rfl, List.drop_left' rfl]

/-- **Creating a closure** snapshots the slots: the new heap object holds the code address and the values the
    slots `offs` have *now*. -/
theorem C19_closure_create (P : Program) (pos f : Nat) (offs : List Int) (vals : List Val) (s : State)
    (hcode : CodeAt P pos (closureCode f offs)) (hpc : s.pc = pos)
    (hvals : ∀ i (h : i < offs.length), slotVal s offs[i] = vals[i]? ∧ i < vals.length)
    (hlen : offs.length = vals.length) :
    Steps P s { s with pc := pos + offs.length + 2, stack := s.stack ++ [.struct_ s.heap.length],
                       heap := s.heap ++ [.struct_ (.addr f :: vals)] } := by
  subst hpc
  have hcode : CodeAt P s.pc (.pushAddr f :: (offs.map .load ++ [.makeClosure offs.length])) := hcode
  obtain ⟨hload, hmk⟩ := hcode.tail.append
  rw [List.length_map] at hmk
  have hzip : ∀ p ∈ offs.zip vals, slotVal s p.1 = some p.2 := fun p hp => by
    obtain ⟨i, hi, rfl⟩ := List.getElem_of_mem hp
    rw [List.length_zip, ← hlen, Nat.min_self] at hi
    rw [List.getElem_zip, (hvals i hi).1, List.getElem?_eq_getElem]
  have s0 : VM.step P s = .ok { s with pc := s.pc + 1, stack := s.stack ++ [.addr f] } := by
    simp only [VM.step, hcode.head]
  have smk : VM.step P { s with pc := s.pc + 1 + offs.length, stack := s.stack ++ [.addr f] ++ vals }
      = .ok { s with pc := s.pc + 1 + offs.length + 1, stack := s.stack ++ [.struct_ s.heap.length],
                     heap := s.heap ++ [.struct_ (.addr f :: vals)] } := by
    have hsplit : splitLast (s.stack ++ [.addr f] ++ vals) (offs.length + 1) = some (s.stack, .addr f :: vals) := by
      rw [List.append_assoc, hlen]; exact splitLast_append _ (_ :: vals)
    simp only [VM.step, hmk.head, hsplit]
  rw [show s.pc + 1 + offs.length + 1 = s.pc + offs.length + 2 by omega] at smk
  exact .cons s0 ((loads_steps offs vals _ hload hlen fun p hp => slotVal_push (hzip p hp) _ _).snoc smk)

/-- **Calling a closure**: the callee's frame starts with the captured values as locals `0 … n-1`. -/
theorem C19_closure_call (P : Program) (s : State) (k a f : Nat) (vals R : List Val)
    (hi : P[s.pc]? = some (.callFuncObj k)) (hstack : s.stack = R ++ [.struct_ a])
    (hobj : s.heap[a]? = some (.struct_ (.addr f :: vals))) :
    VM.step P s = .ok { s with pc := f, base := R.length, stack := R ++ vals,
                               frames := ({ pc := s.pc + 1, base := s.base, nargs := k } : Frame) :: s.frames } := by
  simp only [VM.step, hi, hstack, pop?_snoc, hobj]

/-- **Capture by value at creation.**  Create the closure in state `s`; let the program run arbitrarily
    (`hrun`: any number of steps, including stores to the captured slots); whenever it later calls that closure
    object, the callee starts with the values the slots had in `s`. -/
theorem C19_closure_snapshot (P : Program) (pos f : Nat) (offs : List Int) (vals : List Val) (s s1 s2 : State)
    (hcode : CodeAt P pos (closureCode f offs)) (hpc : s.pc = pos)
    (hvals : ∀ i (h : i < offs.length), slotVal s offs[i] = vals[i]? ∧ i < vals.length)
    (hlen : offs.length = vals.length)
    (hs1 : s1 = { s with pc := pos + offs.length + 2, stack := s.stack ++ [.struct_ s.heap.length],
                         heap := s.heap ++ [.struct_ (.addr f :: vals)] })
    (hrun : Steps P s1 s2) (k : Nat) (R : List Val)
    (hcall : P[s2.pc]? = some (.callFuncObj k)) (hstack : s2.stack = R ++ [.struct_ s.heap.length]) :
    Steps P s s1 ∧
    VM.step P s2 = .ok { s2 with pc := f, base := R.length, stack := R ++ vals,
                                 frames := ({ pc := s2.pc + 1, base := s2.base, nargs := k } : Frame) :: s2.frames } := by
  refine ⟨by rw [hs1]; exact C19_closure_create P pos f offs vals s hcode hpc hvals hlen, ?_⟩
  obtain ⟨ext, hext⟩ := steps_heap_prefix hrun
  have hobj : s2.heap[s.heap.length]? = some (.struct_ (.addr f :: vals)) := by
    rw [← hext, hs1, List.append_assoc, List.getElem?_append_right (Nat.le_refl _), Nat.sub_self]
    rfl
  exact C19_closure_call P s2 k s.heap.length f vals R hcall hstack hobj

/-- **Fresh locals per invocation**: the callee's `PushNil m` puts `m` zeros above the captures, whatever any
    earlier invocation left in its own (since discarded) frame. -/
theorem C19_fresh_locals (P : Program) (s : State) (m : Nat) (hi : P[s.pc]? = some (.pushNil m)) :
    VM.step P s = .ok { s with pc := s.pc + 1, stack := s.stack ++ List.replicate m (.int 0) } := by
  simp only [VM.step, hi]

/-- two invocations of one closure start from identical frames -/
theorem C19_invocations_start_equal (P : Program) (s s' : State) (k a f : Nat) (vals R R' : List Val)
    (hi : P[s.pc]? = some (.callFuncObj k)) (hi' : P[s'.pc]? = some (.callFuncObj k))
    (hstack : s.stack = R ++ [.struct_ a]) (hstack' : s'.stack = R' ++ [.struct_ a])
    (hobj : s.heap[a]? = some (.struct_ (.addr f :: vals))) (hobj' : s'.heap[a]? = some (.struct_ (.addr f :: vals))) :
    ∃ t t', VM.step P s = .ok t ∧ VM.step P s' = .ok t' ∧ t.pc = t'.pc ∧
      t.stack.drop t.base = t'.stack.drop t'.base := by
  refine ⟨_, _, C19_closure_call P s k a f vals R hi hstack hobj, C19_closure_call P s' k a f vals R' hi' hstack' hobj',
    rfl, ?_⟩
  -- both frames are `vals`
  exact (List.drop_left ..).trans (List.drop_left ..).symm

/-! ### non-vacuity -/

/-- `var m = 1; let fc = () -> m  [m in slot 0, fc in slot 1]; m = 100; fc()` -/
def demo : Program :=
  [.pushNil 2, .pushInt 1, .store 0] ++ closureCode 9 [0] ++ [.store 1, .pushInt 100, .store 0, .load 1, .callFuncObj 0,
   .stop, .ret 0]

example : VM.run demo 11 State.init
    = .outOfFuel { pc := 9, stack := [.int 100, .struct_ 0, .int 1], base := 2,
                   frames := [{ pc := 11, base := 0, nargs := 0 }], heap := [.struct_ [.addr 9, .int 1]], out := [] } := by
  decide +kernel

end Abra.VM

namespace Abra.Sem

/-- **A named function used as a value captures nothing**: its function object has the empty environment in every
    state (the real code: `PushAddr f; MakeClosure 0`). -/
theorem C19_fnref_captures_nothing (n : Nat) (P : Prog) (s : St) (f : String) (d : FnDef) (h : P.findFn f = some d) :
    evalE (n + 1) P s (.fnref f) = .ok (.clo d.params d.body []) s := by
  have : evalE (n + 1) P s (.fnref f) = match P.findFn f with
      | some d => .ok (.clo d.params d.body []) s
      | none => .stuck ("unknown function " ++ f) := rfl
  rw [this, h]

/-- the same for a struct name used as a value: the constructor function takes the fields in declaration order -/
theorem C19_mkref_captures_nothing (n : Nat) (P : Prog) (s : St) (name : String) (d : StructDef)
    (h : P.findStruct name = some d) :
    evalE (n + 1) P s (.mkref name)
      = .ok (.clo d.fields (.mkStruct name (Exprs.ofList (d.fields.map .var))) []) s := by
  have : evalE (n + 1) P s (.mkref name) = match P.findStruct name with
      | some d => .ok (.clo d.fields (.mkStruct name (Exprs.ofList (d.fields.map .var))) []) s
      | none => .stuck ("unknown struct " ++ name) := rfl
  rw [this, h]

/-- **Calling a named function through its value is the direct call**: for a callee written `fnref f` with `f` a
    declared function, the reference evaluation of `(fnref f)(args)` equals that of `f(args)` — same result, state and
    signals, for every fuel.  (A callee that first has to be computed, e.g. `fs[1]`, is covered by the concrete
    `C19_fnref_snapshot` only.) -/
theorem C19_fnref_call (n : Nat) (P : Prog) (s : St) (f : String) (args : Exprs) (d : FnDef)
    (h : P.findFn f = some d) :
    evalE (n + 1) P s (.callv (.fnref f) args) = evalE (n + 1) P s (.call f args) := by
  have hcall : evalE (n + 1) P s (.call f args) = match P.findFn f with
      | none => .stuck ("unknown function " ++ f)
      | some d => (evalEs n P s args).bind fun vs s1 =>
          match bindParams d.params vs [] with
          | none => .stuck "arity"
          | some env => callBody n P s1 env d.body := rfl
  have hcallv : evalE (n + 1) P s (.callv (.fnref f) args) = (evalEs n P s args).bind fun vs s1 =>
      (evalE n P s1 (.fnref f)).bind fun vf s2 =>
        match vf with
        | .clo ps body cenv =>
          match bindParams ps vs cenv with
          | none => .stuck "arity"
          | some env => callBody n P s2 env body
        | _ => .stuck "call of non-function" := rfl
  rw [hcall, hcallv, h]
  cases n with
  | zero => rfl
  | succ m =>
    -- the arguments are evaluated first on both sides; then `fnref f` yields the function object of `d`
    cases evalEs (m + 1) P s args with
    | ok vs s1 => simp only [Res.bind, C19_fnref_captures_nothing m P s1 f d h]
    | sig g s1 => rfl
    | timeout => rfl
    | stuck w => rfl

def fnrefDemo : Prog :=
  { structs := [{ name := "Pt", fields := ["x", "y"] }],
    fns := [{ name := "twice", params := ["a"], body := .bin .mul (.var "a") (.int 2) },
            { name := "inc", params := ["a"], body := .bin .add (.var "a") (.int 1) }],
    main := .nil }

/-- decidable projection of a result: the three integers of a result tuple -/
def intTriple : Res Val → Option (Int × Int × Int)
  | .ok (.tuple [.int a, .int b, .int c]) _ => some (a, b, c)
  | _ => none

/-- **Snapshot**: `var f = twice; let h = (a) -> f(a); f = inc; h(5)` is 10 (the lambda captured the function that
    `f` held when the lambda was created), while `f(5)` afterwards is 6; and `[twice, inc][1](4)` is 5. -/
theorem C19_fnref_snapshot :
    intTriple (evalE 20 fnrefDemo St.init (.block (Stmts.ofList [
        .let_ (.bind "f") (.fnref "twice"),
        .let_ (.bind "h") (.lam ["a"] (.callv (.var "f") (Exprs.ofList [.var "a"]))),
        .assign "f" .set (.fnref "inc"),
        .expr (.tuple (Exprs.ofList [.callv (.var "h") (Exprs.ofList [.int 5]), .callv (.var "f") (Exprs.ofList [.int 5]),
          .callv (.index (.array (Exprs.ofList [.fnref "twice", .fnref "inc"])) (.int 1)) (Exprs.ofList [.int 4])]))])))
      = some (10, 6, 5) := by
  decide +kernel

/-! non-vacuity of the hypotheses `findFn … = some …` / `findStruct … = some …` -/
example : fnrefDemo.findFn "twice" = some { name := "twice", params := ["a"], body := .bin .mul (.var "a") (.int 2) } := rfl
example : fnrefDemo.findStruct "Pt" = some { name := "Pt", fields := ["x", "y"] } := rfl

def heapSizeOf : Res Val → Option Nat
  | .ok (.ref _) s => some s.heap.size
  | _ => none
/- `Pt` as a value, called: allocates one struct -/
example : heapSizeOf (evalE 10 fnrefDemo St.init (.callv (.mkref "Pt") (Exprs.ofList [.int 1, .int 2]))) = some 1 := by
  decide +kernel

end Abra.Sem
